-- the engine and the line vocabulary, the relations on `env` and the obligations over regenerated tables, then the property files, each after the files it imports
import MistuneProofs.Engine.Spec
import MistuneProofs.Engine.Sound
import MistuneProofs.Engine.Analyses
import MistuneProofs.Engine.Eval
import MistuneProofs.Lines
import MistuneProofs.Engine.LineSub
import MistuneProofs.EnvRel
import MistuneProofs.EnvRelInline
import MistuneProofs.Oblig.Poly
import MistuneProofs.Oblig.Rules
import MistuneProofs.Oblig.Templates
import MistuneProofs.PluginsB
import MistuneProofs.C01AbbrKey
import MistuneProofs.C01Loops
import MistuneProofs.C01Plugins
import MistuneProofs.C03Partition
import MistuneProofs.C04Atx
import MistuneProofs.C05
import MistuneProofs.C01Progress
import MistuneProofs.C01ProgressPlugins
import MistuneProofs.C01ProgressDirectives
import MistuneProofs.C01ProgressList
import MistuneProofs.C05GrammarBase
import MistuneProofs.C05GrammarPre
import MistuneProofs.C05GrammarBlock
import MistuneProofs.C05GrammarBridge
import MistuneProofs.C05GrammarInline
import MistuneProofs.C05GrammarList
import MistuneProofs.C05Grammar
import MistuneProofs.C05GrammarAtx
import MistuneProofs.C05GrammarExamples
import MistuneProofs.C05Tight
import MistuneProofs.C08
import MistuneProofs.C09C10
import MistuneProofs.Oblig.Speedup
import MistuneProofs.C10InlineFrame
import MistuneProofs.C01ProgressInline
import MistuneProofs.C01ProgressDoc
import MistuneProofs.C10Inline
import MistuneProofs.C10InlineInst
import MistuneProofs.C11Codespan
import MistuneProofs.C11Fence
import MistuneProofs.C04AtxFire
import MistuneProofs.C04LeafDoc
import MistuneProofs.C11Indent
import MistuneProofs.C03ListClean
import MistuneProofs.C11Quote
import MistuneProofs.C12
import MistuneProofs.C13Code
import MistuneProofs.C13Quote
import MistuneProofs.C14
import MistuneProofs.C15
import MistuneProofs.C17
import MistuneProofs.C18
import MistuneProofs.C02Tmpl
import MistuneProofs.C02Doc
import MistuneProofs.C02Tags
import MistuneProofs.C06Balance
import MistuneProofs.C02Strip
import MistuneProofs.C06Leaf
import MistuneProofs.C16
import MistuneProofs.C16Doc
import MistuneProofs.C18Quote
import MistuneProofs.C02Url
import MistuneProofs.C18Unikey
import MistuneProofs.UnicodeSound
import MistuneProofs.Oblig.Unicode
import MistuneProofs.C12Refine
import MistuneProofs.C12RefineBlock
import MistuneProofs.C14Refine
import MistuneProofs.C14RefineInline
