/-
C01, the `abbr` plugin: in every genuine match of the regenerated rule `ref_abbr` (plugins/abbr.py) the group
`abbr_key` (`[^\]]+`) is non-empty, by the capture analyses `grpConsumes` and `grpAlways` of `Engine/Analyses`.
This is what makes the `process_text` loop of the plugin advance.

The inline progress theorems (`C01ProgressInline`) take the fact as the hypothesis `AbbrOk cfg env` on the `env`
they are given.  The lemma that would discharge it, `blockParse cfg … = .ok (_, env) → AbbrKeys env` (an `EnvRel`
instance: `parse_ref_abbr` stores only keys taken from `abbr_key`), is not proved; `abbrKey_nonempty` is its
regex half and nothing refers to it yet.
-/
import Mistune.Model.BlockDispatch
import MistuneProofs.Engine.Sound
import MistuneProofs.Engine.Analyses
namespace Mistune
namespace Model
open Mistune.Generated

/-- in every match of `r` (from a position inside a well-formed subject) the text of the named group is non-empty -/
theorem groupNamed_nonempty (cfg : MdCfg) (name : String) (idx : Nat) (hidx : cfg.groups.lookup name = some idx)
    (hne : idx ≠ 0) (r : Rx) (hc : r.grpConsumes idx = true) (ha : r.grpAlways idx = true)
    (x : RxCtx) (pos : Nat) (m : RxMatch) (hm : r.matchAt x pos = some m) (hpos : pos ≤ x.n)
    (hn : x.n ≤ x.s.size) : groupNamed cfg x.s m name ≠ [] := by
  obtain ⟨_, hs⟩ := matchAt_sound x r pos m hm
  have hsome := grpAlways_sound x idx r pos [] m.stop m.caps hs ha
  have hcap := matchAt_capOk x idx r pos m hm hc hpos
  cases hg : m.caps.get idx with
  | none => rw [hg] at hsome; cases hsome
  | some ab =>
    obtain ⟨a, b⟩ := ab
    obtain ⟨hab, hb⟩ := hcap a b hg
    have hi0 : (idx == 0) = false := by simpa using hne
    unfold groupNamed
    rw [hidx]
    simp only [Py.groupStr, RxMatch.group, hi0, Bool.false_eq_true, if_false, hg, Option.map_some, Option.getD_some,
      Py.slice]
    intro hnil
    have hlen : ((x.s.extract a b).toList).length = 0 := by rw [hnil]; rfl
    simp only [Array.length_toList, Array.size_extract] at hlen
    omega

/-- **the decidable obligation on the rule `ref_abbr`**: where the rule is registered, its group `abbr_key` lies on
every path of the regex and consumes at least one character -/
def abbrRuleOk (cfg : MdCfg) : Bool :=
  match cfg.blockSpec.lookup "ref_abbr" with
  | none => true
  | some r =>
    match cfg.groups.lookup "abbr_key" with
    | none => false
    | some idx => idx != 0 && r.grpConsumes idx && r.grpAlways idx

theorem allCfgs_abbrRuleOk : allCfgs.all (fun c => abbrRuleOk (ofRuleCfg c)) = true := by decide +kernel

/-- every genuine match of the regenerated `ref_abbr` rule has a non-empty `abbr_key` -/
theorem abbrKey_nonempty (cfg : MdCfg) (hok : abbrRuleOk cfg = true) (r : Rx)
    (hr : cfg.blockSpec.lookup "ref_abbr" = some r) (x : RxCtx) (pos : Nat) (m : RxMatch)
    (hm : r.matchAt x pos = some m) (hpos : pos ≤ x.n) (hn : x.n ≤ x.s.size) :
    groupNamed cfg x.s m "abbr_key" ≠ [] := by
  unfold abbrRuleOk at hok
  rw [hr] at hok
  dsimp only at hok
  cases hi : cfg.groups.lookup "abbr_key" with
  | none => rw [hi] at hok; cases hok
  | some idx =>
    rw [hi] at hok
    simp only [Bool.and_eq_true, bne_iff_ne, ne_eq] at hok
    exact groupNamed_nonempty cfg _ idx hi hok.1.1 r hok.1.2 hok.2 x pos m hm hpos hn

end Model
end Mistune
