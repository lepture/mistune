/-
C01 (progress and termination of the two scanner loops): generic theorems over ANY subject, ANY rule table whose
rules consume a character, and ANY handler table that satisfies the progress contract.  Both loops are instances
of one step equation (`blockLoop_succ`, `inlineLoop_succ`: the cursor after an iteration is `nextOr` of the
handler's answer and the loop's default); `C03Partition` reads the partition of the source off the same equations,
`C01Progress` proves the contract for the concrete model.
-/
import Mistune.Scanner
import MistuneProofs.Engine.Sound
import MistuneProofs.Engine.Analyses
namespace Mistune

/-- The events of one loop run form a chain: each iteration's match starts at or after the previous cursor and
the cursor moves strictly beyond the match start. -/
def EventChain : Nat → List ScanEvent → Prop
  | _, [] => True
  | cur, ev :: rest => cur ≤ ev.start ∧ ev.start < ev.cursor ∧ ev.start ≤ ev.stop ∧ EventChain ev.cursor rest

theorem scanAt_sound (x : RxCtx) (rules : List (String × Rx)) (pos : Nat) (name : String) (mt : RxMatch)
    (h : scanAt x rules pos = some (name, mt)) :
    ∃ r, (name, r) ∈ rules ∧ r.matchAt x pos = some mt := by
  induction rules with
  | nil => simp [scanAt] at h
  | cons p rest ih =>
    obtain ⟨nm, r⟩ := p
    simp only [scanAt] at h
    split at h
    · rename_i mt' hm
      simp only [Option.some.injEq, Prod.mk.injEq] at h
      obtain ⟨h1, h2⟩ := h
      subst h1; subst h2
      exact ⟨r, List.mem_cons_self, hm⟩
    · obtain ⟨r', hmem, hm⟩ := ih h
      exact ⟨r', List.mem_cons_of_mem _ hmem, hm⟩

theorem scanFrom_succ (x : RxCtx) (rules : List (String × Rx)) (fuel pos : Nat) :
    scanFrom x rules (fuel + 1) pos =
      if pos > x.n then none else (scanAt x rules pos).or (scanFrom x rules fuel (pos + 1)) := by
  rw [scanFrom]
  cases scanAt x rules pos <;> rfl

theorem scanFrom_sound (x : RxCtx) (rules : List (String × Rx)) :
    ∀ fuel pos name mt, scanFrom x rules fuel pos = some (name, mt) →
      ∃ q, pos ≤ q ∧ q ≤ x.n ∧ scanAt x rules q = some (name, mt) := by
  intro fuel pos name mt h
  obtain ⟨q, h1, h2, h3, _⟩ := firstFrom_some (fun _ => rfl) (scanFrom_succ x rules) fuel pos _ h
  exact ⟨q, h1, h2, h3⟩

/-- the scanner returns a span inside `[pos, endpos]` that the named rule's regex admits; with consuming rules
it is non-empty, hence starts strictly before `endpos` -/
theorem scan_sound (x : RxCtx) (rules : List (String × Rx)) (pos : Nat) (name : String) (mt : RxMatch)
    (h : scan x rules pos = some (name, mt)) :
    pos ≤ mt.start ∧ mt.start ≤ mt.stop ∧ mt.stop ≤ x.n ∧
    (∃ r, (name, r) ∈ rules ∧ Spec x r mt.start [] mt.stop mt.caps) ∧
    (rulesConsume rules = true → mt.start < mt.stop) := by
  unfold scan at h
  obtain ⟨q, hq1, hq2, hq3⟩ := scanFrom_sound x rules _ _ _ _ h
  obtain ⟨r, hmem, hm⟩ := scanAt_sound x rules q name mt hq3
  obtain ⟨hst, hspec⟩ := matchAt_sound x r q mt hm
  have hb := spec_bounds x r q [] mt.stop mt.caps hspec hq2
  rw [hst]
  refine ⟨hq1, hb.1, hb.2, ⟨r, hmem, hspec⟩, ?_⟩
  intro hc
  unfold rulesConsume at hc
  rw [List.all_eq_true] at hc
  have h1 := hc _ hmem
  simp only [decide_eq_true_eq] at h1
  exact nonempty_of_minLen x r q [] mt.stop mt.caps hspec h1

theorem lineEndFrom_bounds (x : RxCtx) : ∀ fuel pos, pos ≤ x.n →
    pos ≤ lineEndFrom x fuel pos ∧ lineEndFrom x fuel pos ≤ x.n := by
  intro fuel
  induction fuel with
  | zero => intro pos h; simp only [lineEndFrom]; omega
  | succ fuel ih =>
    intro pos h
    simp only [lineEndFrom]
    split
    · omega
    · split
      · omega
      · have := ih (pos + 1) (by omega)
        omega

theorem lineEndFrom_progress (x : RxCtx) (fuel pos : Nat) (h : pos < x.n) :
    pos < lineEndFrom x (fuel + 1) pos ∧ lineEndFrom x (fuel + 1) pos ≤ x.n := by
  simp only [lineEndFrom]
  split
  · omega
  · split
    · omega
    · have := lineEndFrom_bounds x fuel (pos + 1) (by omega)
      omega

/-- `find_line_end` moves forward whenever the cursor is inside the source -/
theorem lineEnd_progress (x : RxCtx) (pos : Nat) (h : pos < x.n) : pos < lineEnd x pos ∧ lineEnd x pos ≤ x.n := by
  unfold lineEnd
  have : x.n + 1 - pos = (x.n - pos) + 1 := by omega
  rw [this]
  exact lineEndFrom_progress x _ pos h


/-- the cursor after an iteration: the handler's answer if it is truthy, else the loop's default `d` -/
def nextOr (ret : Option Nat) (d : Nat) : Nat :=
  match ret with
  | some e => if e = 0 then d else e
  | none => d

theorem nextOr_gt {h : HandlerRet} (hc : ProgressContract h) (name : String) (mt : RxMatch) (d : Nat)
    (hd : mt.start < d) : mt.start < nextOr (h name mt) d := by
  unfold nextOr
  split
  · rename_i e he
    split
    · exact hd
    · rename_i hne
      exact hc name mt e he hne
  · exact hd

theorem blockLoop_succ (x : RxCtx) (rules : List (String × Rx)) (h : HandlerRet) (fuel cursor : Nat)
    (evs : List ScanEvent) :
    blockLoop x rules h (fuel + 1) cursor evs =
      if cursor < x.n then
        match scan x rules cursor with
        | none => .ok (evs, x.n)
        | some (name, mt) =>
          if nextOr (h name mt) (lineEnd x mt.start) ≤ cursor then .error .noProgress
          else blockLoop x rules h fuel (nextOr (h name mt) (lineEnd x mt.start))
            (evs ++ [{ rule := name, start := mt.start, stop := mt.stop, ret := h name mt,
                       cursor := nextOr (h name mt) (lineEnd x mt.start) }])
      else .ok (evs, cursor) := by
  rfl

theorem inlineLoop_succ (x : RxCtx) (rules : List (String × Rx)) (h : HandlerRet) (fuel pos : Nat)
    (evs : List ScanEvent) :
    inlineLoop x rules h (fuel + 1) pos evs =
      if pos < x.n then
        match scan x rules pos with
        | none => .ok (evs, pos)
        | some (name, mt) =>
          if nextOr (h name mt) (mt.start + 1) ≤ pos then .error .noProgress
          else inlineLoop x rules h fuel (nextOr (h name mt) (mt.start + 1))
            (evs ++ [{ rule := name, start := mt.start, stop := mt.stop, ret := h name mt,
                       cursor := nextOr (h name mt) (mt.start + 1) }])
      else .ok (evs, pos) := by
  rfl

/-- One induction for both scanner loops.  The loop is given by its step equation: `next` is the cursor after an
iteration, `stop` the final cursor when no rule matches any more.  When `next` moves beyond the match start, the loop
with enough fuel returns normally, its events form a chain from the initial cursor, and it ends at the last cursor it
reached (then beyond the source) or at `stop` of it. -/
theorem loop_total {x : RxCtx} {rules : List (String × Rx)} {h : HandlerRet}
    {loop : Nat → Nat → List ScanEvent → Except PyErr (List ScanEvent × Nat)}
    {next : String → RxMatch → Nat} {stop : Nat → Nat}
    (hstep : ∀ fuel cur evs, loop (fuel + 1) cur evs =
      if cur < x.n then
        match scan x rules cur with
        | none => .ok (evs, stop cur)
        | some (name, mt) =>
          if next name mt ≤ cur then .error .noProgress
          else loop fuel (next name mt)
            (evs ++ [{ rule := name, start := mt.start, stop := mt.stop, ret := h name mt, cursor := next name mt }])
      else .ok (evs, cur))
    (hnext : ∀ name mt, mt.start < x.n → mt.start < next name mt) (hstop : ∀ c, c < x.n → c ≤ stop c)
    (hr : rulesConsume rules = true) :
    ∀ fuel cur evs0, 1 ≤ fuel → x.n + 1 - cur ≤ fuel →
      ∃ evs fin, loop fuel cur evs0 = .ok (evs0 ++ evs, fin) ∧ EventChain cur evs ∧ cur ≤ fin ∧
        (x.n ≤ fin ∨ ∃ c, c < x.n ∧ fin = stop c) := by
  intro fuel
  induction fuel with
  | zero => intro cur evs0 h1; omega
  | succ fuel ih =>
    intro cur evs0 _ hf
    rw [hstep]
    split
    · rename_i hlt
      split
      · exact ⟨[], stop cur, by simp, trivial, hstop cur hlt, Or.inr ⟨cur, hlt, rfl⟩⟩
      · rename_i name mt hs
        obtain ⟨s1, s2, s3, _, s5⟩ := scan_sound x rules cur name mt hs
        have s5 := s5 hr
        have hcur := hnext name mt (by omega)
        generalize next name mt = cur' at hcur ⊢
        rw [if_neg (by omega)]
        obtain ⟨evs, fin, e1, e2, e3, e4⟩ := ih cur'
          (evs0 ++ [{ rule := name, start := mt.start, stop := mt.stop, ret := h name mt, cursor := cur' }])
          (by omega) (by omega)
        refine ⟨{ rule := name, start := mt.start, stop := mt.stop, ret := h name mt, cursor := cur' } :: evs, fin,
          ?_, ⟨s1, hcur, s2, e2⟩, by omega, e4⟩
        rw [e1]; simp
    · exact ⟨[], cur, by simp, trivial, Nat.le_refl _, Or.inl (by omega)⟩

/-- **C01 (block loop).** With consuming rules and handlers that satisfy the progress contract, the block
loop with fuel `endpos + 1 - cursor` never runs out of fuel and never stalls: it returns normally, its events
form a chain from the initial cursor, and the final cursor has reached the end of the source. -/
theorem blockLoop_total (x : RxCtx) (rules : List (String × Rx)) (h : HandlerRet)
    (hc : ProgressContract h) (hr : rulesConsume rules = true) (cursor : Nat) (hcur : cursor ≤ x.n) :
    ∃ evs fin, blockLoop x rules h (x.n + 1 - cursor) cursor [] = .ok (evs, fin) ∧
      EventChain cursor evs ∧ x.n ≤ fin := by
  obtain ⟨evs, fin, h1, h2, _, h4⟩ :=
    loop_total (stop := fun _ => x.n) (blockLoop_succ x rules h)
      (fun name mt hlt => nextOr_gt hc name mt _ (lineEnd_progress x mt.start hlt).1) (fun c hc => Nat.le_of_lt hc)
      hr (x.n + 1 - cursor) cursor [] (by omega) (Nat.le_refl _)
  refine ⟨evs, fin, by simpa using h1, h2, ?_⟩
  rcases h4 with h4 | ⟨c, _, rfl⟩
  · exact h4
  · exact Nat.le_refl _

/-- **C01 (inline loop).** Same for the inline loop (a declined rule advances by one character). -/
theorem inlineLoop_total (x : RxCtx) (rules : List (String × Rx)) (h : HandlerRet)
    (hc : ProgressContract h) (hr : rulesConsume rules = true) (pos : Nat) (hpos : pos ≤ x.n) :
    ∃ evs fin, inlineLoop x rules h (x.n + 1 - pos) pos [] = .ok (evs, fin) ∧
      EventChain pos evs ∧ pos ≤ fin := by
  obtain ⟨evs, fin, h1, h2, h3, _⟩ :=
    loop_total (stop := fun c => c) (inlineLoop_succ x rules h)
      (fun name mt _ => nextOr_gt hc name mt _ (Nat.lt_succ_self _))
      (fun c _ => Nat.le_refl c) hr (x.n + 1 - pos) pos [] (by omega) (Nat.le_refl _)
  exact ⟨evs, fin, by simpa using h1, h2, h3⟩

theorem blockLoop_iterations_aux (x : RxCtx) (rules : List (String × Rx)) (h : HandlerRet) :
    ∀ fuel cursor evs0 evs fin, blockLoop x rules h fuel cursor evs0 = .ok (evs, fin) →
      evs.length ≤ evs0.length + (x.n - cursor) := by
  intro fuel
  induction fuel with
  | zero => intro cursor evs0 evs fin hrun; simp [blockLoop] at hrun
  | succ fuel ih =>
    intro cursor evs0 evs fin hrun
    rw [blockLoop_succ] at hrun
    split at hrun
    · rename_i hlt
      split at hrun
      · cases hrun; omega
      · rename_i name mt hs
        generalize nextOr (h name mt) (lineEnd x mt.start) = cursor' at hrun
        split at hrun
        · cases hrun
        · rename_i hgt
          have := ih _ _ _ _ hrun
          simp only [List.length_append, List.length_cons, List.length_nil] at this
          omega
    · cases hrun; omega

/-- The number of iterations of either loop is at most the number of characters left. -/
theorem blockLoop_iterations (x : RxCtx) (rules : List (String × Rx)) (h : HandlerRet) (cursor : Nat)
    (evs : List ScanEvent) (fin : Nat) (fuel : Nat)
    (hrun : blockLoop x rules h fuel cursor [] = .ok (evs, fin)) : evs.length ≤ x.n - cursor := by
  have := blockLoop_iterations_aux x rules h fuel cursor [] evs fin hrun
  simpa using this

end Mistune
