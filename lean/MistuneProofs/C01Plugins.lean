/-
C01 (termination / progress), per-handler contract for the inline rules of the plugins
(`Mistune.Model.InlinePlugins`: formatting, url, math, speedup, spoiler, ruby) and the block rules of `math` / `speedup`
(`Mistune.Model.BlockPluginsA`).

The progress contract that the generic theorems of `C01Loops` need ("a truthy return value lies strictly after the
start of the trigger match") is proved for every inline rule, plugins included, in `C01ProgressInline`
(`parseMethod_good`).  This file states it for the plugin handlers as a specification of the handler itself, in the form

  the position returned by the handler is at or after the END of the trigger match      (`…_spec`, first part)

together with frame facts of the same handlers:

  a handler that declines (`None`) leaves the state untouched
  a handler leaves `src`, the matching context and the `in_*` flags as they are          (`Inl.Frame`)
  a handler only appends to `state.tokens` (and may write `env`)                         (`Inl.Extends`)

The last one holds for every handler that does not go through `inline.process_text`; for `url_link` (inside a link)
and speedup's `text`, which do, it holds when the plugin `abbr` is absent (its `process_text` takes a preceding text
token back and scans it again: the token list can change at its end).

`plugin_inline_progress` combines them at the dispatch `Inl.parseMethod`: for these rules the `noProgress` branch of
`Inl.parseLoop` (`p ≤ pos`) is unreachable as soon as the rule's pattern consumes a character (`allCfgs_consume`).
-/
import Mistune.Model.Inline
import Mistune.Model.BlockDispatch
import MistuneProofs.Engine.Sound
import MistuneProofs.Engine.Analyses
import MistuneProofs.EnvRelInline
namespace Mistune
open Model Model.Inl
open Model.Blk (Sat)

/-! ### the frame relations -/

/-- `st'` is `st` with tokens appended and possibly another `env`: same `src` and flags -/
def Inl.Extends (st st' : InlineState) : Prop :=
  ∃ (l : Array Json) (env : Json), st' = { st with tokens := st.tokens ++ l, env := env }

theorem Inl.Extends.refl (st : InlineState) : Inl.Extends st st := ⟨#[], st.env, by simp⟩

theorem Inl.Extends.append (st : InlineState) (t : Json) : Inl.Extends st (st.appendToken t) :=
  ⟨#[t], st.env, by simp [InlineState.appendToken]⟩

theorem Inl.Extends.setEnv (st : InlineState) (e : Json) : Inl.Extends st { st with env := e } :=
  ⟨#[], e, by simp⟩

theorem Inl.Extends.trans {a b c : InlineState} (h1 : Inl.Extends a b) (h2 : Inl.Extends b c) : Inl.Extends a c := by
  obtain ⟨l1, e1, rfl⟩ := h1
  obtain ⟨l2, e2, rfl⟩ := h2
  exact ⟨l1 ++ l2, e2, by simp [Array.append_assoc]⟩

/-- `st'` has the subject and the flags of `st` (tokens and `env` are free) -/
structure Inl.Frame (st st' : InlineState) : Prop where
  src : st'.src = st.src
  x : st'.x = st.x
  inImage : st'.inImage = st.inImage
  inLink : st'.inLink = st.inLink
  inEmphasis : st'.inEmphasis = st.inEmphasis
  inStrong : st'.inStrong = st.inStrong

theorem Inl.Frame.refl (st : InlineState) : Inl.Frame st st := ⟨rfl, rfl, rfl, rfl, rfl, rfl⟩

theorem Inl.Frame.trans {a b c : InlineState} (h1 : Inl.Frame a b) (h2 : Inl.Frame b c) : Inl.Frame a c :=
  ⟨h2.src.trans h1.src, h2.x.trans h1.x, h2.inImage.trans h1.inImage, h2.inLink.trans h1.inLink,
   h2.inEmphasis.trans h1.inEmphasis, h2.inStrong.trans h1.inStrong⟩

theorem Inl.Extends.frame {st st' : InlineState} (h : Inl.Extends st st') : Inl.Frame st st' := by
  obtain ⟨l, e, rfl⟩ := h
  exact ⟨rfl, rfl, rfl, rfl, rfl, rfl⟩

theorem Inl.Frame.append (st : InlineState) (t : Json) : Inl.Frame st (st.appendToken t) :=
  (Inl.Extends.append st t).frame

/-- `renderChildren` hands the handler's own state back, with the `env` the children left -/
theorem renderChildren_ext (R : Rec) (child st : InlineState) :
    Sat (fun cs => Inl.Extends st cs.2) (renderChildren R child st) := by
  unfold renderChildren Rec.renderIn
  exact Sat.bind_all (fun c => Sat.pure (Inl.Extends.setEnv _ _))

/-! ### `inline.process_text` (the method of `InlineParser`, or the function of the plugin `abbr`) -/

theorem processTextC_frame (cfg : MdCfg) (text : Str) (st : InlineState) :
    Sat (Inl.Frame st) (processTextC cfg text st) :=
  processTextC_tokens cfg text st (fun _ _ h => ⟨h.src, h.x, h.inImage, h.inLink, h.inEmphasis, h.inStrong⟩)
    (Inl.Frame.refl st)

/-- without the plugin `abbr`, `process_text` appends one text token -/
theorem processTextC_ext (cfg : MdCfg) (text : Str) (st : InlineState)
    (hab : (cfg.blockSpec.lookup "ref_abbr").isSome = false) : Sat (Inl.Extends st) (processTextC cfg text st) := by
  unfold processTextC
  rw [hab]
  exact Sat.ok (Inl.Extends.append _ _)

theorem processTextC_spec (cfg : MdCfg) (text : Str) (st : InlineState) :
    Sat (fun s => Inl.Frame st s ∧ ((cfg.blockSpec.lookup "ref_abbr").isSome = false → Inl.Extends st s))
      (processTextC cfg text st) :=
  fun s hs => ⟨processTextC_frame cfg text st s hs, fun hab => processTextC_ext cfg text st hab s hs⟩

/-! ### what a handler guarantees -/

/-- the handler returns a position from `e` on or declines, a declined call leaves the state as it was, and the state
is only extended -/
def Inl.Span (e : Nat) (st : InlineState) (res : Option Nat × InlineState) : Prop :=
  (∀ p, res.1 = some p → e ≤ p) ∧ (res.1 = none → res.2 = st) ∧ Inl.Extends st res.2

theorem Inl.Span.declined (e : Nat) (st : InlineState) : Inl.Span e st (none, st) :=
  ⟨fun p hp => (by cases hp), fun _ => rfl, Inl.Extends.refl _⟩

/-- a handler that accepts at `p`, not before `e` -/
theorem Inl.Span.accept {e p : Nat} {st : InlineState} {res : Option Nat × InlineState} (hp : e ≤ p)
    (h : res.1 = some p ∧ Inl.Extends st res.2) : Inl.Span e st res :=
  ⟨fun q hq => (by rw [h.1] at hq; cases hq; exact hp), fun hn => (by rw [h.1] at hn; cases hn), h.2⟩

/-- the end of the handlers that render children: they accept at `p`, and one token, built from the children, is
appended to the state that `renderChildren` hands back -/
theorem renderChildren_tok (R : Rec) (child st : InlineState) (p : Nat) (mk : Array Json → Json) :
    Sat (fun res => res.1 = some p ∧ Inl.Extends st res.2)
      (renderChildren R child st >>= fun cs => pure (some p, cs.2.appendToken (mk cs.1))) :=
  Sat.bind (renderChildren_ext R child st) (fun _ he => Sat.pure ⟨rfl, he.trans (Inl.Extends.append _ _)⟩)

/-! ### `_parse_to_end` (strikethrough, mark, insert) -/

/-- `_parse_to_end`: an accepted span ends at or after the end of the opening delimiter, a declined one leaves the
state as it was, and the state is only extended -/
theorem parseToEnd_spec (R : Rec) (ty : String) (re : Rx) (m : RxMatch) (st : InlineState) (r : Option Nat)
    (st' : InlineState) (h : parseToEnd R ty re m st = .ok (r, st')) :
    (∀ p, r = some p → m.stop ≤ p) ∧ (r = none → st' = st) ∧ Inl.Extends st st' := by
  refine (?_ : Sat (Inl.Span m.stop st) (parseToEnd R ty re m st)) (r, st') h
  unfold parseToEnd
  extract_lets pos
  split
  · exact Sat.pure (.declined _ _)
  · rename_i m1 hm1
    have hs := search_sound st.x re m.stop m1 hm1
    exact (renderChildren_tok R _ st m1.stop (fun c => tok ty [("children", .arr c.toList)])).mono
      (fun _ => Inl.Span.accept (by omega))

/-! ### handlers that always accept at `m.end()` -/

theorem parseScript_spec (R : Rec) (ty : String) (m : RxMatch) (st : InlineState) :
    Sat (fun res => res.1 = some m.stop ∧ Inl.Extends st res.2) (parseScript R ty m st) := by
  unfold parseScript
  exact renderChildren_tok R _ st m.stop (fun c => tok ty [("children", .arr c.toList)])

theorem parseInlineSpoiler_spec (cfg : MdCfg) (R : Rec) (m : RxMatch) (st : InlineState) :
    Sat (fun res => res.1 = some m.stop ∧ Inl.Extends st res.2) (parseInlineSpoiler cfg R m st) := by
  unfold parseInlineSpoiler
  exact renderChildren_tok R _ st m.stop (fun c => tok "inline_spoiler" [("children", .arr c.toList)])

/-- `parse_url_link` accepts at `m.end()`; inside a link it goes through `process_text` -/
theorem parseUrlLink_spec (cfg : MdCfg) (m : RxMatch) (st : InlineState) :
    Sat (fun res => res.1 = some m.stop ∧ Inl.Frame st res.2 ∧
        ((cfg.blockSpec.lookup "ref_abbr").isSome = false → Inl.Extends st res.2)) (parseUrlLink cfg m st) := by
  unfold parseUrlLink
  refine Sat.ite ?_ (Sat.bind_all (fun u => Sat.pure ⟨rfl, Inl.Frame.append _ _, fun _ => Inl.Extends.append _ _⟩))
  exact Sat.bind (processTextC_spec _ _ _) (fun s hs => Sat.pure ⟨rfl, hs.1, hs.2⟩)

theorem parseInlineMath_spec (cfg : MdCfg) (m : RxMatch) (st : InlineState) :
    Sat (fun res => res.1 = some m.stop ∧ Inl.Extends st res.2) (parseInlineMath cfg m st) :=
  Sat.ok ⟨rfl, Inl.Extends.append _ _⟩

/-- speedup's `parse_text` accepts at `m.end()` and goes through `process_text` -/
theorem parseText_spec (cfg : MdCfg) (m : RxMatch) (st : InlineState) :
    Sat (fun res => res.1 = some m.stop ∧ Inl.Frame st res.2 ∧
        ((cfg.blockSpec.lookup "ref_abbr").isSome = false → Inl.Extends st res.2)) (parseText cfg m st) := by
  unfold parseText
  exact Sat.bind (processTextC_spec _ _ _) (fun s hs => Sat.pure ⟨rfl, hs.1, hs.2⟩)

/-! ### positions returned by the link helpers (helpers.py) -/

theorem parseLinkHref_ge (cfg : MdCfg) (x : RxCtx) (startPos : Nat) (block : Bool) :
    Sat (fun o => ∀ href p, o = some (href, p) → startPos ≤ p + 1) (parseLinkHref cfg x startPos block) := by
  unfold parseLinkHref
  split
  · rename_i m hm
    have := matchAt_le _ _ _ _ hm
    dsimp only
    split
    · rename_i m2 hm2
      have := matchAt_le _ _ _ _ hm2
      exact Sat.ok (fun _ _ h => by cases h; omega)
    · exact Sat.ok (fun _ _ h => by cases h)
  · dsimp only
    split
    · exact Sat.ok (fun _ _ h => by cases h)
    · rename_i m hm
      have hge : startPos ≤ m.stop := by
        split at hm
        · exact (matchAt_le _ _ _ _ hm).2
        · exact (matchAt_le _ _ _ _ hm).2
      refine Sat.ite ?_ (Sat.pure (fun _ _ h => by cases h; omega))
      -- a block destination: `src[end_pos - 1]` and `href[-1]` may raise; either way the end is `end_pos` or one before
      refine Sat.bind_all (fun c => ?_)
      split <;>
        exact Sat.bind_all (fun l =>
          Sat.ite (Sat.pure (fun _ _ h => by cases h; omega)) (Sat.pure (fun _ _ h => by cases h; omega)))

theorem parseLinkTitle_ge (cfg : MdCfg) (x : RxCtx) (sp mp : Nat) (t : Str) (p : Nat)
    (h : parseLinkTitle cfg x sp mp = some (t, p)) : sp ≤ p := by
  unfold parseLinkTitle at h
  split at h
  · rename_i m hm
    have := matchAt_le _ _ _ _ hm
    cases h
    omega
  · cases h

theorem parseLinkLabel_ge (cfg : MdCfg) (x : RxCtx) (sp : Nat) (l : Str) (p : Nat)
    (h : parseLinkLabel cfg x sp = some (l, p)) : sp ≤ p := by
  unfold parseLinkLabel at h
  split at h
  · rename_i m hm
    have := matchAt_le _ _ _ _ hm
    cases h
    omega
  · cases h

theorem parseLinkH_ge (cfg : MdCfg) (x : RxCtx) (pos : Nat) :
    Sat (fun o => ∀ attrs e, o = some (attrs, e) → pos ≤ e + 1) (parseLinkH cfg x pos) := by
  unfold parseLinkH
  refine Sat.bind (parseLinkHref_ge cfg x pos false) (fun o ho => ?_)
  cases o with
  | none => exact Sat.pure (fun _ _ h => by cases h)
  | some hp =>
    have h1 := ho _ _ rfl
    dsimp only
    split
    · exact Sat.pure (fun _ _ h => by cases h)
    · rename_i m hm
      have h2 := matchAt_le _ _ _ _ hm
      have h3 : hp.2 ≤ m.stop := by
        refine Nat.le_trans ?_ h2.2
        split
        · rename_i t tp ht
          have := parseLinkTitle_ge _ _ _ _ _ _ ht
          split <;> omega
        · omega
      exact Sat.bind_all (fun url => Sat.pure (fun _ _ h => by cases h; omega))

/-! ### ruby -/

theorem foldl_appendToken_extends (l : List Json) (st : InlineState) :
    Inl.Extends st (l.foldl (fun s t => s.appendToken t) st) := by
  induction l generalizing st with
  | nil => exact Inl.Extends.refl _
  | cons t l ih => exact Inl.Extends.trans (Inl.Extends.append st t) (ih _)

/-- the `while True` loop of `parse_ruby` ends at or after the end of the first group and only appends tokens -/
theorem rubyLoop_spec (cfg : MdCfg) : ∀ (fuel : Nat) (m : RxMatch) (st : InlineState),
    Sat (fun res => m.stop ≤ res.2.1 ∧ Inl.Extends st res.2.2) (rubyLoop cfg fuel m st) := by
  intro fuel
  induction fuel with
  | zero => intro m st; unfold rubyLoop; exact Sat.err
  | succ fuel ih =>
    intro m st
    unfold rubyLoop
    refine Sat.bind_all (fun tokens => ?_)
    dsimp only
    split
    · exact Sat.pure ⟨Nat.le_refl _, Inl.Extends.refl _⟩
    · rename_i next hnext
      have h1 := matchAt_le _ _ _ _ hnext
      exact (ih _ _).mono (fun a ha => ⟨by have := ha.1; omega, (foldl_appendToken_extends _ _).trans ha.2⟩)

/-- `_parse_ruby_link`: a link position is at or after `pos`; a declined tail leaves the state untouched -/
theorem parseRubyLink_spec (cfg : MdCfg) (st : InlineState) (pos : Nat) (tokens : List Json) :
    Sat (Inl.Span pos st) (parseRubyLink cfg st pos tokens) := by
  unfold parseRubyLink
  refine Sat.bind_all (fun c => Sat.ite ?_ (Sat.ite ?_ (Sat.pure (.declined _ _))))
  · -- `[text](url)`
    refine Sat.bind (parseLinkH_ge cfg st.x (pos + 1)) (fun o ho => ?_)
    cases o with
    | none => exact Sat.pure (.declined _ _)
    | some al =>
      have := ho _ _ rfl
      exact Sat.ite (Sat.pure (Inl.Span.accept (by omega) ⟨rfl, Inl.Extends.append _ _⟩)) (Sat.pure (.declined _ _))
  · -- `[text][label]`: the reference is looked up in `env["ref_links"]`: a link token, or the tokens and the bracketed
    -- label as text
    split
    · rename_i label linkPos hl
      have := parseLinkLabel_ge _ _ _ _ _ hl
      refine Sat.ite ?_ (Sat.pure (.declined _ _))
      extract_lets key env?
      clear_value env?
      have htext : Inl.Span pos st (some linkPos, (tokens.foldl (fun s t => s.appendToken t) st).appendToken
          (textTok (['['] ++ label ++ [']']))) :=
        Inl.Span.accept (by omega) ⟨rfl, (foldl_appendToken_extends _ _).trans (Inl.Extends.append _ _)⟩
      cases env? with
      | none => exact Sat.pure htext
      | some env =>
        refine Sat.ite ?_ (Sat.pure htext)
        cases env.get? "url" <;>
          exact Sat.bind_all (fun u => Sat.pure (Inl.Span.accept (by omega) ⟨rfl, Inl.Extends.append _ _⟩))
    · exact Sat.pure (.declined _ _)

/-- `parse_ruby` never declines, returns a position at or after `m.end()` and only appends tokens -/
theorem parseRuby_spec (cfg : MdCfg) (m : RxMatch) (st : InlineState) (r : Option Nat) (st' : InlineState)
    (h : parseRuby cfg m st = .ok (r, st')) : (∃ p, r = some p ∧ m.stop ≤ p) ∧ Inl.Extends st st' := by
  refine (?_ : Sat (fun res => (∃ p, res.1 = some p ∧ m.stop ≤ p) ∧ Inl.Extends st res.2) (parseRuby cfg m st))
    (r, st') h
  unfold parseRuby
  refine Sat.bind (rubyLoop_spec cfg _ m st) ?_
  rintro ⟨tokens, endPos, st1⟩ ⟨h1, h2⟩
  dsimp -zeta only at h1 h2 ⊢
  extract_lets jp
  -- after the link tail, which returned a position from `endPos` on or declined
  have hjp : ∀ x, Inl.Span endPos st1 x →
      Sat (fun res => (∃ p, res.1 = some p ∧ m.stop ≤ p) ∧ Inl.Extends st res.2) (jp x) := by
    rintro ⟨linkPos, st2⟩ h3
    unfold jp
    split
    · rename_i ht
      cases linkPos with
      | none => exact absurd ht Bool.false_ne_true
      | some p => exact Sat.pure ⟨⟨p, rfl, Nat.le_trans h1 (h3.1 p rfl)⟩, h2.trans h3.2.2⟩
    · exact Sat.pure ⟨⟨endPos, rfl, h1⟩, h2.trans (h3.2.2.trans (foldl_appendToken_extends _ _))⟩
  clear_value jp
  exact Sat.ite (Sat.bind (parseRubyLink_spec cfg st1 endPos tokens) hjp) (hjp _ (.declined _ _))

/-! ### at the dispatch -/

/-- the contract of one handler call: position, decline, frame -/
def Inl.Contract (m : RxMatch) (st : InlineState) (r : Option Nat) (st' : InlineState) : Prop :=
  (∀ p, r = some p → m.stop ≤ p) ∧ (r = none → st' = st) ∧ Inl.Frame st st'

theorem Inl.Contract.ofAccept {m : RxMatch} {st : InlineState} {r : Option Nat} {st' : InlineState}
    (h : r = some m.stop ∧ Inl.Frame st st') : Inl.Contract m st r st' := by
  obtain ⟨rfl, he⟩ := h
  exact ⟨fun p hp => (by cases hp; exact Nat.le_refl _), fun hn => (by cases hn), he⟩

/-- the plugin rules whose handlers are covered by `plugin_inline_contract`: every inline rule that
`Mistune.Model.InlinePlugins` transcribes -/
def provedPluginRules : List String :=
  ["strikethrough", "mark", "insert", "superscript", "subscript", "url_link", "inline_math", "text", "inline_spoiler",
   "ruby"]

/-- what each of the ten handlers guarantees at the dispatch: the contract, and that it only appends (for `url_link`
and `text`: when `abbr` is absent) -/
theorem plugin_inline_spec (cfg : MdCfg) (R : Rec) (name : String) (m : RxMatch) (st : InlineState)
    (r : Option Nat) (st' : InlineState) (hn : name ∈ provedPluginRules)
    (h : Inl.parseMethod cfg R name m st = .ok (r, st')) :
    Inl.Contract m st r st' ∧
      ((name = "url_link" ∨ name = "text" → (cfg.blockSpec.lookup "ref_abbr").isSome = false) → Inl.Extends st st') := by
  unfold Inl.parseMethod at h
  split at h
  · cases h
  · simp only [provedPluginRules, List.mem_cons, List.not_mem_nil, or_false] at hn
    rcases hn with rfl | rfl | rfl | rfl | rfl | rfl | rfl | rfl | rfl | rfl
    · have := parseToEnd_spec _ _ _ _ _ _ _ h; exact ⟨⟨this.1, this.2.1, this.2.2.frame⟩, fun _ => this.2.2⟩
    · have := parseToEnd_spec _ _ _ _ _ _ _ h; exact ⟨⟨this.1, this.2.1, this.2.2.frame⟩, fun _ => this.2.2⟩
    · have := parseToEnd_spec _ _ _ _ _ _ _ h; exact ⟨⟨this.1, this.2.1, this.2.2.frame⟩, fun _ => this.2.2⟩
    · have := parseScript_spec _ _ _ _ (r, st') h; exact ⟨Inl.Contract.ofAccept ⟨this.1, this.2.frame⟩, fun _ => this.2⟩
    · have := parseScript_spec _ _ _ _ (r, st') h; exact ⟨Inl.Contract.ofAccept ⟨this.1, this.2.frame⟩, fun _ => this.2⟩
    · have := parseUrlLink_spec _ _ _ (r, st') h
      exact ⟨Inl.Contract.ofAccept ⟨this.1, this.2.1⟩, fun hab => this.2.2 (hab (Or.inl rfl))⟩
    · have := parseInlineMath_spec _ _ _ (r, st') h; exact ⟨Inl.Contract.ofAccept ⟨this.1, this.2.frame⟩, fun _ => this.2⟩
    · have := parseText_spec _ _ _ (r, st') h
      exact ⟨Inl.Contract.ofAccept ⟨this.1, this.2.1⟩, fun hab => this.2.2 (hab (Or.inr rfl))⟩
    · have := parseInlineSpoiler_spec _ _ _ _ (r, st') h
      exact ⟨Inl.Contract.ofAccept ⟨this.1, this.2.frame⟩, fun _ => this.2⟩
    · obtain ⟨⟨p, rfl, hp⟩, he⟩ := parseRuby_spec _ _ _ _ _ h
      exact ⟨⟨fun q hq => (by cases hq; exact hp), fun hn => (by cases hn), he.frame⟩, fun _ => he⟩

/-- Every call `self._methods[name](m, state)` of a plugin rule of `provedPluginRules` that returns normally
returns a position at or after `m.end()` (or `None`, and then the state is untouched), and leaves the subject and
the flags of the state as they are. -/
theorem plugin_inline_contract (cfg : MdCfg) (R : Rec) (name : String) (m : RxMatch) (st : InlineState)
    (r : Option Nat) (st' : InlineState) (hn : name ∈ provedPluginRules)
    (h : Inl.parseMethod cfg R name m st = .ok (r, st')) : Inl.Contract m st r st' :=
  (plugin_inline_spec cfg R name m st r st' hn h).1

/-- The same calls only append to `state.tokens` (and may write `env`): unconditionally for the rules that do not go
through `inline.process_text`, and for `url_link` / `text` when the plugin `abbr` is not installed. -/
theorem plugin_inline_appends (cfg : MdCfg) (R : Rec) (name : String) (m : RxMatch) (st : InlineState)
    (r : Option Nat) (st' : InlineState) (hn : name ∈ provedPluginRules)
    (hab : name = "url_link" ∨ name = "text" → (cfg.blockSpec.lookup "ref_abbr").isSome = false)
    (h : Inl.parseMethod cfg R name m st = .ok (r, st')) : Inl.Extends st st' :=
  (plugin_inline_spec cfg R name m st r st' hn h).2 hab

/-- the progress contract of `C01Loops` for the plugin rules: when the trigger match is non-empty (every rule
of every regenerated configuration consumes a character: obligation `allCfgs_consume`), a truthy return value lies
strictly after the match start, so the scanner loop `Inl.parseLoop`, whose cursor is `≤ m.start`, advances. -/
theorem plugin_inline_progress (cfg : MdCfg) (R : Rec) (name : String) (m : RxMatch) (st : InlineState)
    (p : Nat) (st' : InlineState) (hn : name ∈ provedPluginRules) (hm : m.start < m.stop)
    (h : Inl.parseMethod cfg R name m st = .ok (some p, st')) : m.start < p := by
  have := (plugin_inline_contract cfg R name m st _ st' hn h).1 p rfl
  omega

/-! ### non-vacuity: concrete calls (kernel-evaluated on the regenerated configuration `only-strikethrough`) -/

section Examples
open Generated

private def exCfg : MdCfg := ofRuleCfg cfg_only_strikethrough
private def exM : RxMatch := { start := 0, stop := 2, caps := [] }
private def exSt (s : String) : InlineState := (InlineState.new (.obj [])).setSrc s.toList

private theorem exAccept : (match Inl.parseMethod exCfg (recAt exCfg 3) "strikethrough" exM (exSt "~~a~~") with
    | .ok (some p, st') => p == 5 && st'.tokens.size == 1 | _ => false) = true := by decide +kernel

/-- `~~a~~`: the handler of `strikethrough` accepts (the hypotheses of `plugin_inline_progress` hold) … -/
example : ∃ p st', Inl.parseMethod exCfg (recAt exCfg 3) "strikethrough" exM (exSt "~~a~~") = .ok (some p, st') ∧
    "strikethrough" ∈ provedPluginRules ∧ exM.start < exM.stop := by
  have h := exAccept
  generalize Inl.parseMethod exCfg (recAt exCfg 3) "strikethrough" exM (exSt "~~a~~") = res at h ⊢
  match res, h with
  | .ok (some p, st'), _ => exact ⟨p, st', rfl, by decide, by decide⟩

/-- … and returns 5 = `len("~~a~~")`, with one token appended -/
example : (match Inl.parseMethod exCfg (recAt exCfg 3) "strikethrough" exM (exSt "~~a~~") with
    | .ok (some p, st') => p == 5 && st'.tokens.size == 1 | _ => false) = true := exAccept

/-- `~~a`: no closing delimiter, the handler declines (`None`) -/
example : (match Inl.parseMethod exCfg (recAt exCfg 3) "strikethrough" exM (exSt "~~a") with
    | .ok (none, st') => st'.tokens.size == 0 | _ => false) = true := by decide +kernel

/-- a rule that the configuration does not have is not bound: `KeyError` (the contract is about normal returns) -/
example : (match Inl.parseMethod exCfg (recAt exCfg 3) "mark" exM (exSt "==a==") with
    | .error .keyError => true | _ => false) = true := by decide +kernel

/-- the hypothesis of `plugin_inline_appends` on `abbr` holds in the configurations without that plugin … -/
example : ((ofRuleCfg cfg_only_speedup).blockSpec.lookup "ref_abbr").isSome = false := by decide +kernel

/-- … and is needed: with `abbr` (configuration `all-speedup`), the `text` handler called after the text token `HT`
on the rest `ML` of `HTML` takes that token back and leaves ONE token, the abbreviation `HTML` -/
example :
    let cfg := ofRuleCfg cfg_all_speedup
    let st : InlineState :=
      { (InlineState.new (.obj [("ref_abbrs", .obj [("HTML", .str "x".toList)])])).setSrc "HTML".toList with
        tokens := #[textTok "HT".toList] }
    (match Inl.parseMethod cfg (recAt cfg 3) "text" { start := 2, stop := 4, caps := [] } st with
      | .ok (some p, st') => p == 4 && st'.tokens.size == 1 && (st'.tokens.map Json.type).toList == ["abbr"]
      | _ => false) = true := by decide +kernel

end Examples

/-! ### block rules of `math` and `speedup` -/

open Model.Blk in
/-- `parse_block_math` returns `m.end() + 1` and appends one token -/
theorem parseBlockMath_spec (cfg : MdCfg) (mt : RxMatch) (st : BlockState) (r : Option Nat) (st' : BlockState)
    (h : parseBlockMath cfg mt st = .ok (r, st')) :
    r = some (mt.stop + 1) ∧ st'.tokens.length = st.tokens.length + 1 ∧ st'.cursor = st.cursor ∧ st'.env = st.env := by
  unfold parseBlockMath at h
  cases h
  simp [BlockState.appendToken]

open Model.Blk in
/-- speedup's `parse_paragraph` returns `m.end()`: with a non-empty trigger match (`allCfgs_consume`) the block loop
advances; it changes nothing but the token list, which does not shrink -/
theorem parseParagraph_spec (mt : RxMatch) (st : BlockState) (r : Option Nat) (st' : BlockState)
    (h : parseParagraph mt st = .ok (r, st')) :
    r = some mt.stop ∧ st.tokens.length ≤ st'.tokens.length ∧ st'.cursor = st.cursor ∧ st'.env = st.env := by
  refine (?_ : Sat (fun res => res.1 = some mt.stop ∧ st.tokens.length ≤ res.2.tokens.length ∧
    res.2.cursor = st.cursor ∧ res.2.env = st.env) (parseParagraph mt st)) (r, st') h
  unfold parseParagraph
  refine Sat.bind (Q := fun s => st.tokens.length ≤ s.tokens.length ∧ s.cursor = st.cursor ∧ s.env = st.env) ?_
    (fun s hs => Sat.pure ⟨rfl, hs⟩)
  -- `add_paragraph` replaces the last token or appends one
  unfold BlockState.addParagraph
  refine Sat.bind_all (fun o => ?_)
  cases o with
  | none => exact Sat.pure ⟨by simp [BlockState.appendToken], rfl, rfl⟩
  | some last =>
    refine Sat.bind_all (fun l => Sat.pure ⟨?_, rfl, rfl⟩)
    simp only [BlockState.setLastToken, List.length_append, List.length_dropLast, List.length_cons, List.length_nil]
    omega

end Mistune
