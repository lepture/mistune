/-
C01 (progress) for the directive handlers of `Mistune.Model.Directives`: `parseRstDirective`,
`parseFencedDirective`, `parseFencedCodeDir` satisfy the progress contract `Post` whenever the smaller-budget
`parse_method` instance does (they parse children with it).  Used by the dispatcher lemma `parseMethod_progress`
(`C01ProgressList`).  Same walk over the handlers as `EnvRel` (`_rel`), here with the invariant `Good (Post st)` (`_good`).
-/
import MistuneProofs.C01Progress
import MistuneProofs.C01ProgressPlugins
import Mistune.Model.Directives
namespace Mistune
namespace Model
namespace Blk

/-- **obligation on regenerated data**: the RST `_directive_re` cannot match the empty string -/
theorem rstDirectiveRx_minLen : 1 ≤ (dirRx .rst).minLen := by decide +kernel

theorem parseTokens_good (cfg : MdCfg) (hf : CfgFacts cfg) (pm : ParseMethod) (hpm : PMProgress pm)
    (syn : DirSyntax) (text : Str) (st : BlockState) : Good (fun _ => True) (parseTokens cfg pm syn text st) := by
  unfold parseTokens
  exact Good.bind (parse_good cfg hf pm hpm _ (inv_childState _ _) _) (fun _ _ => Good.pure trivial)

theorem admonitionParse_good (cfg : MdCfg) (hf : CfgFacts cfg) (pm : ParseMethod) (hpm : PMProgress pm)
    (d : DirMatch) (st : BlockState) : Good (fun _ => True) (admonitionParse cfg pm d st) := by
  unfold admonitionParse
  refine Good.bind (parseTokens_good cfg hf pm hpm _ _ _) ?_
  rintro ⟨toks, env⟩ _
  exact Good.pure trivial

theorem figureContent_good (cfg : MdCfg) (hf : CfgFacts cfg) (pm : ParseMethod) (hpm : PMProgress pm)
    (d : DirMatch) (st : BlockState) : Good (fun _ => True) (figureContent cfg pm d st) := by
  unfold figureContent
  dsimp only
  split
  · exact Good.pure trivial
  · refine Good.bind (parseTokens_good cfg hf pm hpm _ _ _) ?_
    rintro ⟨tokens, env⟩ _
    dsimp only
    split
    · exact Good.pure trivial
    · refine Good.bind (typeOf_good _) (fun a _ => ?_)
      split <;> exact Good.pure trivial

theorem figureParse_good (cfg : MdCfg) (hf : CfgFacts cfg) (pm : ParseMethod) (hpm : PMProgress pm)
    (d : DirMatch) (st : BlockState) : Good (fun _ => True) (figureParse cfg pm d st) := by
  unfold figureParse
  refine Good.bind (figureContent_good cfg hf pm hpm _ _) ?_
  rintro ⟨content, env⟩ _
  exact Good.pure trivial

theorem includeParse_good (st : BlockState) : Good (fun _ => True) (includeParse st) := by
  unfold includeParse
  split
  · split
    · exact Good.err (by decide)
    · exact Good.ok trivial
  · exact Good.ok trivial

theorem tocParse_good (cfg : MdCfg) (d : DirMatch) (st : BlockState) : Good (fun _ => True) (tocParse cfg d st) := by
  unfold tocParse
  dsimp only
  split <;> exact Good.ok trivial

theorem dirTokens_good (cfg : MdCfg) (hf : CfgFacts cfg) (pm : ParseMethod) (hpm : PMProgress pm)
    (d : DirMatch) (st : BlockState) : Good (fun _ => True) (dirTokens cfg pm d st) := by
  unfold dirTokens
  split
  · exact admonitionParse_good cfg hf pm hpm d st
  · exact Good.ok trivial
  · exact figureParse_good cfg hf pm hpm d st
  · exact includeParse_good st
  · exact tocParse_good cfg d st
  · exact Good.err (by decide)
  · exact Good.ok trivial

/-- `BaseDirective.parse_method` appends tokens and continues with the children's `env`: the frame is untouched -/
theorem dirParseMethod_good (cfg : MdCfg) (hf : CfgFacts cfg) (pm : ParseMethod) (hpm : PMProgress pm)
    (d : DirMatch) (st : BlockState) : Good (SameFrame st) (dirParseMethod cfg pm d st) := by
  unfold dirParseMethod
  refine Good.bind (dirTokens_good cfg hf pm hpm d st) ?_
  rintro ⟨toks, env⟩ _
  exact Good.pure ⟨rfl, rfl, rfl⟩

theorem parseRstDirective_good (cfg : MdCfg) (hf : CfgFacts cfg) (pm : ParseMethod) (hpm : PMProgress pm)
    (name : String) (mt : RxMatch) (st : BlockState) (hpre : Pre name mt st) :
    Good (Post st) (parseRstDirective cfg pm mt st) := by
  have h3 := hpre.cursor_lt
  unfold parseRstDirective
  split
  · exact Good.ok (Post.of_frame SameFrame.refl PosOk.none)
  · rename_i m2 hm2
    have hne := (pyMatchAt_consumes rstDirectiveRx_minLen hm2).1
    refine Good.bind (dirParseMethod_good cfg hf pm hpm _ st) (fun st' hfr => ?_)
    refine Good.pure (Post.of_frame hfr (PosOk.some ?_))
    rw [Nat.min_eq_left (Nat.le_of_lt h3)] at hne
    exact hne

theorem processDirective_good (cfg : MdCfg) (hf : CfgFacts cfg) (pm : ParseMethod) (hpm : PMProgress pm)
    (name : String) (mt : RxMatch) (st : BlockState) (hpre : Pre name mt st) (marker : Str) :
    Good (Post st) (processDirective cfg pm marker mt.start st) := by
  obtain ⟨hinv, h2, h3, h4, _⟩ := hpre
  unfold processDirective
  cases marker with
  | nil => exact Good.err (by decide)
  | cons c mrest =>
    simp only [pure_bind]
    have key : st.cursor <
        (match Py.search (fenceEndRx c (c :: mrest).length) st.x (mt.start + (c :: mrest).length) with
          | some m => (Py.slice st.x.s (mt.start + (c :: mrest).length) m.start, m.stop)
          | none => (Py.slice st.x.s (mt.start + (c :: mrest).length) st.x.s.size, st.cursorMax)).2 := by
      split
      · rename_i m hm
        have := pySearch_sound _ _ _ _ hm
        simp only [List.length_cons] at this ⊢
        omega
      · unfold Inv at hinv
        simp only
        omega
    split
    · exact Good.pure (Post.of_frame SameFrame.refl PosOk.none)
    · refine Good.bind (dirParseMethod_good cfg hf pm hpm _ st) (fun st' hfr => ?_)
      exact Good.pure (Post.of_frame hfr (PosOk.some key))

theorem parseFencedDirective_good (cfg : MdCfg) (hf : CfgFacts cfg) (pm : ParseMethod) (hpm : PMProgress pm)
    (name : String) (mt : RxMatch) (st : BlockState) (hpre : Pre name mt st) :
    Good (Post st) (parseFencedDirective cfg pm mt st) := by
  unfold parseFencedDirective
  exact processDirective_good cfg hf pm hpm name mt st hpre _

theorem parseFencedCodeDir_good (cfg : MdCfg) (hf : CfgFacts cfg) (pm : ParseMethod) (hpm : PMProgress pm)
    (name : String) (mt : RxMatch) (st : BlockState) (hpre : Pre name mt st) :
    Good (Post st) (parseFencedCodeDir cfg pm mt st) := by
  unfold parseFencedCodeDir
  dsimp only
  split
  · exact parseFencedCode_good cfg name mt st hpre
  · split
    · exact parseFencedCode_good cfg name mt st hpre
    · exact processDirective_good cfg hf pm hpm name mt st hpre _

end Blk
end Model
end Mistune
