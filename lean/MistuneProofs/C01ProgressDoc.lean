/-
C01, progress at DOCUMENT level: `Model.parseDoc` (hook lists, block pass, second pass `iterRender` /
`Hooks.iterRenderEnv`, `md_footnotes_hook`) never returns `.noProgress`.
-/
import Mistune.Model.Doc
import MistuneProofs.C01ProgressList
import MistuneProofs.C01ProgressInline
namespace Mistune
namespace Model
open Mistune.Model.Blk (Good good_mapM getE_good typeOf_good childrenOf_good)
open Mistune.Model.Inl (AbbrOk AbbrKeys EnvSame IFacts ICfgOk iFacts_of_ok)

/-! ### the second pass -/

theorem iterRenderG_good (inl : Str → Except PyErr (List Json)) (hinl : ∀ s, Good (fun _ => True) (inl s)) :
    ∀ (fuel : Nat) (toks : List Json), Good (fun _ => True) (iterRenderG inl fuel toks) := by
  intro fuel
  induction fuel with
  | zero => intro toks; exact Good.err (by decide)
  | succ fuel ih =>
    intro toks
    unfold iterRenderG
    refine good_mapM _ (fun t => ?_) toks
    split
    · exact Good.bind (ih _) (fun _ _ => Good.pure trivial)
    · split
      · exact Good.bind (hinl _) (fun _ _ => Good.pure trivial)
      · exact Good.pure trivial

theorem good_foldlM {α β : Type} (I : β → Prop) (f : β → α → Except PyErr β)
    (hf : ∀ b a, I b → Good I (f b a)) : ∀ (l : List α) (b : β), I b → Good I (l.foldlM f b) := by
  intro l
  induction l with
  | nil => intro b hb; rw [List.foldlM_nil]; exact Good.pure hb
  | cons a l ih =>
    intro b hb
    rw [List.foldlM_cons]
    exact Good.bind (hf b a hb) (fun b' hb' => ih b' hb')

theorem iterRenderEnv_good (cfg : MdCfg) (hf : IFacts cfg) :
    ∀ (fuel : Nat) (env : Json) (toks : List Json), AbbrOk cfg env →
      Good (fun res => AbbrOk cfg res.2) (Hooks.iterRenderEnv cfg fuel env toks) := by
  intro fuel
  induction fuel with
  | zero => intro env toks _; exact Good.err (by decide)
  | succ fuel ih =>
    intro env toks hab
    unfold Hooks.iterRenderEnv
    refine good_foldlM (fun (acc : List Json × Json) => AbbrOk cfg acc.2) _ ?_ toks ([], env) hab
    rintro ⟨out, env1⟩ t hab1
    dsimp only at hab1 ⊢
    split
    · refine Good.bind (ih _ _ hab1) ?_
      rintro ⟨cs, env2⟩ h2
      exact Good.pure h2
    · split
      · refine Good.bind (Inl.inlineParseEnv_good cfg hf env1 hab1 _) ?_
        rintro ⟨cs, env2⟩ h2
        exact Good.pure (hab1.of_same h2)
      · exact Good.pure hab1


/-! ### the hooks -/

theorem rewriteListItem_good (cfg : MdCfg) (t : Json) : Good (fun _ => True) (Hooks.rewriteListItem cfg t) := by
  unfold Hooks.rewriteListItem
  refine Good.bind (childrenOf_good t) (fun children _ => ?_)
  split
  · exact Good.pure trivial
  · dsimp only
    split
    · exact Good.pure trivial
    · exact Good.pure trivial

theorem rewriteAllListItems_good (cfg : MdCfg) :
    ∀ (fuel : Nat) (toks : List Json), Good (fun _ => True) (Hooks.rewriteAllListItems cfg fuel toks) := by
  intro fuel
  induction fuel with
  | zero => intro toks; exact Good.err (by decide)
  | succ fuel ih =>
    intro toks
    unfold Hooks.rewriteAllListItems
    refine good_mapM _ (fun t => ?_) toks
    refine Good.bind (typeOf_good _) (fun ty _ => ?_)
    extract_lets +onlyGivenNames jp
    have hjp : ∀ t', Good (fun _ => True) (jp t') := by
      intro t'
      show Good _ (match t'.get? "children" with | some (Json.arr cs) => _ | some _ => _ | none => _)
      split
      · exact Good.bind (ih _) (fun _ _ => Good.pure trivial)
      · exact Good.throw (by decide)
      · exact Good.pure trivial
    clear_value jp
    split
    · exact Good.bind (rewriteListItem_good cfg t) (fun t' _ => hjp t')
    · simp only [pure_bind]; exact hjp _

theorem beforeRender_good (cfg : MdCfg) : ∀ (hooks : List String) (toks : List Json),
    Good (fun _ => True) (Hooks.beforeRender cfg hooks toks) := by
  intro hooks
  induction hooks with
  | nil => intro toks; exact Good.ok trivial
  | cons h rest ih =>
    intro toks
    unfold Hooks.beforeRender
    have h1 : ∀ t, Good (fun _ => True) (Hooks.taskListsHook cfg t) := fun t => rewriteAllListItems_good cfg _ _
    extract_lets +onlyGivenNames jp
    have hjp : ∀ t, Good (fun _ => True) (jp t) := fun t => ih t
    clear_value jp
    split
    · exact Good.bind (h1 _) (fun t _ => hjp t)
    · exact (by decide : PyErr.keyError ≠ PyErr.noProgress)

theorem parseFootnoteItem_good (cfg : MdCfg) (key : Str) (index : Nat) (env : Json) :
    Good (fun _ => True) (Hooks.parseFootnoteItem cfg key index env) := by
  unfold Hooks.parseFootnoteItem
  extract_lets +onlyGivenNames ref
  split
  · exact Good.throw (by decide)
  · show Good _ (Blk.getE ref (String.ofList key) >>= _)
    refine Good.bind (getE_good _ _) (fun v _ => ?_)
    split
    · exact Good.pure trivial
    · exact (by decide : PyErr.typeError ≠ PyErr.noProgress)

theorem footnoteItems_good (cfg : MdCfg) (env : Json) : ∀ (l : List Json) (i : Nat),
    Good (fun _ => True) (Hooks.footnoteItems cfg env l i) := by
  intro l
  induction l with
  | nil => intro i; exact Good.ok trivial
  | cons k rest ih =>
    intro i
    unfold Hooks.footnoteItems
    extract_lets +onlyGivenNames jp
    have hjp : ∀ key, Good (fun _ => True) (jp key) := by
      intro key
      refine Good.bind (parseFootnoteItem_good cfg _ _ env) (fun item _ => ?_)
      exact Good.bind (ih _) (fun _ _ => Good.pure trivial)
    clear_value jp
    split
    · simp only [pure_bind]; exact hjp _
    · exact (by decide : PyErr.typeError ≠ PyErr.noProgress)

theorem mdFootnotesHook_good (cfg : MdCfg) (hf : IFacts cfg) (result : List Json) (env : Json) :
    Good (fun _ => True) (Hooks.mdFootnotesHook cfg result env) := by
  unfold Hooks.mdFootnotesHook
  extract_lets +onlyGivenNames notes
  split
  · exact Good.pure trivial
  · have hjp : ∀ l, Good (fun _ => True) (do
        let children ← Hooks.footnoteItems cfg env l 0
        have refLinks : Json := (env.get? "ref_links").getD Json.null
        have env2 : Json :=
          if refLinks.truthy = true then Json.obj [("ref_links", refLinks)] else Json.obj [("ref_links", Json.obj [])]
        let __x ← Hooks.renderState cfg [tok "footnotes" [("children", Json.arr children)]] env2
        match __x with
          | (output, _) => (pure (result ++ output) : Except PyErr (List Json))) := by
      intro l
      refine Good.bind (footnoteItems_good cfg env l 0) (fun children _ => ?_)
      extract_lets +onlyGivenNames refLinks env2
      have hab2 : AbbrOk cfg env2 := by
        apply Mistune.abbrOk_of_none
        show (if refLinks.truthy = true then _ else _ : Json).get? "ref_abbrs" = none
        split <;> rfl
      refine Good.bind (iterRenderEnv_good cfg hf 64 env2 _ hab2) ?_
      rintro ⟨output, e⟩ _
      exact Good.pure trivial
    show Good _ (match (env.get? "footnotes").getD Json.null with | Json.arr l => _ | _ => _)
    split
    · exact hjp _
    · exact (by decide : PyErr.typeError ≠ PyErr.noProgress)


theorem afterRender_good (cfg : MdCfg) (hf : IFacts cfg) (env : Json) : ∀ (hooks : List String) (result : List Json),
    Good (fun _ => True) (Hooks.afterRender cfg env hooks result) := by
  intro hooks
  induction hooks with
  | nil => intro result; exact Good.ok trivial
  | cons h rest ih =>
    intro result
    unfold Hooks.afterRender
    extract_lets +onlyGivenNames jp
    have hjp : ∀ t, Good (fun _ => True) (jp t) := fun t => ih t
    clear_value jp
    split
    · exact Good.bind (mdFootnotesHook_good cfg hf _ env) (fun t _ => hjp t)
    · exact (by decide : PyErr.keyError ≠ PyErr.noProgress)

/-! ### `Markdown.parse` -/

/-- the decidable obligation on a configuration for the whole document pipeline -/
def DocCfgOk (cfg : MdCfg) : Bool := Blk.CfgOk cfg && ICfgOk cfg

/-- the document pipeline never reports `.noProgress`, provided the `env` the block pass returns has no empty
abbreviation key (`AbbrOk`: a condition only for configurations with the `abbr` plugin) -/
theorem parseDoc_good (cfg : MdCfg) (hok : DocCfgOk cfg = true) (s : Str)
    (henv : ∀ toks env, Model.blockParse cfg (norm s) = .ok (toks, env) → AbbrOk cfg env) :
    Good (fun _ => True) (parseDoc cfg s) := by
  unfold DocCfgOk at hok
  simp only [Bool.and_eq_true] at hok
  have hf := iFacts_of_ok hok.2
  have hb : Good (fun res => AbbrOk cfg res.2) (Model.blockParse cfg (norm s)) := by
    have h1 := Model.blockParse_no_noProgress cfg hok.1 (norm s)
    cases hr : Model.blockParse cfg (norm s) with
    | ok a => exact henv a.1 a.2 hr
    | error e => rw [hr] at h1; exact fun he => h1 (by rw [he])
  unfold parseDoc
  have hmain : Good (fun _ => True) (do
      let __x ← blockParse cfg (norm s)
      match __x with
        | (toks, env) => do
          let toks ← Hooks.beforeRender cfg cfg.beforeRenderHooks toks
          have __do_jp : List Json × Json → Except PyErr (List Json) := fun __x =>
            match __x with
            | (result, env) => Hooks.afterRender cfg env cfg.afterRenderHooks result
          if cfg.inlineRules.contains "footnote" = true then do
              let __x ← Hooks.renderState cfg toks env
              __do_jp __x
            else do
              let __do_lift ← iterRender cfg env 64 toks
              let __x ← pure (__do_lift, env)
              __do_jp __x) := by
    refine Good.bind hb ?_
    rintro ⟨toks, env⟩ hab
    dsimp only at hab ⊢
    refine Good.bind (beforeRender_good cfg _ toks) (fun toks2 _ => ?_)
    split
    · refine Good.bind (iterRenderEnv_good cfg hf 64 env toks2 hab) ?_
      rintro ⟨result, env2⟩ _
      exact afterRender_good cfg hf _ _ _
    · refine Good.bind (iterRenderG_good _ (fun src => Inl.inlineParse_good cfg hf env hab src) _ _) (fun r _ => ?_)
      exact afterRender_good cfg hf _ _ _
  by_cases hc : (!cfg.beforeParseHooks.isEmpty) = true
  · simp only [hc, if_true]
    exact (by decide : PyErr.keyError ≠ PyErr.noProgress)
  · simp only [hc]
    exact hmain

end Model
end Mistune

namespace Mistune
open Mistune.Model Mistune.Model.Inl Mistune.Generated

/-- **C01, document level, under a hypothesis for the `abbr` plugin.**  `Markdown.parse` (hooks, block pass, inline
pass, footnotes hook) never reaches a stalled loop, provided the `env` returned by the block pass has no empty
abbreviation key (`henv`).  For a configuration WITH the `abbr` plugin `henv` is not discharged: that takes
`AbbrKeys env` for the `env` of `Model.blockParse`, i.e. that the group `abbr_key` (`[^\]]+`) of every match handed to
`parse_ref_abbr` is non-empty (the regex half is `abbrKey_nonempty`, `C01AbbrKey`).  Without the plugin `henv` holds of
every `env`: `parseDoc_no_noProgress`. -/
theorem Model.parseDoc_no_noProgress_partial (cfg : MdCfg) (hok : DocCfgOk cfg = true) (s : Str)
    (henv : ∀ toks env, Model.blockParse cfg (norm s) = .ok (toks, env) → AbbrOk cfg env) :
    Model.parseDoc cfg s ≠ .error .noProgress :=
  (parseDoc_good cfg hok s henv).noProgress

/-- **C01, document level**, every configuration without the `abbr` plugin: no hypothesis on the source at all -/
theorem Model.parseDoc_no_noProgress (cfg : MdCfg) (hok : DocCfgOk cfg = true)
    (hno : (cfg.blockSpec.lookup "ref_abbr").isSome = false) (s : Str) :
    Model.parseDoc cfg s ≠ .error .noProgress :=
  Model.parseDoc_no_noProgress_partial cfg hok s (fun _ env _ => abbrOk_of_unregistered cfg env hno)

/-- **Obligation:** every regenerated configuration passes the document-level check (configurations whose hooks /
rules the model does not transcribe return `.keyError`, which is not `.noProgress`: no exclusion is needed). -/
theorem allCfgs_docCfgOk : allCfgs.all (fun c => DocCfgOk (ofRuleCfg c)) = true :=
  List.all_eq_true.2 fun _ hc => Bool.and_eq_true_iff.2 ⟨cfgOk_of_mem hc, iCfgOk_of_mem hc⟩

/-- the configurations with the `abbr` plugin (the only ones for which `parseDoc_no_noProgress_partial` keeps its
hypothesis) -/
def abbrCfgs : List String :=
  (allCfgs.filter (fun c => ((ofRuleCfg c).blockSpec.lookup "ref_abbr").isSome)).map (·.name)

theorem allCfgs_parseDoc_no_noProgress (c : RuleCfg) (hc : c ∈ allCfgs)
    (hno : ((ofRuleCfg c).blockSpec.lookup "ref_abbr").isSome = false) (s : Str) :
    Model.parseDoc (ofRuleCfg c) s ≠ .error .noProgress :=
  Model.parseDoc_no_noProgress _ (List.all_eq_true.1 allCfgs_docCfgOk c hc) hno s

-- non-vacuity
example : DocCfgOk (ofRuleCfg cfg_core) = true := List.all_eq_true.1 allCfgs_docCfgOk _ List.mem_cons_self
example : isOkRes (Model.parseDoc (ofRuleCfg cfg_core) "# a *b*\n\n> c\n".toList) = true := by decide +kernel
example : isOkRes (Model.parseDoc (ofRuleCfg cfg_only_footnotes) "a[^1]\n\n[^1]: note\n".toList) = true := by
  decide +kernel

end Mistune
