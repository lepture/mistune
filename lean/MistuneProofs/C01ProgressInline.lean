/-
C01, progress of the concrete INLINE parser model `Mistune.Model.Inl` (inline_parser.py, helpers.py, the
`process_text` of plugins/abbr.py): no loop of the model (`parseLoop`, `parseLinkTextLoop`, `abbrLoop`) returns
`.noProgress`.  The scanner loop itself advances by one character when a handler declines, so the contract of a
handler is: a truthy return value is not before the end of its match.  Same `Good` framework as `C01Progress`;
same walk over the handlers as `C10InlineFrame` (`_x`) and `EnvRelInline` (`_env`/`_rel`), whose results give the
frame `Fr` here, so that the `_good` lemmas speak of positions alone.
-/
import Mistune.Model.Inline
import Mistune.Generated.Regex
import MistuneProofs.C01Progress
import MistuneProofs.C10InlineFrame
import MistuneProofs.EnvRelInline
namespace Mistune
namespace Model
namespace Inl
open Mistune.Model.Blk (Good Sat)

/-! ### the invariant on `env` (needed by the `abbr` plugin only) -/

/-- no abbreviation key is empty (`REF_ABBR` captures `[^\]]+`); only the `process_text` of plugins/abbr.py reads it -/
def AbbrKeys (env : Json) : Prop :=
  ∀ kv, env.get? "ref_abbrs" = some (.obj kv) → ∀ p ∈ kv, p.1.toList ≠ []

/-- `AbbrKeys`, required only of a configuration that has the `abbr` plugin (its block rule `ref_abbr` is
registered): for every other configuration this holds of every `env` -/
def AbbrOk (cfg : MdCfg) (env : Json) : Prop := (cfg.blockSpec.lookup "ref_abbr").isSome = true → AbbrKeys env

/-- the two environments have the same abbreviation table -/
def EnvSame (e e' : Json) : Prop := e'.get? "ref_abbrs" = e.get? "ref_abbrs"

theorem AbbrOk.of_same {cfg : MdCfg} {e e' : Json} (h : AbbrOk cfg e) (hs : EnvSame e e') : AbbrOk cfg e' := by
  intro hreg kv hkv; rw [hs] at hkv; exact h hreg kv hkv

/-- the state after a step: same subject, same abbreviation table -/
def Fr (st st' : InlineState) : Prop := st'.x = st.x ∧ EnvSame st.env st'.env

theorem Fr.refl {st : InlineState} : Fr st st := ⟨Eq.refl _, Eq.refl _⟩
theorem Fr.trans {a b c : InlineState} (h1 : Fr a b) (h2 : Fr b c) : Fr a c :=
  ⟨h2.1.trans h1.1, Eq.trans h2.2 h1.2⟩

/-! ### the frame of a step

That a step keeps the subject is proved in `C10InlineFrame`, that it keeps `env` (or changes it by a relation the
`footnote` handler respects) in `EnvRelInline`; neither needs a hypothesis.  The lemmas below only put the two
together, so that the progress proofs can speak of positions and termination alone. -/

theorem Fr.of_eq {st st' : InlineState} (hx : st'.x = st.x) (he : st'.env = st.env) : Fr st st' :=
  ⟨hx, show st'.env.get? "ref_abbrs" = st.env.get? "ref_abbrs" by rw [he]⟩

theorem parseInlineFootnote_envSame (cfg : MdCfg) (m : RxMatch) (st : InlineState) :
    Sat (fun res => EnvSame st.env res.2.env) (parseInlineFootnote cfg m st) := by
  unfold parseInlineFootnote
  extract_lets key ref
  split
  · split
    rename_i notes2 st2 heq
    refine Sat.ok (?_ : EnvSame st.env st2.env)
    split at heq
    · cases heq; exact get?_set_ne _ _ _ _ (by decide)
    · cases heq; rfl
  · exact Sat.ok rfl

/-- the one inline handler that writes `env` writes `env["footnotes"]`: the abbreviation table stays -/
theorem envSame_rel (cfg : MdCfg) : InlEnvRel cfg EnvSame where
  refl _ := rfl
  trans h1 h2 := Eq.trans h2 h1
  footnote m st r st' h := parseInlineFootnote_envSame cfg m st (r, st') h

theorem processTextC_fr {cfg : MdCfg} {t : Str} {st st' : InlineState} (h : processTextC cfg t st = .ok st') :
    Fr st st' :=
  Fr.of_eq (processTextC_frame cfg t st st' h).x (processTextC_env cfg t st st' h)

theorem precedenceScan_fr {cfg : MdCfg} {R : Rec} (hE : RecRel EnvSame R) {m : RxMatch} {st : InlineState}
    {endPos : Nat} {rules : List String} {p : Option Nat} {st' : InlineState}
    (h : precedenceScan cfg R m st endPos rules = .ok (p, st')) : Fr st st' :=
  ⟨(precedenceScan_x cfg R m st endPos rules).of p st' h,
    precedenceScan_rel (envSame_rel cfg) hE m st endPos rules (p, st') h⟩

/-- every handler keeps the subject and the abbreviation table -/
theorem parseMethod_fr {cfg : MdCfg} {R : Rec} (hE : RecRel EnvSame R) {name : String} {m : RxMatch}
    {st : InlineState} {p : Option Nat} {st' : InlineState} (h : parseMethod cfg R name m st = .ok (p, st')) :
    Fr st st' :=
  ⟨parseMethod_x cfg R name m st p st' h, parseMethod_rel (envSame_rel cfg) hE name m st (p, st') h⟩

/-! ### plugins/abbr.py `process_text` -/

theorem abbrSearch_mem (keys : List Str) : ∀ (rest : Str) (off o : Nat) (l : Str),
    abbrSearch keys rest off = some (o, l) → l ∈ keys := by
  intro rest
  induction rest with
  | nil =>
    intro off o l h
    simp only [abbrSearch, Option.map_eq_some_iff] at h
    obtain ⟨k, hk, heq⟩ := h
    cases heq
    exact List.mem_of_find?_eq_some hk
  | cons c r ih =>
    intro off o l h
    simp only [abbrSearch] at h
    split at h
    · rename_i k hk
      cases h
      exact List.mem_of_find?_eq_some hk
    · exact ih _ _ _ h

/-- the loop goes on behind an abbreviation it found: the rest gets shorter because no key is empty -/
theorem abbrLoop_good (ref : Json) (keys : List Str) (hkeys : ∀ k ∈ keys, k ≠ []) :
    ∀ (fuel : Nat) (rest : Str) (atZero : Bool) (st : InlineState), rest.length < fuel →
      Good (fun _ => True) (abbrLoop ref keys fuel rest atZero st) := by
  intro fuel
  induction fuel with
  | zero => intro rest atZero st h; omega
  | succ fuel ih =>
    intro rest atZero st hfu
    unfold abbrLoop
    extract_lets finish
    refine Good.ite (fun _ => Good.ok trivial) (fun hne => ?_)
    split
    · exact Good.ok trivial
    · rename_i off label hs
      have hl := hkeys _ (abbrSearch_mem keys _ _ _ _ hs)
      extract_lets st2
      split
      · exact Good.err (by decide)
      · refine Good.ite (fun he => absurd (List.isEmpty_iff.1 he) hl) (fun _ => ?_)
        have hlen : 0 < label.length := List.length_pos_iff.2 hl
        have hr : 0 < rest.length := List.length_pos_iff.2 (mt List.isEmpty_iff.2 hne)
        exact ih _ false _ (by simp only [List.length_drop]; omega)

theorem abbr_keys_ok (env : Json) (hab : AbbrKeys env) :
    ∀ k ∈ (match (env.get? "ref_abbrs").getD .null with
      | .obj kv => kv.map (fun (p : String × Json) => p.1.toList)
      | _ => []), k ≠ [] := by
  intro k hk
  split at hk
  · rename_i kv hkv
    have hget : env.get? "ref_abbrs" = some (.obj kv) := by
      cases hg : env.get? "ref_abbrs" with
      | none => rw [hg] at hkv; cases hkv
      | some v => rw [hg] at hkv; simp only [Option.getD_some] at hkv; rw [hkv]
    obtain ⟨p, hp, rfl⟩ := List.mem_map.1 hk
    exact hab kv hget p hp
  · cases hk

theorem abbrProcessText_good (text : Str) (st : InlineState) (hab : AbbrKeys st.env) :
    Good (fun _ => True) (abbrProcessText text st) := by
  unfold abbrProcessText
  extract_lets ref keys
  split
  · exact Good.ok trivial
  · split
    exact abbrLoop_good ref keys (abbr_keys_ok st.env hab) _ _ _ _ (by omega)

theorem processTextC_good (cfg : MdCfg) (text : Str) (st : InlineState) (hab : AbbrOk cfg st.env) :
    Good (fun _ => True) (processTextC cfg text st) := by
  unfold processTextC
  split
  · rename_i hreg
    exact abbrProcessText_good text st (hab hreg)
  · exact Good.ok trivial


/-! ### `escape_url` never reports `.noProgress` -/

theorem reSubM_go_good (r : Rx) (repl : Array Char → RxMatch → Except PyErr Str) (x : RxCtx)
    (hrepl : ∀ a mt, Good (fun _ => True) (repl a mt)) :
    ∀ fuel pos copyPos acc, Good (fun _ => True) (Py.reSubM.go r repl x fuel pos copyPos acc) := by
  intro fuel
  induction fuel with
  | zero => intro pos copyPos acc; unfold Py.reSubM.go; exact Good.ok trivial
  | succ fuel ih =>
    intro pos copyPos acc
    unfold Py.reSubM.go
    split
    · exact Good.ok trivial
    · split
      · exact Good.ok trivial
      · rename_i mt _
        have := hrepl x.s mt
        split
        · rename_i e he
          rw [he] at this
          exact this
        · dsimp only
          split
          · split
            · exact ih _ _ _
            · exact Good.ok trivial
          · exact ih _ _ _

theorem pyInt_good (base : Nat) (s : Str) : Good (fun _ => True) (Charref.pyInt base s) := by
  unfold Charref.pyInt
  split
  · exact Good.err (by decide)
  · split
    · exact Good.err (by decide)
    · split
      · exact Good.ok trivial
      · exact Good.err (by decide)

theorem replaceCharref_good (s : Str) : Good (fun _ => True) (Charref.replaceCharref s) := by
  unfold Charref.replaceCharref
  split
  · exact Good.err (by decide)
  · split
    · exact Good.err (by decide)
    · extract_lets jp
      have hjp : ∀ num, Good (fun _ => True) (jp num) := by
        intro num
        show Good _ (match List.lookup num Generated.invalidCharrefs with | some r => _ | none => _)
        split
        · exact Good.pure trivial
        · split
          · exact Good.pure trivial
          · split <;> exact Good.pure trivial
      clear_value jp
      split
      · exact Good.bind (pyInt_good _ _) (fun n _ => hjp n)
      · exact Good.bind (pyInt_good _ _) (fun n _ => hjp n)
  · split <;> exact Good.ok trivial

theorem replaceKnownCharref_good (s : Str) : Good (fun _ => True) (Charref.replaceKnownCharref s) := by
  unfold Charref.replaceKnownCharref
  split
  · exact Good.err (by decide)
  · exact replaceCharref_good _
  · split
    · exact replaceCharref_good _
    · exact Good.ok trivial

theorem escapeUrl_good (cfg : MdCfg) (link : Str) : Good (fun _ => True) (escapeUrl cfg link) := by
  unfold escapeUrl Charref.escapeUrl
  refine Good.bind (Q := fun _ => True) ?_ (fun u _ => Good.pure trivial)
  unfold Charref.unescape
  split
  · exact Good.ok trivial
  · unfold Py.reSubM
    refine reSubM_go_good _ _ _ (fun a mt => ?_) _ _ _ _
    split
    · exact replaceKnownCharref_good _
    · exact Good.err (by decide)


/-! ### the contract -/

/-- a truthy return value is not before `e` -/
def PosGe (e : Nat) (res : Option Nat × InlineState) : Prop := ∀ p, res.1 = some p → p ≠ 0 → e ≤ p

theorem PosGe.stop {e p : Nat} {st' : InlineState} (hp : e ≤ p) : PosGe e (some p, st') :=
  fun q hq _ => by cases hq; exact hp

theorem PosGe.none {e : Nat} {st' : InlineState} : PosGe e (none, st') := fun q hq _ => by cases hq

/-- what an inline handler guarantees: same subject and abbreviation table, and a truthy return value is not before
the end of the match -/
def IPost (m : RxMatch) (st : InlineState) (res : Option Nat × InlineState) : Prop :=
  Fr st res.2 ∧ ∀ p, res.1 = some p → p ≠ 0 → m.stop ≤ p

/-- the contract of the recursive entry points.  `st.x.n ≤ st.x.s.size` (the effective end lies inside the subject
array: `mkCtx_n_le`) is there for the link-text and ruby loops, whose fuel is counted from `x.s.size`: with it they
have fuel for every position up to `x.n` -/
structure RecOk (cfg : MdCfg) (R : Rec) : Prop where
  renderSt : ∀ st, st.x.n ≤ st.x.s.size → AbbrOk cfg st.env → Good (fun c => EnvSame st.env c.env) (R.renderSt st)
  call : ∀ name m st, m.stop ≤ st.x.n → st.x.n ≤ st.x.s.size → AbbrOk cfg st.env →
    Good (fun res => EnvSame st.env res.2.env) (R.call name m st)

theorem renderIn_good {cfg : MdCfg} (R : Rec) (hR : RecOk cfg R) (child st : InlineState)
    (hn : child.x.n ≤ child.x.s.size) (hab : AbbrOk cfg child.env) : Good (fun _ => True) (R.renderIn child st) := by
  unfold Rec.renderIn
  exact Good.bind (hR.renderSt child hn hab) (fun _ _ => Good.pure trivial)

/-! ### handlers without recursion -/

theorem parseLinebreak_good (m : RxMatch) (st : InlineState) : Good (IPost m st) (parseLinebreak m st) :=
  Good.ok ⟨⟨rfl, rfl⟩, PosGe.stop (Nat.le_refl _)⟩

theorem parseSoftbreak_good (m : RxMatch) (st : InlineState) : Good (IPost m st) (parseSoftbreak m st) :=
  Good.ok ⟨⟨rfl, rfl⟩, PosGe.stop (Nat.le_refl _)⟩

theorem parseCodespan_good (m : RxMatch) (st : InlineState) : Good (PosGe m.stop) (parseCodespan m st) := by
  unfold parseCodespan
  extract_lets marker pos
  split
  · rename_i code endPos hb
    refine Good.ok (PosGe.stop ?_)
    unfold codespanBody at hb
    simp only at hb
    split at hb
    · rename_i m2 hm2
      have := (matchAt_le _ _ _ _ hm2).2
      simp only [Option.some.injEq, Prod.mk.injEq] at hb
      omega
    · cases hb
  · exact Good.ok (PosGe.stop (Nat.le_refl _))

theorem parseInlineFootnote_good (cfg : MdCfg) (m : RxMatch) (st : InlineState) :
    Good (PosGe m.stop) (parseInlineFootnote cfg m st) := by
  unfold parseInlineFootnote
  extract_lets key ref
  split
  · split
    exact Good.ok (PosGe.stop (Nat.le_refl _))
  · exact Good.ok (PosGe.stop (Nat.le_refl _))

theorem addAutoLink_good (cfg : MdCfg) (url text : Str) (st : InlineState) :
    Good (fun _ => True) (addAutoLink cfg url text st) := by
  unfold addAutoLink
  exact Good.bind (escapeUrl_good cfg url) (fun u _ => Good.pure trivial)

theorem parseAutoLink_good (cfg : MdCfg) (m : RxMatch) (st : InlineState) (hab : AbbrOk cfg st.env) :
    Good (PosGe m.stop) (parseAutoLink cfg m st) := by
  unfold parseAutoLink
  extract_lets text pos
  split
  · exact Good.bind (processTextC_good cfg text st hab) (fun _ _ => Good.pure (PosGe.stop (Nat.le_refl _)))
  · exact Good.bind (addAutoLink_good cfg _ _ st) (fun _ _ => Good.pure (PosGe.stop (Nat.le_refl _)))

theorem parseAutoEmail_good (cfg : MdCfg) (m : RxMatch) (st : InlineState) (hab : AbbrOk cfg st.env) :
    Good (PosGe m.stop) (parseAutoEmail cfg m st) := by
  unfold parseAutoEmail
  extract_lets text pos
  split
  · exact Good.bind (processTextC_good cfg text st hab) (fun _ _ => Good.pure (PosGe.stop (Nat.le_refl _)))
  · exact Good.bind (addAutoLink_good cfg _ _ st) (fun _ _ => Good.pure (PosGe.stop (Nat.le_refl _)))


/-! ### helpers.py: link pieces -/

theorem parseLinkTextLoop_good (cfg : MdCfg) (x : RxCtx)
    (hbr : 1 ≤ (cfg.rx "mistune.helpers._INLINE_SQUARE_BRACKET_RE").minLen) :
    ∀ (fuel pos level : Nat), x.s.size - pos < fuel →
      Good (fun r => ∀ p, r = some p → pos ≤ p) (parseLinkTextLoop cfg x fuel pos level) := by
  intro fuel
  induction fuel with
  | zero => intro pos level h; omega
  | succ fuel ih =>
    intro pos level hfu
    unfold parseLinkTextLoop
    refine Good.ite (fun hlt => ?_) (fun _ => Good.ok (fun p h => by cases h))
    split
    · exact Good.ok (fun p h => by cases h)
    · rename_i m hm
      obtain ⟨a1, a2, a3, a4, _⟩ := search_sound _ _ _ _ hm
      have hne := nonempty_of_minLen _ _ _ _ _ _ a4 hbr
      extract_lets pos2 marker
      have hp2 : pos < pos2 := by show pos < m.stop; omega
      have hrec : ∀ lv, Good (fun r => ∀ p, r = some p → pos ≤ p) (parseLinkTextLoop cfg x fuel pos2 lv) :=
        fun lv => (ih pos2 lv (by omega)).mono (fun r hr p hp => by have := hr p hp; omega)
      split
      · split
        · exact Good.ok (fun p h => by cases h; exact Nat.le_of_lt hp2)
        · exact hrec _
      · exact hrec _

theorem parseLinkText_good (cfg : MdCfg) (x : RxCtx)
    (hbr : 1 ≤ (cfg.rx "mistune.helpers._INLINE_SQUARE_BRACKET_RE").minLen) (pos : Nat) (hpos : pos ≤ x.s.size) :
    Good (fun r => ∀ t p, r = some (t, p) → pos ≤ p) (parseLinkText cfg x pos) := by
  unfold parseLinkText
  refine Good.bind (parseLinkTextLoop_good cfg x hbr (x.s.size + 1 - pos) pos 1 (by omega)) (fun r hr => ?_)
  split
  · rename_i p
    exact Good.pure (fun t q h => by cases h; exact hr p rfl)
  · exact Good.pure (fun t q h => by cases h)

theorem pyGetItem_good (a : Array Char) (i : Int) : Good (fun _ => True) (pyGetItem a i) := by
  unfold pyGetItem
  extract_lets j
  split
  · exact Good.err (by decide)
  · split
    · exact Good.ok trivial
    · exact Good.err (by decide)

theorem parseLinkHref_good (cfg : MdCfg) (x : RxCtx) (startPos : Nat) (block : Bool) :
    Good (fun _ => True) (parseLinkHref cfg x startPos block) := by
  unfold parseLinkHref
  split
  · extract_lets sp
    split <;> exact Good.ok trivial
  · extract_lets m?
    clear_value m?
    split
    · exact Good.ok trivial
    · extract_lets endPos href
      split
      · refine Good.bind (pyGetItem_good _ _) (fun c _ => ?_)
        extract_lets jp
        have hjp : ∀ hh, Good (fun _ => True) (jp hh) :=
          fun hh => Good.ite (fun _ => Good.pure trivial) fun _ => Good.pure trivial
        clear_value jp
        split
        · simp only [pure_bind]; exact hjp _
        · exact Good.err (by decide)
      · exact Good.pure trivial

/-- the link destination ends at or after the character before `pos` (`parseLinkH_ge`) -/
theorem parseLinkH_good (cfg : MdCfg) (x : RxCtx) (pos : Nat) :
    Good (fun r => ∀ a p, r = some (a, p) → pos ≤ p + 1) (parseLinkH cfg x pos) := by
  refine Good.mono_eq (Q := fun _ => True) ?_ (fun r he _ => parseLinkH_ge cfg x pos r he)
  unfold parseLinkH
  refine Good.bind (parseLinkHref_good cfg x pos false) (fun r _ => ?_)
  split
  · exact Good.pure trivial
  · extract_lets t nextPos
    split
    · exact Good.pure trivial
    · exact Good.bind (escapeUrl_good cfg _) (fun url _ => Good.pure trivial)


/-! ### handlers that recurse -/

theorem mkCtx_n_le (s : Str) (e : Nat) : (mkCtx s e).n ≤ (mkCtx s e).s.size := by
  unfold mkCtx
  exact Nat.min_le_right _ _

theorem parseLinkToken_good {cfg : MdCfg} (R : Rec) (hR : RecOk cfg R) (isImage : Bool) (text : Str) (attrs : Json)
    (st : InlineState) (hab : AbbrOk cfg st.env) :
    Good (fun _ => True) (parseLinkToken R isImage text attrs st) := by
  unfold parseLinkToken
  extract_lets newState
  split
  · exact Good.bind (renderIn_good R hR _ st (mkCtx_n_le _ _) hab) (fun _ _ => Good.pure trivial)
  · exact Good.bind (renderIn_good R hR _ st (mkCtx_n_le _ _) hab) (fun _ _ => Good.pure trivial)

theorem parseLinkRef_good {cfg : MdCfg} (R : Rec) (hR : RecOk cfg R) (isImage : Bool) (text : Str) (label : Option Str)
    (endPos : Nat) (st : InlineState) (hab : AbbrOk cfg st.env) :
    Good (fun res => ∀ p, res.1 = some p → p = endPos) (parseLinkRef R isImage text label endPos st) := by
  have hnone : Good (fun res : Option Nat × InlineState => ∀ p, res.1 = some p → p = endPos)
      (.ok (none, st) : HRes) := Good.ok (fun p h => by cases h)
  unfold parseLinkRef
  split
  · exact hnone
  · split
    · exact hnone
    · split
      · exact hnone
      · extract_lets key
        split
        · exact hnone
        · split
          · exact hnone
          · extract_lets +onlyGivenNames title jp
            have hjp : ∀ url, Good (fun res => ∀ p, res.1 = some p → p = endPos) (jp url) := fun url =>
              Good.bind (parseLinkToken_good R hR isImage text _ st hab)
                (fun _ _ => Good.pure (fun p hp => by cases hp; rfl))
            clear_value jp
            split
            · simp only [pure_bind]; exact hjp _
            · exact (by decide : PyErr.keyError ≠ PyErr.noProgress)

theorem icompileSc_good (cfg : MdCfg) (rules : List String) :
    Good (fun sc => ∀ p ∈ sc, p ∈ cfg.inlineSpec) (compileSc cfg rules) :=
  Blk.lookupAll_good cfg.inlineSpec rules

theorem precedenceScan_good (cfg : MdCfg) (R : Rec) (hR : RecOk cfg R) (m : RxMatch) (st : InlineState)
    (endPos : Nat) (rules : List String) (hn : st.x.n ≤ st.x.s.size) (hab : AbbrOk cfg st.env) :
    Good (PosGe endPos) (precedenceScan cfg R m st endPos rules) := by
  unfold precedenceScan
  extract_lets markPos src0 newState
  refine Good.bind (icompileSc_good cfg rules) (fun sc _ => ?_)
  split
  · exact Good.pure PosGe.none
  · rename_i lastgroup m1 hm1
    obtain ⟨s1, s2, s3, _, _⟩ := scan_sound _ _ _ _ _ hm1
    extract_lets ruleName
    refine Good.bind (icompileSc_good cfg _) (fun sc2 _ => ?_)
    split
    · exact Good.pure PosGe.none
    · rename_i nm m2 hm2
      obtain ⟨r, _, hm2'⟩ := scanAt_sound _ _ _ _ _ hm2
      obtain ⟨e1, e2⟩ := matchAt_sound _ _ _ _ hm2'
      have hb := spec_bounds _ _ _ _ _ _ e2 (by
        have : m1.start ≤ min endPos st.x.n := by simp only at s2 s3; omega
        omega)
      refine Good.bind (hR.call ruleName m2 newState hb.2 hn hab) ?_
      rintro ⟨m2Pos, ns⟩ _
      dsimp only
      split
      · exact Good.pure PosGe.none
      · split
        · exact Good.pure PosGe.none
        · rename_i p hp
          simp only [Bool.or_eq_true, beq_iff_eq, decide_eq_true_eq, not_or, Nat.not_lt] at hp
          exact Good.pure (PosGe.stop hp.2)


theorem parseEmphasis_good (cfg : MdCfg) (R : Rec) (hR : RecOk cfg R) (hE : RecRel EnvSame R) (m : RxMatch)
    (st : InlineState) (hn : st.x.n ≤ st.x.s.size) (hab : AbbrOk cfg st.env) :
    Good (PosGe m.stop) (parseEmphasis cfg R m st) := by
  unfold parseEmphasis
  extract_lets +onlyGivenNames pos marker mlen jp
  have hjp : ∀ endRe, Good (PosGe m.stop) (jp endRe) := by
    intro endRe
    show Good _ (match endRe.search st.x pos with | none => _ | some m1 => _)
    split
    · exact Good.pure (PosGe.stop (Nat.le_refl _))
    rename_i m1 hm1
    obtain ⟨a1, a2, _⟩ := search_sound _ _ _ _ hm1
    extract_lets +onlyGivenNames endPos text
    have hend : m.stop ≤ endPos := by show m.stop ≤ m1.stop; have : pos = m.stop := rfl; omega
    clear_value endPos
    refine Good.bind_eq (precedenceScan_good cfg R hR m st endPos _ hn hab) ?_
    rintro ⟨precPos, st1⟩ he f2
    dsimp only at f2 ⊢
    have hab1 : AbbrOk cfg st1.env := hab.of_same (precedenceScan_fr hE he).2
    split
    · exact Good.pure (fun p hp hp0 => Nat.le_trans hend (f2 p hp hp0))
    -- whichever of the three tokens is built: the children are rendered from a copy of `st1`, the span ends at `endPos`
    · split
      · exact Good.bind (renderIn_good R hR _ st1 (mkCtx_n_le _ _) hab1) (fun _ _ => Good.pure (PosGe.stop hend))
      · split
        · exact Good.bind (renderIn_good R hR _ st1 (mkCtx_n_le _ _) hab1) (fun _ _ => Good.pure (PosGe.stop hend))
        · exact Good.bind (renderIn_good R hR _ st1 (mkCtx_n_le _ _) hab1) (fun _ _ => Good.pure (PosGe.stop hend))
  clear_value jp
  refine Good.ite (fun _ => Good.pure (PosGe.stop (Nat.le_refl _))) (fun _ => ?_)
  refine Good.ite (fun _ => Good.pure (PosGe.stop (Nat.le_refl _))) (fun _ => ?_)
  split
  · simp only [pure_bind]; exact hjp _
  · exact (by decide : PyErr.keyError ≠ PyErr.noProgress)


theorem parseLink_good (cfg : MdCfg) (hbr : 1 ≤ (cfg.rx "mistune.helpers._INLINE_SQUARE_BRACKET_RE").minLen)
    (R : Rec) (hR : RecOk cfg R) (hE : RecRel EnvSame R) (m : RxMatch) (st : InlineState)
    (hstop : m.stop ≤ st.x.n) (hn : st.x.n ≤ st.x.s.size) (hab : AbbrOk cfg st.env) :
    Good (PosGe m.stop) (parseLink cfg R m st) := by
  unfold parseLink
  extract_lets +onlyGivenNames pos marker lab label jp0
  have hjp0 : ∀ c0, Good (PosGe m.stop) (jp0 c0) := by
    intro c0
    show Good (PosGe m.stop) (have isImage := c0 == '!'; _)
    extract_lets +onlyGivenNames isImage
    refine Good.ite (fun _ => Good.pure (PosGe.stop (Nat.le_refl _))) (fun _ => ?_)
    refine Good.ite (fun _ => Good.pure (PosGe.stop (Nat.le_refl _))) (fun _ => ?_)
    extract_lets +onlyGivenNames jp1
    have hjp1 : ∀ te : Option (Str × Nat), (∀ t e, te = some (t, e) → m.stop ≤ e) →
        Good (PosGe m.stop) (jp1 te) := by
      intro te hte
      show Good _ (match te with | none => _ | some (text, endPos) => _)
      split
      · exact Good.pure PosGe.none
      rename_i text endPos
      have he := hte _ _ rfl
      refine Good.ite (fun _ => Good.pure PosGe.none) (fun _ => ?_)
      refine Good.bind_eq (precedenceScan_good cfg R hR m st endPos _ hn hab) ?_
      rintro ⟨precPos, st1⟩ hps f2
      dsimp only at f2 ⊢
      have hab1 : AbbrOk cfg st1.env := hab.of_same (precedenceScan_fr hE hps).2
      refine Good.ite (fun _ => Good.pure (fun p hp hp0 => Nat.le_trans he (f2 p hp hp0))) (fun _ => ?_)
      -- the reference form, with whatever label, returns the end of the text or of the label
      have hRef : ∀ (label : Option Str) (e : Nat), m.stop ≤ e →
          Good (PosGe m.stop) (parseLinkRef R isImage text label e st1) := fun label e hle =>
        (parseLinkRef_good R hR isImage text label e st1 hab1).mono
          (fun res g p hp _ => by have := g p hp; omega)
      have hR0 := hRef label endPos he
      refine Good.ite (fun _ => ?_) (fun _ => hR0)
      refine Good.ite (fun _ => ?_) (fun _ => Good.ite (fun _ => ?_) (fun _ => hR0))
      · refine Good.bind (parseLinkH_good cfg st1.x (endPos + 1)) (fun r hr => ?_)
        split
        · rename_i attrs pos2
          have h2 := hr _ _ rfl
          split
          · exact Good.bind (parseLinkToken_good R hR isImage text attrs st1 hab1)
              (fun _ _ => Good.pure (PosGe.stop (by omega)))
          · exact hR0
        · exact hR0
      · split
        · rename_i label2 pos2 hl2
          have := parseLinkLabel_ge _ _ _ _ _ hl2
          split
          · exact hRef _ _ (by omega)
          · exact hR0
        · exact hR0
    clear_value jp1
    show Good _ (match parseLinkLabel cfg st.x pos with | some (l, e) => _ | none => _)
    split
    · rename_i l e hlab
      simp only [pure_bind]
      refine hjp1 _ (fun t e' h => ?_)
      cases h
      have := parseLinkLabel_ge _ _ _ _ _ hlab
      omega
    · refine Good.bind (parseLinkText_good cfg st.x hbr pos (by omega)) (fun te hte => ?_)
      exact hjp1 te (fun t e h => by have := hte t e h; omega)
  clear_value jp0
  show Good _ (match group0 st m with | c :: _ => _ | [] => _)
  split
  · simp only [pure_bind]; exact hjp0 _
  · exact (by decide : PyErr.indexError ≠ PyErr.noProgress)


/-! ### handlers of the plugins formatting, url, math, speedup, spoiler, ruby (`Mistune.Model.InlinePlugins`) -/

theorem parseToEnd_good {cfg : MdCfg} (R : Rec) (hR : RecOk cfg R) (ty : String) (re : Rx) (m : RxMatch)
    (st : InlineState) (hab : AbbrOk cfg st.env) : Good (PosGe m.stop) (parseToEnd R ty re m st) := by
  unfold parseToEnd
  extract_lets pos
  split
  · exact Good.pure PosGe.none
  · rename_i m1 hm1
    have hs := search_sound st.x re m.stop m1 hm1
    extract_lets endPos text newState
    exact Good.bind (renderIn_good R hR newState st (mkCtx_n_le _ _) hab)
      (fun _ _ => Good.pure (PosGe.stop (by show m.stop ≤ m1.stop; omega)))

theorem parseScript_good {cfg : MdCfg} (R : Rec) (hR : RecOk cfg R) (ty : String) (m : RxMatch)
    (st : InlineState) (hab : AbbrOk cfg st.env) : Good (PosGe m.stop) (parseScript R ty m st) := by
  unfold parseScript
  extract_lets text newState
  exact Good.bind (renderIn_good R hR newState st (mkCtx_n_le _ _) hab)
    (fun _ _ => Good.pure (PosGe.stop (Nat.le_refl _)))

theorem parseInlineSpoiler_good (cfg : MdCfg) (R : Rec) (hR : RecOk cfg R) (m : RxMatch)
    (st : InlineState) (hab : AbbrOk cfg st.env) : Good (PosGe m.stop) (parseInlineSpoiler cfg R m st) := by
  unfold parseInlineSpoiler
  extract_lets text newState
  exact Good.bind (renderIn_good R hR newState st (mkCtx_n_le _ _) hab)
    (fun _ _ => Good.pure (PosGe.stop (Nat.le_refl _)))

theorem parseUrlLink_good (cfg : MdCfg) (m : RxMatch) (st : InlineState) (hab : AbbrOk cfg st.env) :
    Good (PosGe m.stop) (parseUrlLink cfg m st) := by
  unfold parseUrlLink
  extract_lets text pos
  split
  · exact Good.bind (processTextC_good cfg text st hab) (fun _ _ => Good.pure (PosGe.stop (Nat.le_refl _)))
  · exact Good.bind (escapeUrl_good cfg _) (fun _ _ => Good.pure (PosGe.stop (Nat.le_refl _)))

theorem parseInlineMath_good (cfg : MdCfg) (m : RxMatch) (st : InlineState) :
    Good (IPost m st) (parseInlineMath cfg m st) := Good.ok ⟨⟨rfl, rfl⟩, PosGe.stop (Nat.le_refl _)⟩

theorem parseText_good (cfg : MdCfg) (m : RxMatch) (st : InlineState) (hab : AbbrOk cfg st.env) :
    Good (PosGe m.stop) (parseText cfg m st) := by
  unfold parseText
  extract_lets text text2
  exact Good.bind (processTextC_good cfg text2 st hab) (fun _ _ => Good.pure (PosGe.stop (Nat.le_refl _)))

theorem rubyTokens_good (g0 : Str) : Good (fun _ => True) (rubyTokens g0) := by
  unfold rubyTokens
  extract_lets text
  generalize Py.splitOn [')'] text = items
  induction items with
  | nil => exact Good.ok trivial
  | cons a l ih =>
    rw [List.mapM_cons]
    refine Good.bind (Q := fun _ => True) ?_ (fun t _ => Good.bind ih (fun ts _ => Good.pure trivial))
    split
    · exact Good.ok trivial
    · exact Good.err (by decide)

/-- the `while True` loop of `parse_ruby` ends: every further group consumes a character (`hre`), or there is no
pattern at all and the loop ends at once -/
theorem rubyLoop_good (cfg : MdCfg) (hre : rubyRe cfg = .fail ∨ 1 ≤ (rubyRe cfg).minLen) :
    ∀ (fuel : Nat) (m : RxMatch) (st : InlineState), m.stop ≤ st.x.n → st.x.n - m.stop < fuel →
      Good (fun _ => True) (rubyLoop cfg fuel m st) := by
  intro fuel
  induction fuel with
  | zero => intro m st _ h; omega
  | succ fuel ih =>
    intro m st hstop hfu
    unfold rubyLoop
    refine Good.bind (rubyTokens_good _) (fun tokens _ => ?_)
    extract_lets endPos
    split
    · exact Good.pure trivial
    · rename_i next hnext
      have hmin : 1 ≤ (rubyRe cfg).minLen := by
        rcases hre with hf | hm
        · rw [hf] at hnext; simp [Rx.matchAt, Rx.m] at hnext
        · exact hm
      obtain ⟨h1, h2⟩ := matchAt_sound _ _ _ _ hnext
      have h3 := minLen_sound _ _ _ _ _ _ h2
      have h4 := (spec_bounds _ _ _ _ _ _ h2 hstop).2
      have hx := foldl_appendToken_x tokens st
      exact ih next _ (by rw [hx]; exact h4) (by rw [hx]; show st.x.n - next.stop < fuel; omega)

theorem parseRubyLink_good (cfg : MdCfg) (st : InlineState) (pos : Nat) (tokens : List Json) :
    Good (fun _ => True) (parseRubyLink cfg st pos tokens) := by
  unfold parseRubyLink
  refine Good.bind (pyGetItem_good _ _) (fun c _ => ?_)
  refine Good.ite (fun _ => ?_) fun _ => Good.ite (fun _ => ?_) fun _ => Good.pure trivial
  · -- `[text](url)`
    refine Good.bind (parseLinkH_good cfg st.x (pos + 1)) (fun r _ => ?_)
    cases r with
    | none => exact Good.pure trivial
    | some al => exact Good.ite (fun _ => Good.pure trivial) fun _ => Good.pure trivial
  · -- `[text][label]`: only `env["url"]` of the reference may raise, a `KeyError`
    cases parseLinkLabel cfg st.x (pos + 1) with
    | none => exact Good.pure trivial
    | some ll =>
      refine Good.ite (fun _ => ?_) fun _ => Good.pure trivial
      extract_lets key env?
      clear_value env?
      cases env? with
      | none => exact Good.pure trivial
      | some env =>
        refine Good.ite (fun _ => ?_) fun _ => Good.pure trivial
        cases env.get? "url" with
        | none => exact Good.err (by decide)
        | some u => exact Good.bind (Q := fun _ => True) (Good.pure trivial) (fun _ _ => Good.pure trivial)

/-- where `parse_ruby` ends is `parseRuby_spec`; what remains is that its loop ends -/
theorem parseRuby_good (cfg : MdCfg) (hre : rubyRe cfg = .fail ∨ 1 ≤ (rubyRe cfg).minLen) (m : RxMatch)
    (st : InlineState) (hstop : m.stop ≤ st.x.n) (hn : st.x.n ≤ st.x.s.size) :
    Good (PosGe m.stop) (parseRuby cfg m st) := by
  refine Good.mono_eq (Q := fun _ => True) ?_ (fun res he _ p hp _ => ?_)
  · unfold parseRuby
    refine Good.bind (rubyLoop_good cfg hre _ m st hstop (by show st.x.n - m.stop < st.x.s.size + 1; omega)) ?_
    rintro ⟨tokens, endPos, st1⟩ _
    dsimp only
    have key : ∀ (e : HRes), Good (fun _ => True) e →
        Good (fun _ => True) (e >>= fun x => if posTruthy x.fst = true then pure (x.fst, x.snd)
          else pure (some endPos, List.foldl (fun s t => s.appendToken t) x.snd tokens)) :=
      fun e he => Good.bind he (fun _ _ => Good.ite (fun _ => Good.pure trivial) fun _ => Good.pure trivial)
    split
    · exact key _ (parseRubyLink_good cfg st1 endPos tokens)
    · exact key _ (Good.pure trivial)
  · obtain ⟨⟨q, hq, hle⟩, _⟩ := parseRuby_spec cfg m st res.1 res.2 he
    rw [hq] at hp
    cases hp
    exact hle


/-! ### dispatch, the scanner loop, induction on the nesting budget -/

/-- **the decidable obligation on a configuration (inline side)**: every rule of `inline.specification` consumes at
least one character, and so do `_INLINE_SQUARE_BRACKET_RE` (the loop of `parse_link_text`) and `_ruby_re` (the loop
over adjacent groups of `parse_ruby`; `.fail` when the tree has no such pattern) -/
def ICfgOk (cfg : MdCfg) : Bool :=
  rulesConsume cfg.inlineSpec && decide (1 ≤ (cfg.rx "mistune.helpers._INLINE_SQUARE_BRACKET_RE").minLen) &&
    (decide (rubyRe cfg = .fail) || decide (1 ≤ (rubyRe cfg).minLen))

structure IFacts (cfg : MdCfg) : Prop where
  spec : ∀ n r, (n, r) ∈ cfg.inlineSpec → 1 ≤ r.minLen
  bracket : 1 ≤ (cfg.rx "mistune.helpers._INLINE_SQUARE_BRACKET_RE").minLen
  /-- `_ruby_re` (the loop over adjacent groups in `parse_ruby`) consumes a character, or there is no such pattern -/
  ruby : rubyRe cfg = .fail ∨ 1 ≤ (rubyRe cfg).minLen

theorem iFacts_of_ok {cfg : MdCfg} (h : ICfgOk cfg = true) : IFacts cfg := by
  unfold ICfgOk rulesConsume at h
  simp only [Bool.and_eq_true, Bool.or_eq_true, decide_eq_true_eq, List.all_eq_true] at h
  exact ⟨fun n r hm => h.1.1 _ hm, h.1.2, h.2⟩

/-- every handler bound by `parseMethod` satisfies the contract: the frame is `parseMethod_fr`, the position comes
handler by handler -/
theorem parseMethod_good (cfg : MdCfg) (hf : IFacts cfg) (R : Rec) (hR : RecOk cfg R) (hE : RecRel EnvSame R)
    (name : String) (m : RxMatch) (st : InlineState) (hstop : m.stop ≤ st.x.n) (hn : st.x.n ≤ st.x.s.size)
    (hab : AbbrOk cfg st.env) : Good (IPost m st) (parseMethod cfg R name m st) := by
  refine Good.mono_eq (Q := PosGe m.stop) ?_ (fun res he hp => ⟨parseMethod_fr hE he, hp⟩)
  unfold parseMethod
  split
  · exact Good.err (by decide)
  -- one goal per arm of the dispatcher, in its order
  split
  · exact Good.ok (PosGe.stop (Nat.le_refl _))
  · exact parseCodespan_good m st
  · exact parseEmphasis_good cfg R hR hE m st hn hab
  · exact parseLink_good cfg hf.bracket R hR hE m st hstop hn hab
  · exact parseAutoLink_good cfg m st hab
  · exact parseAutoEmail_good cfg m st hab
  · exact Good.ok (PosGe.stop (Nat.le_refl _))
  · exact Good.ok (PosGe.stop (Nat.le_refl _))
  · exact Good.ok (PosGe.stop (Nat.le_refl _))
  · exact parseInlineFootnote_good cfg m st
  · exact parseToEnd_good R hR _ _ m st hab
  · exact parseToEnd_good R hR _ _ m st hab
  · exact parseToEnd_good R hR _ _ m st hab
  · exact parseScript_good R hR _ m st hab
  · exact parseScript_good R hR _ m st hab
  · exact parseUrlLink_good cfg m st hab
  · exact Good.ok (PosGe.stop (Nat.le_refl _))
  · exact parseText_good cfg m st hab
  · exact parseRuby_good cfg hf.ruby m st hstop hn
  · exact parseInlineSpoiler_good cfg R hR m st hab
  · exact Good.err (by decide)

theorem parseLoop_good (cfg : MdCfg) (hf : IFacts cfg) (R : Rec) (hR : RecOk cfg R) (hE : RecRel EnvSame R)
    (sc : List (String × Rx)) (hsc : ∀ p ∈ sc, p ∈ cfg.inlineSpec) :
    ∀ (fuel pos : Nat) (st : InlineState), st.len - pos < fuel → st.x.n ≤ st.x.s.size → AbbrOk cfg st.env →
      Good (fun res => Fr st res.2) (parseLoop cfg R sc fuel pos st) := by
  intro fuel
  induction fuel with
  | zero => intro pos st h; omega
  | succ fuel ih =>
    intro pos st hfu hn hab
    unfold parseLoop
    refine Good.ite (fun hlt => ?_) (fun _ => Good.ok Fr.refl)
    split
    · exact Good.ok Fr.refl
    · rename_i name m hscan
      obtain ⟨s1, s2, s3, ⟨r, hmem, hspec⟩, _⟩ := scan_sound _ _ _ _ _ hscan
      have hne := nonempty_of_minLen _ _ _ _ _ _ hspec (hf.spec _ _ (hsc _ hmem))
      extract_lets +onlyGivenNames endPos
      extract_lets +onlyGivenNames pos1 jp
      -- the loop goes on from any later position, in any state with the frame of `st`
      have hrec : ∀ (p : Nat) (st3 : InlineState), pos < p → Fr st st3 →
          Good (fun res => Fr st res.2) (parseLoop cfg R sc fuel p st3) := by
        intro p st3 hp h3
        have hlen3 : st3.len = st.len := by unfold InlineState.len; rw [h3.1]
        exact (ih p st3 (by omega) (by rw [h3.1]; exact hn) (hab.of_same h3.2)).mono
          (fun res hres => h3.trans hres)
      have hjp : ∀ st1, Fr st st1 → Good (fun res => Fr st res.2) (jp st1) := by
        intro st1 h1
        refine Good.bind (parseMethod_good cfg hf R hR hE name m st1 (by rw [h1.1]; exact s3)
          (by rw [h1.1]; exact hn) (hab.of_same h1.2)) ?_
        rintro ⟨newPos, st2⟩ ⟨g1, g2⟩
        dsimp only at g1 g2 ⊢
        have h2 := h1.trans g1
        have hdecl : Good (fun res => Fr st res.2)
            (do let st3 ← processTextC cfg (st2.slice endPos (endPos + 1)) st2
                parseLoop cfg R sc fuel (endPos + 1) st3) :=
          Good.bind_eq (processTextC_good cfg _ st2 (hab.of_same h2.2))
            (fun st3 h3 _ => hrec _ st3 (by omega) (h2.trans (processTextC_fr h3)))
        split
        · rename_i p
          split
          · rename_i hp0
            have := g2 p rfl (by simpa using hp0)
            rw [if_neg (by omega)]
            exact hrec p st2 (by omega) h2
          · exact hdecl
        · exact hdecl
      clear_value jp
      split
      · exact Good.bind_eq (processTextC_good cfg _ st hab) (fun st1 h1 _ => hjp st1 (processTextC_fr h1))
      · simp only [pure_bind]; exact hjp st Fr.refl

theorem parse_good (cfg : MdCfg) (hf : IFacts cfg) (R : Rec) (hR : RecOk cfg R) (hE : RecRel EnvSame R)
    (st : InlineState) (hn : st.x.n ≤ st.x.s.size) (hab : AbbrOk cfg st.env) :
    Good (fun st' => Fr st st') (parse cfg R st) := by
  unfold parse
  refine Good.bind (icompileSc_good cfg _) (fun sc hsc => ?_)
  refine Good.bind (parseLoop_good cfg hf R hR hE sc hsc (st.len + 1) 0 st (by omega) hn hab) ?_
  rintro ⟨pos, st1⟩ h1
  dsimp only at h1 ⊢
  have htext : ∀ t, Good (fun st' => Fr st st') (processTextC cfg t st1) := fun t =>
    (processTextC_good cfg t st1 (hab.of_same h1.2)).mono_eq (fun st' h _ => h1.trans (processTextC_fr h))
  split
  · exact htext _
  · split
    · exact htext _
    · exact Good.pure h1

/-- **every instance of the recursive entry points satisfies its contract** (induction on the nesting budget) -/
theorem recAt_ok (cfg : MdCfg) (hf : IFacts cfg) : ∀ fuel, RecOk cfg (recAt cfg fuel) := by
  intro fuel
  induction fuel with
  | zero => exact ⟨fun st _ _ => Good.err (by decide), fun name m st _ _ _ => Good.err (by decide)⟩
  | succ fuel ih =>
    have hE := recAt_rel cfg EnvSame (envSame_rel cfg) fuel
    refine ⟨fun st hn hab => ?_, fun name m st hstop hn hab => ?_⟩
    · exact (parse_good cfg hf _ ih hE st hn hab).mono (fun st' h => h.2)
    · exact (parseMethod_good cfg hf _ ih hE name m st hstop hn hab).mono (fun res h => h.1.2)

/-- the entry point keeps the abbreviation table of `env` -/
theorem inlineParseEnv_good (cfg : MdCfg) (hf : IFacts cfg) (env : Json) (hab : AbbrOk cfg env) (src : Str) :
    Good (fun res => EnvSame env res.2) (Inl.inlineParseEnv cfg env src) := by
  unfold Inl.inlineParseEnv
  split
  · exact Good.throw (by decide)
  · unfold renderSt
    refine Good.bind (parse_good cfg hf _ (recAt_ok cfg hf inlineFuel)
      (recAt_rel cfg EnvSame (envSame_rel cfg) inlineFuel) ((InlineState.new env).setSrc src) (mkCtx_n_le _ _) hab)
      (fun st h => ?_)
    exact Good.pure h.2

theorem inlineParse_good (cfg : MdCfg) (hf : IFacts cfg) (env : Json) (hab : AbbrOk cfg env) (src : Str) :
    Good (fun _ => True) (Inl.inlineParse cfg env src) := by
  unfold Inl.inlineParse
  refine Good.bind (inlineParseEnv_good cfg hf env hab src) ?_
  rintro ⟨toks, e⟩ _
  exact Good.pure trivial

/-- **C01, progress of the concrete inline parser.**  For a configuration whose regenerated tables pass `ICfgOk`,
every source string and every `env` without an empty abbreviation key, no loop of the inline model returns
`.noProgress`. -/
theorem inlineParseEnv_no_noProgress (cfg : MdCfg) (hok : ICfgOk cfg = true) (env : Json) (hab : AbbrOk cfg env)
    (src : Str) : Inl.inlineParseEnv cfg env src ≠ .error .noProgress :=
  (inlineParseEnv_good cfg (iFacts_of_ok hok) env hab src).noProgress

theorem inlineParse_no_noProgress (cfg : MdCfg) (hok : ICfgOk cfg = true) (env : Json) (hab : AbbrOk cfg env)
    (src : Str) : Inl.inlineParse cfg env src ≠ .error .noProgress :=
  (inlineParse_good cfg (iFacts_of_ok hok) env hab src).noProgress

end Inl
end Model
end Mistune

namespace Mistune
open Mistune.Model Mistune.Model.Inl Mistune.Generated

theorem Model.inlineParse_no_noProgress (cfg : MdCfg) (hok : ICfgOk cfg = true) (env : Json) (hab : AbbrOk cfg env)
    (src : Str) : Model.inlineParse cfg env src ≠ .error .noProgress :=
  Inl.inlineParse_no_noProgress cfg hok env hab src

theorem Model.inlineParseEnv_no_noProgress (cfg : MdCfg) (hok : ICfgOk cfg = true) (env : Json) (hab : AbbrOk cfg env)
    (src : Str) : Model.inlineParseEnv cfg env src ≠ .error .noProgress :=
  Inl.inlineParseEnv_no_noProgress cfg hok env hab src

/-- **Obligation (C01, concrete inline parser):** every regenerated configuration passes `ICfgOk`. -/
theorem allCfgs_iCfgOk : allCfgs.all (fun c => ICfgOk (ofRuleCfg c)) = true := by decide +kernel

/-- an `env` without abbreviation table (every configuration without the `abbr` plugin) satisfies `AbbrOk` -/
theorem abbrOk_of_none (cfg : MdCfg) (env : Json) (h : env.get? "ref_abbrs" = none) : AbbrOk cfg env := by
  intro _ kv hkv; rw [h] at hkv; cases hkv

/-- a configuration without the `abbr` plugin needs nothing of `env` -/
theorem abbrOk_of_unregistered (cfg : MdCfg) (env : Json) (h : (cfg.blockSpec.lookup "ref_abbr").isSome = false) :
    AbbrOk cfg env := by
  intro hreg; rw [h] at hreg; cases hreg

/-- for a configuration without the `abbr` plugin: no hypothesis on `env` at all -/
theorem Model.inlineParse_no_noProgress_noabbr (cfg : MdCfg) (hok : ICfgOk cfg = true)
    (hno : (cfg.blockSpec.lookup "ref_abbr").isSome = false) (env : Json) (src : Str) :
    Model.inlineParse cfg env src ≠ .error .noProgress :=
  Model.inlineParse_no_noProgress cfg hok env (abbrOk_of_unregistered cfg env hno) src

theorem iCfgOk_of_mem {c : RuleCfg} (hc : c ∈ allCfgs) : ICfgOk (ofRuleCfg c) = true :=
  List.all_eq_true.1 allCfgs_iCfgOk c hc

/-- the headline theorem for every regenerated configuration -/
theorem allCfgs_inlineParse_no_noProgress (c : RuleCfg) (hc : c ∈ allCfgs) (env : Json) (hab : AbbrOk (ofRuleCfg c) env)
    (src : Str) : Model.inlineParse (ofRuleCfg c) env src ≠ .error .noProgress :=
  Model.inlineParse_no_noProgress _ (iCfgOk_of_mem hc) env hab src

-- non-vacuity
example : ICfgOk (ofRuleCfg cfg_core) = true := iCfgOk_of_mem List.mem_cons_self
example : AbbrOk (ofRuleCfg cfg_only_abbr) (.obj [("ref_links", .obj [])]) := abbrOk_of_none _ _ rfl
example : ((ofRuleCfg cfg_core).blockSpec.lookup "ref_abbr").isSome = false := by decide +kernel
example : AbbrOk (ofRuleCfg cfg_only_abbr) (.obj [("ref_abbrs", .obj [("HTML", .str "x".toList)])]) := by
  intro _ kv hkv p hp
  simp [Json.get?, List.lookup] at hkv
  subst hkv
  simp at hp
  subst hp
  decide
example : isOkRes (Model.inlineParse (ofRuleCfg cfg_core) (.obj [("ref_links", .obj [])])
    "a *b* [c](d) `e` <f@g.h>".toList) = true := by decide +kernel

-- the `abbr` plugin's `process_text` loop runs (configuration with the plugin, an `env` with an abbreviation)
example : isOkRes (Model.inlineParse (ofRuleCfg cfg_only_abbr)
    (.obj [("ref_links", .obj []), ("ref_abbrs", .obj [("HTML", .str "x".toList)])])
    "the HTML spec".toList) = true := by decide +kernel

/-- the hypothesis `AbbrOk` is necessary: with an empty abbreviation key the model does reach `.noProgress` (the
compiled alternation would match the empty string at every position) -/
example : isNoProgress (Model.inlineParse (ofRuleCfg cfg_only_abbr)
    (.obj [("ref_links", .obj []), ("ref_abbrs", .obj [("", .str "x".toList)])]) "ab".toList) = true := by
  decide +kernel

end Mistune
