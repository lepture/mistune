/-
C01, progress contract of the concrete block parser: block quotes, lists, the induction on the nesting budget and
the headline theorem `blockParse_no_noProgress`.  Framework (`Good`, `Pre`, `Post`) and the other handlers:
`C01Progress`, `C01ProgressPlugins`, `C01ProgressDirectives`.
-/
import MistuneProofs.C01Progress
import MistuneProofs.C01ProgressPlugins
import MistuneProofs.C01ProgressDirectives
import Mistune.Model.BlockDispatch
import Mistune.Generated.Regex
namespace Mistune
namespace Model
namespace Blk

/-! ### block quotes -/

/-- result of the quote extraction relative to a reference position `c0` -/
def QuotePost (st : BlockState) (res : Str × Option Nat × BlockState) : Prop :=
  res.2.2.x = st.x ∧ res.2.2.cursorMax = st.cursorMax ∧ PosOk st.cursor res.2.1 ∧ st.cursor ≤ res.2.2.cursor

/-- the extraction resumed from a later state of the same frame -/
theorem QuotePost.of_later {st st1 : BlockState} {res : Str × Option Nat × BlockState} (hx : st1.x = st.x)
    (hm : st1.cursorMax = st.cursorMax) (hc : st.cursor ≤ st1.cursor) (h : QuotePost st1 res) : QuotePost st res :=
  ⟨h.1.trans hx, h.2.1.trans hm, h.2.2.1.weaken hc, Nat.le_trans hc h.2.2.2⟩

theorem extractQuoteLoop_good (cfg : MdCfg) (hf : CfgFacts cfg) (pm : ParseMethod) (hpm : PMProgress pm)
    (breakSc : List (String × Rx)) (hsc : ScOk breakSc) :
    ∀ (fuel : Nat) (text : Str) (pbl : Bool) (endPos : Option Nat) (st : BlockState), Inv st →
      truthyPos endPos = false → st.cursorMax - st.cursor ≤ fuel →
      Good (QuotePost st) (extractQuoteLoop cfg pm breakSc fuel text pbl endPos st) := by
  intro fuel
  induction fuel with
  | zero =>
    intro text pbl endPos st _ hfalsy hfu
    unfold extractQuoteLoop
    rw [if_neg (by omega)]
    exact Good.ok ⟨rfl, rfl, PosOk.of_falsy hfalsy, Nat.le_refl _⟩
  | succ fuel ih =>
    intro text pbl endPos st hinv hfalsy hfu
    have hinv' : st.x.n = st.cursorMax := hinv
    have hstay : QuotePost st (text, endPos, st) := ⟨rfl, rfl, PosOk.of_falsy hfalsy, Nat.le_refl _⟩
    unfold extractQuoteLoop
    refine Good.ite (fun hlt => ?_) fun _ => Good.ok hstay
    -- both recursive calls start from a state of the same frame whose cursor has moved forward
    have hrec : ∀ (text' : Str) (pbl' : Bool) (e : Option Nat) (st1 : BlockState), st1.x = st.x →
        st1.cursorMax = st.cursorMax → st.cursor < st1.cursor → truthyPos e = false →
        Good (QuotePost st) (extractQuoteLoop cfg pm breakSc fuel text' pbl' e st1) :=
      fun text' pbl' e st1 e1 e2 e3 he =>
        (ih text' pbl' e st1 (hinv.of_frame e1 e2) he (by rw [e2]; omega)).mono
          fun _ => QuotePost.of_later e1 e2 (Nat.le_of_lt e3)
    split
    · rename_i m3 hm3
      have := (pyMatchAt_consumes hf.strict hm3).1
      exact hrec _ _ _ { st with cursor := m3.stop } rfl rfl (by show st.cursor < m3.stop; omega) hfalsy
    · refine Good.ite (fun _ => Good.ok hstay) fun _ => ?_
      extract_lets jp
      have hjp : ∀ res : Option Nat × BlockState, Post st res → Good (QuotePost st) (jp res) := by
        rintro ⟨e, st1⟩ ⟨p1, p2, p3, p5, p4⟩
        dsimp only at p1 p2 p3 p4 p5
        refine Good.ite (fun _ => Good.pure ⟨p1, p2, p3, p5⟩) fun hfa => ?_
        have hfa' : truthyPos e = false := by simpa using hfa
        have hc1 := p4 hfa'
        refine Good.bind (findLineEnd_good cfg hf.lineEnd st1) (fun pos hp => ?_)
        have := hp.2.2 (by rw [p1, hc1]; omega)
        exact hrec _ _ _ { st1 with cursor := pos } p1 p2 (by show st.cursor < pos; omega) hfa'
      clear_value jp
      split
      · rename_i nm m4 hm4
        exact Good.bind (hpm _ _ _ (pre_of_scMatch hsc hinv (by omega) hm4)) hjp
      · simp only [pure_bind]
        exact hjp _ ⟨rfl, rfl, PosOk.of_falsy hfalsy, Nat.le_refl _, fun _ => rfl⟩


/-- result of `extract_block_quote` relative to the match start -/
def QuotePost2 (st : BlockState) (mt : RxMatch) (res : Str × Option Nat × BlockState) : Prop :=
  res.2.2.x = st.x ∧ res.2.2.cursorMax = st.cursorMax ∧ PosOk mt.start res.2.1 ∧ mt.start < res.2.2.cursor

theorem extractBlockQuote_good (cfg : MdCfg) (hf : CfgFacts cfg) (pm : ParseMethod) (hpm : PMProgress pm)
    (name : String) (mt : RxMatch) (st : BlockState) (hpre : Pre name mt st) :
    Good (QuotePost2 st mt) (extractBlockQuote cfg pm mt st) := by
  obtain ⟨hinv, h2, h3, h4, _⟩ := hpre
  unfold extractBlockQuote
  extract_lets text1 text2 text3 st2
  refine Good.bind (compileSc_good cfg hf.spec _) (fun sc _ => ?_)
  extract_lets requireMarker
  have hc2 : st2.cursor = mt.stop + 1 := rfl
  split
  · split
    · rename_i m2 hm2
      have := (pyMatchAt_consumes hf.strict hm2).1
      refine Good.pure ⟨rfl, rfl, PosOk.none, ?_⟩
      show mt.start < m2.stop
      have hx : st2.x = st.x := rfl
      rw [hc2, hx] at this
      omega
    · exact Good.pure ⟨rfl, rfl, PosOk.none, by show mt.start < mt.stop + 1; omega⟩
  · refine Good.bind (compileSc_good cfg hf.spec _) (fun breakSc hbs => ?_)
    have := extractQuoteLoop_good cfg hf pm hpm breakSc hbs (st2.cursorMax + 1) text3 false none st2 hinv rfl
      (by omega)
    refine Good.bind this ?_
    rintro ⟨t, e, st'⟩ ⟨q1, q2, q3, q4⟩
    dsimp only at q1 q2 q3 q4
    rw [hc2] at q3 q4
    exact Good.pure ⟨q1, q2, q3.weaken (by omega), by show mt.start < st'.cursor; omega⟩

theorem parseBlockQuote_good (cfg : MdCfg) (hf : CfgFacts cfg) (pm : ParseMethod) (hpm : PMProgress pm)
    (name : String) (mt : RxMatch) (st : BlockState) (hpre : Pre name mt st) :
    Good (Post st) (parseBlockQuote cfg pm mt st) := by
  have hq := extractBlockQuote_good cfg hf pm hpm name mt st hpre
  obtain ⟨hinv, h2, h3, h4, _⟩ := hpre
  unfold parseBlockQuote
  extract_lets tokIndex
  refine Good.bind hq ?_
  rintro ⟨text, endPos, st1⟩ ⟨q1, q2, q3, q4⟩
  dsimp only at q1 q2 q3 q4
  show Good _ (parse cfg pm (st1.childState text) _ >>= _)
  refine Good.bind (parse_good cfg hf pm hpm _ (inv_childState _ _) _) (fun child _ => ?_)
  extract_lets st3 token
  rw [h2] at q3 q4
  exact Good.ite (fun htr => Good.pure (Post.of_truthy q1 q2 (Nat.le_of_lt q4) htr q3))
    fun _ => Good.pure (Post.of_some q1 q2 (Nat.le_of_lt q4) q4)


/-- `spoiler.parse_block_spoiler` (the function the plugin binds to `block_quote`): same extraction, same child parse -/
theorem parseBlockSpoiler_good (cfg : MdCfg) (hf : CfgFacts cfg) (pm : ParseMethod) (hpm : PMProgress pm)
    (name : String) (mt : RxMatch) (st : BlockState) (hpre : Pre name mt st) :
    Good (Post st) (parseBlockSpoiler cfg pm mt st) := by
  have hq := extractBlockQuote_good cfg hf pm hpm name mt st hpre
  obtain ⟨hinv, h2, h3, h4, _⟩ := hpre
  unfold parseBlockSpoiler
  extract_lets tokIndex
  refine Good.bind hq ?_
  rintro ⟨text, endPos, st1⟩ ⟨q1, q2, q3, q4⟩
  dsimp only at q1 q2 q3 q4
  dsimp only
  show Good _ (parse cfg pm (st1.childState _) _ >>= _)
  refine Good.bind (parse_good cfg hf pm hpm _ (inv_childState _ _) _) (fun child _ => ?_)
  rw [h2] at q3 q4
  exact Good.ite (fun htr => Good.pure (Post.of_truthy q1 q2 (Nat.le_of_lt q4) htr q3))
    fun _ => Good.pure (Post.of_some q1 q2 (Nat.le_of_lt q4) q4)


/-! ### lists: token bookkeeping -/

theorem lookup_map_self (kv : List (String × Json)) (k : String) (v w : Json)
    (h : (kv.map (fun p => if p.1 == k then (k, v) else p)).lookup k = some w) : w = v := by
  induction kv with
  | nil => simp at h
  | cons p kv ih =>
    obtain ⟨a, b⟩ := p
    simp only [List.map_cons] at h
    by_cases hak : a = k
    · subst hak
      simp [List.lookup] at h
      exact h.symm
    · have h1 : (a == k) = false := by simpa using hak
      have h2 : (k == a) = false := by simpa using (Ne.symm hak)
      simp only [h1, Bool.false_eq_true, if_false, List.lookup, h2] at h
      exact ih h

theorem lookup_append_self (kv : List (String × Json)) (k : String) (v w : Json)
    (hno : kv.any (fun p => p.1 == k) = false) (h : (kv ++ [(k, v)]).lookup k = some w) : w = v := by
  induction kv with
  | nil => simp at h; exact h.symm
  | cons p kv ih =>
    obtain ⟨a, b⟩ := p
    simp only [List.any_cons, Bool.or_eq_false_iff] at hno
    have h1 : (a == k) = false := hno.1
    have h2 : (k == a) = false := by
      have : a ≠ k := by simpa using h1
      simpa using (Ne.symm this)
    simp only [List.cons_append, List.lookup, h2] at h
    exact ih hno.2 h

theorem get?_set_self (j : Json) (k : String) (v w : Json) (h : (j.set k v).get? k = some w) : w = v := by
  cases j with
  | obj kv =>
    simp only [Json.set] at h
    split at h
    · exact lookup_map_self kv k v w h
    · rename_i hno
      exact lookup_append_self kv k v w (Bool.eq_false_iff.2 hno) h
  | _ => simp [Json.set, Json.get?] at h

/-- the `_end_pos` that the list loop may have recorded in the list token lies after `c0` -/
def TokOk (c0 : Nat) (token : Json) : Prop :=
  ∀ n : Int, token.get? "_end_pos" = some (.num n) → n.toNat ≠ 0 → c0 < n.toNat

theorem TokOk.set_ne {c0 : Nat} {token : Json} (h : TokOk c0 token) (k : String) (v : Json) (hk : "_end_pos" ≠ k) :
    TokOk c0 (token.set k v) := by
  intro n hn; rw [get?_set_ne _ _ _ _ hk] at hn; exact h n hn

theorem TokOk.set_end {c0 : Nat} (token : Json) (e : Nat) (he : c0 < e) :
    TokOk c0 (token.set "_end_pos" (.num e)) := by
  intro n hn _
  have := get?_set_self _ _ _ _ hn
  cases this
  simpa using he

/-- `token.pop("_end_pos", None)` -/
theorem TokOk.endPos {c0 : Nat} {token : Json} (h : TokOk c0 token) :
    PosOk c0 (match token.get? "_end_pos" with | some (.num n) => some n.toNat | _ => none) := by
  split
  · rename_i n hn
    exact fun htr => h n hn (truthyPos_getD htr).2
  · exact PosOk.none

theorem isLooseList_good : ∀ (l : List Json) (n : Nat), Good (fun _ => True) (isLooseList l n) := by
  intro l
  induction l with
  | nil => intro n; exact Good.ok trivial
  | cons t rest ih =>
    intro n
    unfold isLooseList
    refine Good.bind (typeOf_good _) (fun ty _ => ?_)
    split
    · exact Good.pure trivial
    · split
      · split
        · exact Good.pure trivial
        · exact ih _
      · exact ih _

theorem transformTightList_good : ∀ (fuel : Nat) (t : Json), Good (fun _ => True) (transformTightList fuel t) := by
  intro fuel
  induction fuel with
  | zero => intro t; exact Good.err (by decide)
  | succ fuel ih =>
    intro t
    unfold transformTightList
    refine Good.bind (getE_good _ _) (fun a _ => ?_)
    split
    · refine Good.bind (childrenOf_good _) (fun items _ => ?_)
      refine Good.bind (good_mapM _ (fun li => ?_) _) (fun _ _ => Good.pure trivial)
      refine Good.bind (childrenOf_good _) (fun cs _ => ?_)
      refine Good.bind (good_mapM _ (fun t' => ?_) _) (fun _ _ => Good.pure trivial)
      refine Good.bind (typeOf_good _) (fun ty _ => ?_)
      split
      · exact Good.pure trivial
      · split
        · exact ih _
        · exact Good.pure trivial
    · exact Good.pure trivial


/-! ### lists: the loops -/

/-- result of the list-item loops: same subject and range, the cursor did not move backwards, the recorded
`_end_pos` is fine, and a following item means the cursor moved forward inside the range -/
def ItemPost (c0 : Nat) (st : BlockState) (ng : Option ItemGroups) (token : Json) (st' : BlockState) : Prop :=
  st'.x = st.x ∧ st'.cursorMax = st.cursorMax ∧ st.cursor ≤ st'.cursor ∧ TokOk c0 token ∧
    (ng.isSome = true → st.cursor < st'.cursor ∧ st.cursor < st.cursorMax)

/-- the loop resumed from a later state of the same frame: a following item then lies after `st.cursor` as well -/
theorem ItemPost.of_later {c0 : Nat} {st st1 st' : BlockState} {ng : Option ItemGroups} {token : Json}
    (hx : st1.x = st.x) (hm : st1.cursorMax = st.cursorMax) (hc : st.cursor < st1.cursor)
    (hlt : st.cursor < st.cursorMax) (h : ItemPost c0 st1 ng token st') : ItemPost c0 st ng token st' :=
  have hle : st.cursor < st'.cursor := Nat.lt_of_lt_of_le hc h.2.2.1
  ⟨h.1.trans hx, h.2.1.trans hm, Nat.le_of_lt hle, h.2.2.2.1, fun _ => ⟨hle, hlt⟩⟩

theorem listItemLoop_good (cfg : MdCfg) (hf : CfgFacts cfg) (pm : ParseMethod) (hpm : PMProgress pm)
    (sc : List (String × Rx)) (hsc : ScOk sc) (text continueSpace : Str) (c0 : Nat) :
    ∀ (fuel pos : Nat) (src : Str) (pbl : Bool) (token : Json) (st : BlockState), Inv st → pos = st.cursor →
      st.cursorMax - pos ≤ fuel → TokOk c0 token → c0 ≤ st.cursor →
      Good (fun res => ItemPost c0 st res.2.1 res.2.2.1 res.2.2.2)
        (listItemLoop cfg pm sc text continueSpace fuel pos src pbl token st) := by
  intro fuel
  induction fuel with
  | zero =>
    intro pos src pbl token st _ hpos hfu htok _
    unfold listItemLoop
    rw [if_neg (by omega)]
    exact Good.ok ⟨rfl, rfl, Nat.le_refl _, htok, fun h => by cases h⟩
  | succ fuel ih =>
    intro pos src pbl token st hinv hpos hfu htok hc0
    have hinv' : st.x.n = st.cursorMax := hinv
    subst hpos
    have hstay : ItemPost c0 st none token st := ⟨rfl, rfl, Nat.le_refl _, htok, fun h => by cases h⟩
    unfold listItemLoop
    refine Good.ite (fun hlt => ?_) fun _ => Good.ok hstay
    · refine Good.bind (findLineEnd_good cfg hf.lineEnd st) (fun pos' hp => ?_)
      have hlt' : st.cursor < pos' := hp.2.2 (by omega)
      -- the recursive calls
      have hrec : ∀ (src' : Str) (pbl' : Bool) (token' : Json) (st1 : BlockState), st1.x = st.x →
          st1.cursorMax = st.cursorMax → TokOk c0 token' →
          Good (fun res => ItemPost c0 st res.2.1 res.2.2.1 res.2.2.2)
            (listItemLoop cfg pm sc text continueSpace fuel pos' src' pbl' token' { st1 with cursor := pos' }) :=
        fun src' pbl' token' st1 e1 e2 htok' =>
          (ih pos' src' pbl' token' { st1 with cursor := pos' } (hinv.of_frame e1 e2) rfl
            (by show st1.cursorMax - pos' ≤ fuel; rw [e2]; omega) htok' (by show c0 ≤ pos'; omega)).mono
            fun _ => ItemPost.of_later (st1 := { st1 with cursor := pos' }) e1 e2 hlt' hlt
      extract_lets line line2 jp token2 tokIndex
      have htok2 : TokOk c0 token2 := by
        show TokOk c0 (if pbl = true then token.set "tight" (Json.bool false) else token)
        split
        · exact htok.set_ne _ _ (by decide)
        · exact htok
      clear_value token2
      -- after the break rules: the loop stops with a following item `ng` and the token `tk`, or it goes on
      have hstop : ∀ (ng : Option ItemGroups) (tk : Json) (st1 : BlockState), st1.x = st.x →
          st1.cursorMax = st.cursorMax → st.cursor ≤ st1.cursor → TokOk c0 tk →
          (ng.isSome = true → st.cursor < st1.cursor) →
          Good (fun res => ItemPost c0 st res.2.1 res.2.2.1 res.2.2.2) (jp (some (ng, tk), st1)) :=
        fun ng tk st1 e1 e2 e3 t1 t2 => Good.pure ⟨e1, e2, e3, t1, fun h => ⟨t2 h, hlt⟩⟩
      have hgo : ∀ st1 : BlockState, st1.x = st.x → st1.cursorMax = st.cursorMax → st.cursor ≤ st1.cursor →
          Good (fun res => ItemPost c0 st res.2.1 res.2.2.1 res.2.2.2) (jp (none, st1)) :=
        fun st1 e1 e2 e3 => Good.ite (fun _ => Good.pure ⟨e1, e2, e3, htok, fun h => by cases h⟩)
          fun _ => hrec _ _ _ st1 e1 e2 htok
      clear_value jp
      refine Good.ite (fun _ => hrec _ _ _ st rfl rfl htok) fun _ => ?_
      refine Good.ite (fun _ => Good.ite (fun _ => Good.pure hstay) fun _ => hrec _ _ _ st rfl rfl htok) fun _ => ?_
      split
      · rename_i tokType m hm
        have hpre := pre_of_scMatch hsc hinv (by omega) hm
        have hend : st.cursor < m.stop + 1 := Nat.lt_succ_of_lt hpre.cursor_lt_stop
        refine Good.ite (fun _ => ?_) fun _ => Good.ite (fun _ => ?_) fun _ => ?_
        · simp only [pure_bind]
          exact hstop _ _ _ rfl rfl (Nat.le_of_lt hend) htok2 (fun _ => hend)
        · simp only [pure_bind]
          exact hstop _ _ _ rfl rfl (Nat.le_refl _) htok (fun h => by cases h)
        · refine Good.bind (hpm _ _ _ hpre) ?_
          rintro ⟨endPos, st1⟩ ⟨p1, p2, p3, p5, p4⟩
          dsimp only at p1 p2 p3 p4 p5
          refine Good.ite (fun htr => ?_) fun _ => ?_
          · have := p3 htr
            simp only [pure_bind]
            exact hstop _ _ _ p1 p2 p5 (TokOk.set_end _ _ (by omega)) (fun h => by cases h)
          · simp only [pure_bind]
            exact hgo _ p1 p2 p5
      · simp only [pure_bind]
        exact hgo _ rfl rfl (Nat.le_refl _)


theorem parseListItem_good (cfg : MdCfg) (hf : CfgFacts cfg) (pm : ParseMethod) (hpm : PMProgress pm)
    (bullet : Char) (hb : ∀ lw, ScOk (listItemSc cfg bullet lw)) (c0 : Nat) (groups : ItemGroups) (token : Json)
    (st : BlockState) (rules : List String) (hinv : Inv st) (htok : TokOk c0 token) (hc0 : c0 ≤ st.cursor) :
    Good (fun res => ItemPost c0 st res.1 res.2.1 res.2.2) (parseListItem cfg pm bullet groups token st rules) := by
  unfold parseListItem
  obtain ⟨spaces, marker, text⟩ := groups
  dsimp only
  refine Good.bind (listItemLoop_good cfg hf pm hpm _ (hb _) _ _ c0 (st.cursorMax + 1) st.cursor [] false token st
    hinv rfl (by omega) htok hc0) ?_
  rintro ⟨src, ng, tk, st1⟩ ⟨q1, q2, q3, q4, q5⟩
  dsimp only at q1 q2 q3 q4 q5 ⊢
  refine Good.bind (parse_good cfg hf pm hpm _ (inv_childState _ _) _) (fun child _ => ?_)
  refine Good.bind (getE_good _ _) (fun a _ => ?_)
  refine Good.bind (isLooseList_good _ _) (fun b _ => ?_)
  split
  · simp only [pure_bind]
    refine Good.bind (childrenOf_good _) (fun cs _ => ?_)
    exact Good.pure ⟨q1, q2, q3, (q4.set_ne _ _ (by decide)).set_ne _ _ (by decide), q5⟩
  · simp only [pure_bind]
    refine Good.bind (childrenOf_good _) (fun cs _ => ?_)
    exact Good.pure ⟨q1, q2, q3, q4.set_ne _ _ (by decide), q5⟩

/-- the fuel bound is asked only while there is a next item (`groups = some _`): without one the loop returns at once,
whatever the fuel -/
theorem listItemsLoop_good (cfg : MdCfg) (hf : CfgFacts cfg) (pm : ParseMethod) (hpm : PMProgress pm)
    (bullet : Char) (hb : ∀ lw, ScOk (listItemSc cfg bullet lw)) (c0 : Nat) (rules : List String) :
    ∀ (fuel : Nat) (groups : Option ItemGroups) (token : Json) (st : BlockState), Inv st → TokOk c0 token →
      c0 ≤ st.cursor → (groups.isSome = true → st.cursorMax - st.cursor < fuel) →
      Good (fun res => res.2.x = st.x ∧ res.2.cursorMax = st.cursorMax ∧ st.cursor ≤ res.2.cursor ∧ TokOk c0 res.1)
        (listItemsLoop cfg pm bullet rules fuel groups token st) := by
  intro fuel
  induction fuel with
  | zero =>
    intro groups token st hinv htok hc0 hfu
    cases groups with
    | none => unfold listItemsLoop; exact Good.ok ⟨rfl, rfl, Nat.le_refl _, htok⟩
    | some g => have := hfu rfl; omega
  | succ fuel ih =>
    intro groups token st hinv htok hc0 hfu
    cases groups with
    | none => unfold listItemsLoop; exact Good.ok ⟨rfl, rfl, Nat.le_refl _, htok⟩
    | some g =>
      have hfu := hfu rfl
      unfold listItemsLoop
      refine Good.bind (parseListItem_good cfg hf pm hpm bullet hb c0 g token st rules hinv htok hc0) ?_
      rintro ⟨ng, tk, st1⟩ ⟨q1, q2, q3, q4, q5⟩
      dsimp only at q1 q2 q3 q4 q5 ⊢
      have := ih ng tk st1 (hinv.of_frame q1 q2) q4 (by omega)
        (fun h => by have := q5 h; rw [q2]; omega)
      refine this.mono ?_
      rintro ⟨tk', st'⟩ ⟨r1, r2, r3, r4⟩
      exact ⟨r1.trans q1, r2.trans q2, by dsimp only at r3 ⊢; omega, r4⟩


theorem parseList_good (cfg : MdCfg) (hf : CfgFacts cfg) (pm : ParseMethod) (hpm : PMProgress pm)
    (name : String) (mt : RxMatch) (st : BlockState) (hpre : Pre name mt st) :
    Good (Post st) (parseList cfg pm mt st) := by
  obtain ⟨hinv, h2, h3, h4, _⟩ := hpre
  have hinv' : st.x.n = st.cursorMax := hinv
  unfold parseList
  extract_lets text jp
  have hjp : ∀ res : Option Nat × BlockState, SameFrame st res.2 → PosOk st.cursor res.1 → Good (Post st) (jp res) := by
    rintro ⟨early, st1⟩ hfr hpos
    dsimp only at hfr hpos
    refine Good.ite (fun _ => Good.pure (Post.of_frame hfr hpos)) fun _ => ?_
    extract_lets marker ordered depth attrs rules jpLast
    have hLast : ∀ last, Good (Post st) (jpLast last) := by
      intro last
      unfold jpLast
      extract_lets +onlyGivenNames bullet jp2
      have hjp2 : ∀ res : Option Nat × Json × BlockState, SameFrame st res.2.2 → PosOk st.cursor res.1 →
          Good (Post st) (jp2 res) := by
        rintro ⟨early2, attrs2, st2⟩ hfr2 hpos2
        dsimp only at hfr2 hpos2
        refine Good.ite (fun _ => Good.pure (Post.of_frame hfr2 hpos2)) fun _ => ?_
        extract_lets +onlyGivenNames token st3 groups
        have hc3 : st3.cursor = mt.stop + 1 := rfl
        have hx3 : st3.x = st.x := hfr2.1
        have hm3 : st3.cursorMax = st.cursorMax := hfr2.2.1
        have htok0 : TokOk mt.start token := by
          intro n hn
          simp [token, tok, Json.get?, List.lookup] at hn
        have := listItemsLoop_good cfg hf pm hpm bullet (hf.item last) mt.start rules (st3.cursorMax + 2)
          (some groups) token st3 (hinv.of_frame hx3 hm3) htok0 (by omega) (fun _ => by omega)
        refine Good.bind this ?_
        rintro ⟨tk, st4⟩ ⟨r1, r2, r3, r4⟩
        dsimp only at r1 r2 r3 r4
        dsimp -zeta only
        extract_lets +onlyGivenNames endPos tk2
        have hend : PosOk st.cursor endPos := r4.endPos.weaken (Nat.le_of_eq h2.symm)
        have hx4 : st4.x = st.x := r1.trans hx3
        have hm4 : st4.cursorMax = st.cursorMax := r2.trans hm3
        have hcur : st.cursor < st4.cursor := by omega
        clear_value endPos
        refine Good.bind (transformTightList_good _ _) (fun tk3 _ => ?_)
        refine Good.ite (fun htr => ?_) fun _ => Good.pure (Post.of_some hx4 hm4 (Nat.le_of_lt hcur) hcur)
        refine Good.bind (getE_good _ _) (fun idx _ => ?_)
        split
        · exact Good.pure (Post.of_truthy hx4 hm4 (Nat.le_of_lt hcur) htr hend)
        · exact Good.throw (by decide)
      clear_value jp2
      split
      · extract_lets +onlyGivenNames jp3
        have hjp3 : ∀ start, Good (Post st) (jp3 start) := by
          intro start
          refine Good.ite (fun _ => ?_) fun _ => ?_
          · refine Good.bind (appendParagraph_good cfg hf.lineEnd st1 (by rw [hfr.1, hfr.2.2]; omega)) ?_
            rintro ⟨e, st2⟩ ⟨g1, g2⟩
            have hfr2 : SameFrame st st2 := hfr.trans g1
            refine Good.ite (fun _ => ?_) fun _ => ?_
            · simp only [pure_bind]
              exact hjp2 _ hfr2 (by rw [← hfr.2.2]; exact g2)
            · simp only [pure_bind]
              exact hjp2 _ hfr2 PosOk.none
          · simp only [pure_bind]
            exact hjp2 _ hfr PosOk.none
        clear_value jp3
        split
        · simp only [pure_bind]; exact hjp3 _
        · exact (by decide : PyErr.valueError ≠ PyErr.noProgress)
      · simp only [pure_bind]
        exact hjp2 _ hfr PosOk.none
    clear_value jpLast
    split
    · simp only [pure_bind]; exact hLast _
    · exact (by decide : PyErr.indexError ≠ PyErr.noProgress)
  clear_value jp
  split
  · refine Good.bind (appendParagraph_good cfg hf.lineEnd st (by omega)) (fun res hres => hjp res hres.1 hres.2)
  · simp only [pure_bind]
    exact hjp _ SameFrame.refl PosOk.none


/-! ### induction on the nesting budget, headline theorems -/

/-- **every instance of `parse_method` satisfies the progress contract** (induction on the nesting budget: a
handler only calls the instance with the smaller budget) -/
theorem parseMethod_progress (cfg : MdCfg) (hf : CfgFacts cfg) : ∀ fuel, PMProgress (parseMethod cfg fuel) := by
  intro fuel
  induction fuel with
  | zero =>
    intro name mt st _
    exact Good.err (by decide)
  | succ fuel ih =>
    intro name mt st hpre
    unfold parseMethod
    dsimp only
    -- one goal per arm of the dispatcher, in its order; a handler bound only when its rule is `registered`
    -- comes wrapped in `Good.guard`
    split
    · exact parseBlankLine_good _ mt st hpre
    · exact parseAtxHeading_good cfg _ mt st hpre
    · exact parseSetexHeading_good cfg hf _ ih _ mt st hpre
    · split
      · exact parseFencedCodeDir_good cfg hf _ ih _ mt st hpre
      · exact parseFencedCode_good cfg _ mt st hpre
    · exact parseIndentCode_good cfg hf _ mt st hpre
    · exact parseThematicBreak_good _ mt st hpre
    · exact parseRefLink_good cfg hf _ mt st hpre
    · split
      · exact parseBlockSpoiler_good cfg hf _ ih _ mt st hpre
      · exact parseBlockQuote_good cfg hf _ ih _ mt st hpre
    · exact parseList_good cfg hf _ ih _ mt st hpre
    · exact parseRawHtml_good cfg hf _ mt st hpre (hpre.2.2.2.2 (Or.inl rfl))
    · exact parseRawHtml_good cfg hf _ mt st hpre (hpre.2.2.2.2 (Or.inr rfl))
    · exact Good.guard fun _ => parseTable_good cfg _ mt st hpre
    · exact Good.guard fun _ => parseNptable_good cfg _ mt st hpre
    · exact Good.guard fun _ => parseRefFootnote_good cfg _ mt st hpre
    · exact Good.guard fun hreg => parseDefList_good cfg hf _ ih hreg _ mt st hpre
    · exact Good.guard fun _ => parseRefAbbr_good cfg _ mt st hpre
    · exact Good.guard fun _ => parseBlockMath_good cfg _ mt st hpre
    · exact Good.guard fun _ => parseParagraph_good _ mt st hpre
    · exact Good.guard fun _ => parseRstDirective_good cfg hf _ ih _ mt st hpre
    · exact Good.guard fun _ => parseFencedDirective_good cfg hf _ ih _ mt st hpre
    · exact Good.err (by decide)

/-- `BlockParser.parse` on any state built by `process`, with any rule list and any nesting budget, never
returns `.noProgress` -/
theorem parse_no_noProgress (cfg : MdCfg) (hok : CfgOk cfg = true) (fuel : Nat) (st : BlockState) (hinv : Inv st)
    (rules : Option (List String)) : parse cfg (parseMethod cfg fuel) st rules ≠ .error .noProgress :=
  (parse_good cfg (cfgFacts_of_ok hok) _ (parseMethod_progress cfg (cfgFacts_of_ok hok) fuel) st hinv rules).noProgress

/-- **C01, progress of the concrete block parser.**  For every configuration whose regenerated tables pass the
decidable check `CfgOk` and for EVERY source string, the block parser model never reaches a state where the
Python `while` loops would spin without advancing: no loop of the model (`parseLoop`, `extractQuoteLoop`,
`listItemLoop`, `listItemsLoop`, at any nesting depth) returns `.noProgress`. -/
theorem blockParse_no_noProgress (cfg : MdCfg) (hok : CfgOk cfg = true) (src : Str) :
    Blk.blockParse cfg src ≠ .error .noProgress := by
  have hf := cfgFacts_of_ok hok
  have : Good (fun _ => True) (Blk.blockParse cfg src) := by
    unfold Blk.blockParse
    refine Good.bind (parse_good cfg hf _ (parseMethod_progress cfg hf _) _ (inv_root src) none) (fun st _ => ?_)
    exact Good.pure trivial
  exact this.noProgress

end Blk
end Model
end Mistune

namespace Mistune
open Mistune.Model Mistune.Model.Blk Mistune.Generated

theorem Model.blockParse_no_noProgress (cfg : MdCfg) (hok : CfgOk cfg = true) (src : Str) :
    Model.blockParse cfg src ≠ .error .noProgress := Blk.blockParse_no_noProgress cfg hok src

/-- **Obligation (C01, concrete block parser):** every regenerated configuration passes `CfgOk`
(re-checked by the kernel against /repo's tables on every run). -/
theorem allCfgs_cfgOk : allCfgs.all (fun c => CfgOk (ofRuleCfg c)) = true := by decide +kernel

theorem cfgOk_of_mem {c : RuleCfg} (hc : c ∈ allCfgs) : CfgOk (ofRuleCfg c) = true :=
  List.all_eq_true.1 allCfgs_cfgOk c hc

/-- the headline theorem for every regenerated configuration -/
theorem allCfgs_blockParse_no_noProgress (c : RuleCfg) (hc : c ∈ allCfgs) (src : Str) :
    Model.blockParse (ofRuleCfg c) src ≠ .error .noProgress :=
  Model.blockParse_no_noProgress _ (cfgOk_of_mem hc) src

end Mistune

/-! ### non-vacuity, necessity -/

namespace Mistune
open Mistune.Model Mistune.Model.Blk Mistune.Generated

-- concrete configurations satisfy the hypothesis of the headline theorem
example : CfgOk (ofRuleCfg cfg_core) = true := cfgOk_of_mem List.mem_cons_self
example : (findCfg "core").map CfgOk = some true := by
  rw [show findCfg "core" = some (ofRuleCfg cfg_core) from rfl]
  exact congrArg some (cfgOk_of_mem List.mem_cons_self)
example : (findCfg "core").isSome = true := by decide +kernel

-- the model runs to a normal result on small documents (kernel evaluation of the whole block parser)
example : isOkRes (Model.blockParse (ofRuleCfg cfg_core) "# a\n".toList) = true := by decide +kernel
example : isOkRes (Model.blockParse (ofRuleCfg cfg_core) "> a\n- b\n\n<div>\nx\n".toList) = true := by
  decide +kernel

-- plugin configurations: the plugin handlers are bound (`registered`) and their loops run
example : registered (ofRuleCfg cfg_only_def_list) "def_list" = true := by decide +kernel
example : isOkRes (Model.blockParse (ofRuleCfg cfg_only_def_list) "a\n: b\n: c\n".toList) = true := by decide +kernel
example : isOkRes (Model.blockParse (ofRuleCfg cfg_only_table) "a | b\n--- | ---\n1 | 2\n".toList) = true := by
  decide +kernel

/-- the hypothesis is necessary: a table with a rule that can match the empty string fails `CfgOk`, and the model
does reach `.noProgress` (in Python: `BlockParser.parse` would spin at position 2 of `"a\nb"`) -/
def badCfg : MdCfg := { ofRuleCfg cfg_core with blockSpec := [("blank_line", .eps)], blockRules := ["blank_line"] }

example : CfgOk badCfg = false := by decide +kernel
example : isNoProgress (Model.blockParse badCfg "a\nb".toList) = true := by decide +kernel

/-- `rulesConsume` alone (the side condition of the abstract loop theorem) is NOT enough for the concrete handlers:
`_parse_html_to_newline` returns the START of the next blank line, so an HTML rule that could match at a blank
line stalls the loop.  This table consumes (`"\n<div"`), fails `CfgOk` (no ` *<` start), and the model reaches
`.noProgress` on `"a\n\n<div"`. -/
def badHtmlRx : Rx :=
  .seq .bol (.seq (.cls false [.chr 10]) (.seq (.cls false [.chr 60]) (.seq (.cls false [.chr 100])
    (.seq (.cls false [.chr 105]) (.cls false [.chr 118])))))

def badHtmlCfg : MdCfg :=
  { ofRuleCfg cfg_core with blockSpec := [("raw_html", badHtmlRx)], blockRules := ["raw_html"] }

example : rulesConsume badHtmlCfg.blockSpec = true := by decide +kernel
example : CfgOk badHtmlCfg = false := by decide +kernel
example : isNoProgress (Model.blockParse badHtmlCfg "a\n\n<div".toList) = true := by decide +kernel

end Mistune

