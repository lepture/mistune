/-
C01, progress contract of the concrete block parser: the block handlers of the plugins `table`, `footnotes`
(`ref_footnote`), `abbr` (`ref_abbr`), `def_list` (`Mistune.Model.BlockPluginsB`), `math` and `speedup`
(`Mistune.Model.BlockPluginsA`).  Same walk over the handlers as `EnvRel` (there `_env`/`_rel`: what happens to
`env`), here with the invariant `Good (Post st)` of `C01Progress` (`_good`).
-/
import MistuneProofs.C01Progress
namespace Mistune
namespace Model
namespace Blk

theorem parseTable_good (cfg : MdCfg) (name : String) (mt : RxMatch) (st : BlockState) (hpre : Pre name mt st) :
    Good (Post st) (parseTable cfg mt st) := by
  unfold parseTable
  extract_lets pos
  split
  · exact Good.ok (Post.of_frame SameFrame.refl PosOk.none)
  · split
    · exact Good.ok (Post.of_frame SameFrame.refl PosOk.none)
    · exact Good.ok (hpre.accept ⟨rfl, rfl, rfl⟩ (Nat.le_refl _))

theorem parseNptable_good (cfg : MdCfg) (name : String) (mt : RxMatch) (st : BlockState) (hpre : Pre name mt st) :
    Good (Post st) (parseNptable cfg mt st) := by
  unfold parseNptable
  split
  · exact Good.ok (Post.of_frame SameFrame.refl PosOk.none)
  · split
    · exact Good.ok (Post.of_frame SameFrame.refl PosOk.none)
    · exact Good.ok (hpre.accept ⟨rfl, rfl, rfl⟩ (by omega))

theorem parseRefFootnote_good (cfg : MdCfg) (name : String) (mt : RxMatch) (st : BlockState)
    (hpre : Pre name mt st) : Good (Post st) (parseRefFootnote cfg mt st) := by
  unfold parseRefFootnote
  extract_lets ref key st2
  have hfr : SameFrame st st2 := by
    show SameFrame st (if _ then _ else _)
    split
    · exact ⟨rfl, rfl, rfl⟩
    · exact SameFrame.refl
  exact Good.ok (hpre.accept hfr (by omega))

theorem parseRefAbbr_good (cfg : MdCfg) (name : String) (mt : RxMatch) (st : BlockState)
    (hpre : Pre name mt st) : Good (Post st) (parseRefAbbr cfg mt st) :=
  Good.ok (hpre.accept ⟨rfl, rfl, rfl⟩ (by omega))


/-! ### plugins/math.py, plugins/speedup.py (`Mistune.Model.BlockPluginsA`) -/

theorem parseBlockMath_good (cfg : MdCfg) (name : String) (mt : RxMatch) (st : BlockState)
    (hpre : Pre name mt st) : Good (Post st) (parseBlockMath cfg mt st) :=
  Good.ok (hpre.accept ⟨rfl, rfl, rfl⟩ (by omega))

theorem parseParagraph_good (name : String) (mt : RxMatch) (st : BlockState)
    (hpre : Pre name mt st) : Good (Post st) (parseParagraph mt st) := by
  unfold parseParagraph
  exact Good.bind (addParagraph_good st _) (fun st' h => Good.pure (hpre.accept h (Nat.le_refl _)))


/-! ### plugins/def_list.py -/

theorem defProcessText_good (cfg : MdCfg) (hf : CfgFacts cfg) (pm : ParseMethod) (hpm : PMProgress pm)
    (text : Str) (loose : Bool) (parent : BlockState) :
    Good (fun res => SameFrame parent res.2) (defProcessText cfg pm text loose parent) := by
  unfold defProcessText
  extract_lets text2 child
  refine Good.bind (parse_good cfg hf pm hpm _ (inv_childState _ _) _) (fun child2 _ => ?_)
  extract_lets parent2
  have hfr : SameFrame parent parent2 := ⟨rfl, rfl, rfl⟩
  split
  · split
    · refine Good.bind (typeOf_good _) (fun ty _ => ?_)
      split <;> exact Good.pure hfr
    · exact Good.pure hfr
  · exact Good.pure hfr

theorem defItemLoop_good (cfg : MdCfg) (hf : CfgFacts cfg) (pm : ParseMethod) (hpm : PMProgress pm) (x : RxCtx)
    (hdd : 1 ≤ (cfg.rx "mistune.plugins.def_list.DD_START_RE").minLen) :
    ∀ (fuel start : Nat) (pbl : Bool) (acc : List Json) (st : BlockState), x.n - start < fuel →
      Good (fun res => SameFrame st res.2) (defItemLoop cfg pm x fuel start pbl acc st) := by
  intro fuel
  induction fuel with
  | zero => intro start pbl acc st hfu; omega
  | succ fuel ih =>
    intro start pbl acc st hfu
    unfold defItemLoop
    split
    · extract_lets text
      refine Good.bind (defProcessText_good cfg hf pm hpm _ _ _) ?_
      rintro ⟨children, st1⟩ h1
      exact Good.pure h1
    · rename_i m2 hm2
      obtain ⟨a1, a2, a3, a4⟩ := pySearch_sound _ _ _ _ hm2
      have hne := nonempty_of_minLen _ _ _ _ _ _ a4 hdd
      extract_lets endPos text pbl2
      refine Good.bind (defProcessText_good cfg hf pm hpm _ _ _) ?_
      rintro ⟨children, st1⟩ h1
      dsimp only at h1 ⊢
      have := ih endPos pbl2 (acc ++ [defListItem children]) st1 (by show x.n - m2.start < fuel; omega)
      exact this.mono (fun res hres => h1.trans hres)

theorem ctxOf_n (s : Str) : (Py.ctxOf s).n = s.length := by
  unfold Py.ctxOf mkCtx
  simp

theorem parseDefItem_good (cfg : MdCfg) (hf : CfgFacts cfg) (pm : ParseMethod) (hpm : PMProgress pm)
    (hdd : 1 ≤ (cfg.rx "mistune.plugins.def_list.DD_START_RE").minLen) (mt : RxMatch) (st : BlockState) :
    Good (fun res => SameFrame st res.2) (parseDefItem cfg pm mt st) := by
  unfold parseDefItem
  extract_lets head heads src x endPos
  split
  · exact Good.throw (by decide)
  · rename_i m2 _
    extract_lets start pbl
    have hn : x.n = src.length := ctxOf_n src
    exact defItemLoop_good cfg hf pm hpm x hdd _ _ _ _ _ (by show x.n - m2.start < src.length + 1; omega)

theorem defListLoop_good (cfg : MdCfg) (hf : CfgFacts cfg) (pm : ParseMethod) (hpm : PMProgress pm)
    (hdd : 1 ≤ (cfg.rx "mistune.plugins.def_list.DD_START_RE").minLen)
    (hdef : 1 ≤ (cfg.rx "mistune.plugins.def_list.DEF_RE").minLen) :
    ∀ (fuel pos : Nat) (children : List Json) (st : BlockState), pos ≤ st.x.n → st.x.n - pos < fuel →
      Good (fun res => SameFrame st res.2.2 ∧ pos ≤ res.1) (defListLoop cfg pm fuel pos children st) := by
  intro fuel
  induction fuel with
  | zero => intro pos children st _ hfu; omega
  | succ fuel ih =>
    intro pos children st hle hfu
    unfold defListLoop
    split
    · exact Good.ok ⟨SameFrame.refl, Nat.le_refl _⟩
    · rename_i m2 hm2
      obtain ⟨hne, a3⟩ := pyMatchAt_consumes hdef hm2
      refine Good.bind (parseDefItem_good cfg hf pm hpm hdd m2 st) ?_
      rintro ⟨more, st1⟩ h1
      dsimp only at h1 ⊢
      have hgt : ¬ m2.stop ≤ pos := by omega
      rw [if_neg hgt]
      have := ih m2.stop (children ++ more) st1 (by rw [h1.1]; exact a3) (by rw [h1.1]; omega)
      refine this.mono ?_
      rintro ⟨p, c, st'⟩ ⟨r1, r2⟩
      exact ⟨h1.trans r1, by dsimp only at r2 ⊢; omega⟩

theorem parseDefList_good (cfg : MdCfg) (hf : CfgFacts cfg) (pm : ParseMethod) (hpm : PMProgress pm)
    (hreg : registered cfg "def_list" = true) (name : String) (mt : RxMatch) (st : BlockState)
    (hpre : Pre name mt st) : Good (Post st) (parseDefList cfg pm mt st) := by
  obtain ⟨hdd, hdef⟩ := hf.defList hreg
  have hinv : st.x.n = st.cursorMax := hpre.inv
  have h4 := hpre.stop_le
  unfold parseDefList
  refine Good.bind (parseDefItem_good cfg hf pm hpm hdd mt st) ?_
  rintro ⟨children, st1⟩ h1
  dsimp only at h1 ⊢
  refine Good.bind (defListLoop_good cfg hf pm hpm hdd hdef (st1.cursorMax + 1) mt.stop children st1
    (by rw [h1.1]; exact h4) (by rw [h1.1, h1.2.1]; omega)) ?_
  rintro ⟨pos, children2, st2⟩ ⟨r1, r2⟩
  dsimp only at r1 r2 ⊢
  have hfr := h1.trans r1
  exact Good.pure (hpre.accept ⟨hfr.1, hfr.2.1, hfr.2.2⟩ r2)

end Blk
end Model
end Mistune
