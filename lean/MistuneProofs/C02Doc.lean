/-
C02 end to end for the concrete parser model: every token tree `Model.parseDoc` returns for a configuration all of
whose handlers the grammar proof covers (`coreCfgB`: the plugin-free ones and those with one of the plugins
formatting / url / speedup / math / spoiler, `coreNames`) satisfies the hypothesis `refinedOk` of `render_safe`
(C02Tmpl), hence renders — with the HTML templates regenerated from the working tree, escaping on — to a tagged string
in which no character that comes from the document is `<`, `>` or `"`.

Route: the grammar proof (C05Grammar*) carries, next to `wfSeq`, the attribute shape `shp` of the tokens: only the
token types of `coreTys` (the core's and those plugins'), and every value in `attrs` is a number / boolean / `None`,
except `url`, `title` of links and images and `info` of code blocks.  `shp_refined`: for a template table that lists exactly these as data arguments, lists
`$text` as data for the raw types and exempts no core type (`tblCoreB`, kernel-decided for `Generated.templates`),
`shp` implies `refinedOk`.
-/
import MistuneProofs.C02Tmpl
import MistuneProofs.C05GrammarAtx
namespace Mistune
open Mistune.Generated

/-- **decidable obligation on the template table**: no core token type is exempt, the raw core types take their
`raw` as a data argument, `url` / `title` of links and images and `info` of code blocks are data arguments -/
def tblCoreB (tbl : TmplTable) : Bool :=
  coreTys.all (fun ty => !tbl.exempt.contains ty &&
    (!tbl.rawTypes.contains ty || (tbl.dataArgsOf ty).contains "$text")) &&
  (tbl.dataArgsOf "link").contains "url" && (tbl.dataArgsOf "link").contains "title" &&
  (tbl.dataArgsOf "image").contains "url" && (tbl.dataArgsOf "image").contains "title" &&
  (tbl.dataArgsOf "block_code").contains "info"

theorem plainJ_safe (v : Json) (h : plainJ v = true) : (valOfJson v).safeB = true := by
  cases v <;> simp [plainJ] at h <;> rfl

/-- the attribute shape implies the refinement hypothesis of the render theorem -/
theorem shp_refined (tbl : TmplTable) (htbl : tblCoreB tbl = true) :
    ∀ (k : Nat) (t : Json), shp k t = true → refinedOk tbl k t = true := by
  simp only [tblCoreB, Bool.and_eq_true, List.all_eq_true, Bool.not_eq_true', Bool.or_eq_true] at htbl
  obtain ⟨⟨⟨⟨⟨hcore, l1⟩, l2⟩, i1⟩, i2⟩, c1⟩ := htbl
  intro k
  induction k with
  | zero => intro t h; simp [shp] at h
  | succ k ih =>
    intro t h
    rw [shp] at h
    simp only [Bool.and_eq_true] at h
    obtain ⟨⟨hty, hattrs⟩, hch⟩ := h
    have hty' : t.type ∈ coreTys := by simpa using hty
    obtain ⟨hex, hraw⟩ := hcore _ hty'
    rw [refinedOk]
    simp only [Bool.and_eq_true, Bool.not_eq_true', Bool.or_eq_true]
    refine ⟨⟨⟨hex, ?_⟩, ?_⟩, ?_⟩
    · rcases hraw with hr | hr
      · exact Or.inl (Or.inl hr)
      · exact Or.inl (Or.inr hr)
    · -- the keyword arguments
      cases ha : t.get? "attrs" with
      | none => simp [attrVals]
      | some a =>
        rw [ha] at hattrs
        cases a with
        | obj kv =>
          simp only [Option.getD_some, attrVals, List.all_map, List.all_eq_true]
          simp only [attrsShape, List.all_eq_true] at hattrs
          intro p hp
          have := hattrs p hp
          simp only [Bool.or_eq_true, Bool.and_eq_true, beq_iff_eq] at this
          simp only [Function.comp, Bool.or_eq_true]
          rcases this with (hpl | ⟨hlk, hkey⟩) | ⟨hbc, hkey⟩
          · exact Or.inr (plainJ_safe _ hpl)
          · left
            rcases hlk with e | e <;> rcases hkey with f | f <;> rw [e, f] <;> assumption
          · left; rw [hbc, hkey]; exact c1
        | _ => simp [attrVals]
    · split
      · rename_i cs hcs
        rw [hcs] at hch
        simp only [List.all_eq_true] at hch ⊢
        exact fun c hc => ih c (hch c hc)
      · rfl

/-- kernel-decided obligation on the regenerated template table -/
theorem templates_core : tblCoreB templates = true := by decide +kernel

theorem shpAll_refined (k : Nat) (toks : List Json) (h : shpAll k toks = true) :
    toks.all (refinedOk templates k) = true := by
  unfold shpAll at h
  rw [List.all_eq_true] at h ⊢
  exact fun t ht => shp_refined templates templates_core _ t (h t ht)

namespace Model
open Blk Blk.G

/-- **the parser's output satisfies the refinement hypothesis of the render theorem** -/
theorem parseDoc_refinedOk (cfg : MdCfg) (hcore : coreCfgB cfg = true) (hatx : atxOkB cfg = true) (s : Str)
    (toks : List Json) (h : parseDoc cfg s = .ok toks) : toks.all (refinedOk templates (wfFuel cfg)) = true :=
  shpAll_refined _ _ (parseDoc_shp cfg hcore (cfgAtx_of_B cfg hatx) s toks h)

/-- **C02 end to end for the concrete model**: the HTML rendering (escaping on) of every token tree the parser
returns contains no document character `<`, `>`, `"` -/
theorem parseDoc_render_safe (cfg : MdCfg) (hcore : coreCfgB cfg = true) (hatx : atxOkB cfg = true) (s : Str)
    (toks : List Json) (h : parseDoc cfg s = .ok toks) :
    (renderToks templates (fun a => mkTEnv a true) (wfFuel cfg) toks).Safe :=
  render_safe (wfFuel cfg) toks (parseDoc_refinedOk cfg hcore hatx s toks h)

/-- the same for every larger fuel of the renderer (`wfFuel cfg` already exceeds the depth of the tree: `parseDoc_wf`) -/
theorem parseDoc_render_safe_ge (cfg : MdCfg) (hcore : coreCfgB cfg = true) (hatx : atxOkB cfg = true) (s : Str)
    (toks : List Json) (h : parseDoc cfg s = .ok toks) (F : Nat) (hF : wfFuel cfg ≤ F) :
    (renderToks templates (fun a => mkTEnv a true) F toks).Safe :=
  render_safe F toks (shpAll_refined _ _ (shpAll_mono_le hF _ (parseDoc_shp cfg hcore (cfgAtx_of_B cfg hatx) s toks h)))

/-- the configurations of `coreNames`: no hypothesis but the result of the parse -/
theorem parseDoc_refinedOk_core (n : String) (hn : n ∈ coreNames) (cfg : MdCfg) (hc : findCfg n = some cfg) (s : Str)
    (toks : List Json) (h : parseDoc cfg s = .ok toks) : toks.all (refinedOk templates (wfFuel cfg)) = true :=
  parseDoc_refinedOk cfg (coreCfg_of_name hn hc).1 (coreCfg_of_name hn hc).2 s toks h

theorem parseDoc_render_safe_core (n : String) (hn : n ∈ coreNames) (cfg : MdCfg) (hc : findCfg n = some cfg) (s : Str)
    (toks : List Json) (h : parseDoc cfg s = .ok toks) :
    (renderToks templates (fun a => mkTEnv a true) (wfFuel cfg) toks).Safe :=
  render_safe (wfFuel cfg) toks (parseDoc_refinedOk_core n hn cfg hc s toks h)

/-- non-vacuity: a heading, a link whose url and title contain `<` and `"`, a fenced block whose info contains `<`:
the model parses it and the result satisfies `refinedOk` (kernel-checked) -/
example : ((findCfg "core").map (fun cfg =>
    match parseDoc cfg "# a\n\n[x](<u\"b> 't<')\n\n```a<b\nc\n```\n".toList with
    | .ok toks => toks.length == 5 && toks.all (refinedOk templates (wfFuel cfg))
    | .error _ => false)) = some true := by decide +kernel

/-- some token of the tree, down to the given depth, has type `ty` -/
def hasType (ty : String) : Nat → Json → Bool
  | 0, _ => false
  | k + 1, t => t.type == ty || (t.getArr "children").any (hasType ty k)

/-- non-vacuity for configurations with plugins: the plugin handler fires, the tree is in the grammar and satisfies
`refinedOk` (kernel-checked) -/
example : ((findCfg "only-strikethrough").map (fun cfg =>
    match parseDoc cfg "~~a *b*~~ x\n".toList with
    | .ok toks => toks.any (hasType "strikethrough" 5) && wfTokens toks cfg.maxNested &&
        toks.all (refinedOk templates (wfFuel cfg))
    | .error _ => false)) = some true := by decide +kernel

example : ((findCfg "only-math").map (fun cfg =>
    match parseDoc cfg "$$\nx<y\n$$\n\n$a<b$\n".toList with
    | .ok toks => toks.any (hasType "block_math" 5) && toks.any (hasType "inline_math" 5) &&
        wfTokens toks cfg.maxNested && toks.all (refinedOk templates (wfFuel cfg))
    | .error _ => false)) = some true := by decide +kernel

end Model
end Mistune

#print axioms Mistune.Model.parseDoc_refinedOk
#print axioms Mistune.Model.parseDoc_render_safe
#print axioms Mistune.Model.parseDoc_render_safe_core
