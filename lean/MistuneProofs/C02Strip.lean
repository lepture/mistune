/-
C02 / C06 — `StripAgrees`: on every tagged string whose erasure is well tagged, `_striptags_re.sub("", s)`
(the backtracking engine on the regenerated regex, then the `allSpans` / `deleteSpans` loop) is the projection of the
five-state tag scanner on character data (`tsStripT`).  This discharges the hypothesis `hstrip` of `render_tagged`
(C02Tags) and `render_balanced` (C06Balance); the hypothesis-free corollaries are at the end of this file.

The engine has no general completeness theorem; as in C11Fence / C11Codespan the behaviour of the matcher on this one
regex is computed *exactly*:

* at a position that does not hold `<` no alternative matches (both begin with `<`);
* at a `<` of character data the comment alternative `<!--[\s\S]*?-->` is tried first and fails at its second
  character (a well-tagged string has no `<!`);
* every iteration of the greedy star `(?:"[^"]*"|'[^']*'|[^>"'])*` takes, along the path the engine tries first
  (`Reaches`, `Engine/Eval`), exactly what the scanner consumes on the body of a tag (`reaches_tagItem_*`: one plain
  character, or a quoted value up to the FIRST closing quote: the inner greedy `[^"]*` cannot cross a `"`), and the star
  stops exactly at the `>` the scanner takes as the end of the tag, where no item matches (`tagItems_iter`,
  `reaches_rep_iter`);
* `search` therefore returns the next tag (`strip_search_some` / `strip_search_none`), and the `allSpans` /
  `deleteSpans` loop equals `tsStripT` (`strip_go`).

The regex proved about is the hand-written term `striptagsRxExpected`; that the regenerated table holds exactly this
term under the name `mistune.util._striptags_re` is decided by the kernel (`striptagsRx_is_expected`).
-/
import MistuneProofs.C02Tags
import MistuneProofs.C06Balance
import MistuneProofs.Engine.Eval
namespace Mistune
open Mistune.Generated

/-! ### the expected regex -/

/-- `(<!--[\s\S]*?-->|<(?:"[^"]*"|'[^']*'|[^>"'])*>)` as the translator emits it (the common first character `<` of the
two alternatives is factored out) -/
def striptagsRxExpected : Rx :=
  .grp 1 (.seq (.cls false [.chr 60])
    (.alt
      (.seq (.cls false [.chr 33]) (.seq (.cls false [.chr 45]) (.seq (.cls false [.chr 45])
        (.seq (.rep (.cls false [.cat false .space, .cat true .space]) 0 none false)
          (.seq (.cls false [.chr 45]) (.seq (.cls false [.chr 45]) (.cls false [.chr 62])))))))
      (.seq
        (.rep
          (.alt (.seq (.cls false [.chr 34]) (.seq (.rep (.cls true [.chr 34]) 0 none true) (.cls false [.chr 34])))
            (.alt (.seq (.cls false [.chr 39]) (.seq (.rep (.cls true [.chr 39]) 0 none true) (.cls false [.chr 39])))
              (.cls true [.chr 62, .chr 34, .chr 39])))
          0 none true)
        (.cls false [.chr 62]))))

/-- **kernel-decided**: the regenerated table holds exactly the expected term -/
theorem striptagsRx_is_expected :
    namedRx.lookup "mistune.util._striptags_re" = some striptagsRxExpected := by decide +kernel

/-- a quoted value: the quote, `[^q]*` (greedy), the quote -/
def quotedRx (q : Char) : Rx :=
  .seq (.cls false [.chr q.toNat]) (.seq (.rep (.cls true [.chr q.toNat]) 0 none true) (.cls false [.chr q.toNat]))

/-- one iteration of the star: `"[^"]*"|'[^']*'|[^>"']` -/
def tagItemRx : Rx :=
  .alt (quotedRx '"') (.alt (quotedRx '\'') (.cls true [.chr ('>').toNat, .chr ('"').toNat, .chr ('\'').toNat]))

/-- the rest of the comment alternative after `<`: `!--[\s\S]*?-->` -/
def commentTailRx : Rx :=
  .seq (.cls false [.chr ('!').toNat]) (.seq (.cls false [.chr 45]) (.seq (.cls false [.chr 45])
    (.seq (.rep (.cls false [.cat false .space, .cat true .space]) 0 none false)
      (.seq (.cls false [.chr 45]) (.seq (.cls false [.chr 45]) (.cls false [.chr 62]))))))

theorem striptagsRxExpected_eq :
    striptagsRxExpected =
      .grp 1 (.seq (.cls false [.chr ('<').toNat])
        (.alt commentTailRx (.seq (.rep tagItemRx 0 none true) (.cls false [.chr ('>').toNat])))) := rfl

/-! ### quoted values and the items of a tag -/

theorem clsTest_neg3 (t : CatTables) (q1 q2 q3 a : Char) :
    clsTest t true [.chr q1.toNat, .chr q2.toNat, .chr q3.toNat] a.toNat = (a != q1 && a != q2 && a != q3) := by
  refine (clsTest_chrs t true [q1, q2, q3] a).trans ?_
  simp only [List.contains_cons, List.contains_nil, Bool.or_false, bne]
  cases a == q1 <;> cases a == q2 <;> cases a == q3 <;> rfl

/-- number of characters up to and including the first `q` -/
def qLen (q : Char) : Str → Nat
  | [] => 0
  | a :: l => if a = q then 1 else qLen q l + 1

theorem qLen_le (q : Char) (l : Str) : qLen q l ≤ l.length := by
  induction l with
  | nil => simp [qLen]
  | cons a l ih => simp only [qLen, List.length_cons]; split <;> omega

/-- the text up to the first `q` -/
theorem qLen_split (q : Char) : ∀ l : Str, q ∈ l →
    ∃ run rest, l = run ++ q :: rest ∧ (∀ ch ∈ run, (ch != q) = true) ∧ qLen q l = run.length + 1 := by
  intro l
  induction l with
  | nil => intro h; cases h
  | cons a l ih =>
    intro h
    by_cases ha : a = q
    · exact ⟨[], l, by rw [ha]; rfl, by simp, by simp [qLen, ha]⟩
    · obtain ⟨run, rest, hl, hrun, hlen⟩ := ih ((List.mem_cons.mp h).resolve_left (fun e => ha e.symm))
      exact ⟨a :: run, rest, by rw [hl]; rfl, List.forall_mem_cons.mpr ⟨by simpa using ha, hrun⟩,
        by simp [qLen, ha, hlen]⟩

/-- **a quoted value closed later**: the quote, `[^q]*` up to the first closing `q` (the greedy run cannot cross it),
and that `q` -/
theorem reaches_quoted {s l : Str} {i : Nat} (q : Char) (c : Caps) (hd : s.drop i = q :: l) (hq : q ∈ l) :
    Reaches (Py.ctxOf s) (quotedRx q) i c (i + 1 + qLen q l) c := by
  obtain ⟨run, rest, rfl, hrun, hlen⟩ := qLen_split q l hq
  have hd0 : s.drop i = [q] ++ (run ++ ([q] ++ rest)) := by rw [hd]; rfl
  have hd1 : s.drop (i + 1) = run ++ ([q] ++ rest) := drop_append hd0
  have hi := lt_of_drop_cons hd
  rw [hlen, ← Nat.add_assoc]
  unfold quotedRx
  exact reaches_seq (reaches_chr (clsTest_chr1 pyCats q) c hd0 (by simp))
    (reaches_seq (reaches_run (clsTest_nchr1 pyCats q) 0 none c hd1 (by omega) hrun
        (Or.inr (fun ch h => by cases h; simp)) (by intro m hm; cases hm) (Nat.zero_le _))
      (reaches_chr (clsTest_chr1 pyCats q) c (drop_append hd1) (by simp)))

theorem quoted_fails {s l : Str} {i : Nat} {a : Char} (q : Char) (c : Caps) (hd : s.drop i = a :: l) (ha : a ≠ q)
    {R : Type} (k : Nat → Caps → Option R) : (quotedRx q).m (Py.ctxOf s) i c k = none :=
  seq_fails _ (chr_fails (clsTest_chr1 pyCats q) c hd (fun ch h => by cases h; simpa using ha)) k

/-- a quoted value (`q` is `"` or `'`) closed later: the item consumes it up to the first closing `q` -/
theorem reaches_tagItem_quoted {s l : Str} {i : Nat} {q : Char} (hq : q = '"' ∨ q = '\'') (c : Caps)
    (hd : s.drop i = q :: l) (hmem : q ∈ l) : Reaches (Py.ctxOf s) tagItemRx i c (i + 1 + qLen q l) c := by
  unfold tagItemRx
  rcases hq with rfl | rfl
  · exact reaches_alt_left _ (reaches_quoted '"' c hd hmem)
  · exact reaches_alt_right (quoted_fails '"' c hd (by decide)) (reaches_alt_left _ (reaches_quoted '\'' c hd hmem))

theorem reaches_tagItem_plain {s l : Str} {i : Nat} {a : Char} (c : Caps) (hd : s.drop i = a :: l) (h1 : a ≠ '>')
    (h2 : a ≠ '"') (h3 : a ≠ '\'') : Reaches (Py.ctxOf s) tagItemRx i c (i + 1) c := by
  unfold tagItemRx
  exact reaches_alt_right (quoted_fails '"' c hd h2) (reaches_alt_right (quoted_fails '\'' c hd h3)
    (reaches_chr (clsTest_neg3 pyCats '>' '"' '\'') c hd (by simp [h1, h2, h3])))

theorem tagItem_fails_gt {s l : Str} {i : Nat} (c : Caps) (hd : s.drop i = '>' :: l) {R : Type}
    (k : Nat → Caps → Option R) : tagItemRx.m (Py.ctxOf s) i c k = none := by
  unfold tagItemRx
  exact alt_fails (quoted_fails '"' c hd (by decide)) (alt_fails (quoted_fails '\'' c hd (by decide))
    (chr_fails (clsTest_neg3 pyCats '>' '"' '\'') c hd (fun ch h => by cases h; rfl))) k

/-! ### the scanner inside a tag -/

/-- number of characters the scanner reads from state `st` until it is back in character data (up to and including the
`>` that ends the tag) -/
def tagLen : TS → Str → Nat
  | _, [] => 0
  | st, a :: l => match tsStep st a with
    | some .text => 1
    | some st' => tagLen st' l + 1
    | none => 0

theorem tsRun_cons (st : TS) (a : Char) (l : Str) :
    tsRun st (a :: l) = (match tsStep st a with | some st' => tsRun st' l | none => none) := rfl

/-- inside a quoted value: the value is closed, by the FIRST quote character, and the scanner is back inside the tag -/
theorem quote_facts (q : Char) (stq : TS) (hq : ∀ a, tsStep stq a = if a = q then some .tag else some stq)
    (hne : stq ≠ .text) :
    ∀ l : Str, tsRun stq l = some .text →
      q ∈ l ∧ tsRun .tag (l.drop (qLen q l)) = some .text ∧
        tagLen stq l = qLen q l + tagLen .tag (l.drop (qLen q l)) := by
  intro l
  induction l with
  | nil => intro h; simp only [tsRun, Option.some.injEq] at h; exact absurd h hne
  | cons a l ih =>
    intro h
    rw [tsRun_cons, hq] at h
    by_cases ha : a = q
    · subst ha
      simp only [if_true] at h
      refine ⟨by simp, by simpa [qLen] using h, ?_⟩
      simp only [tagLen, hq, if_true, qLen, List.drop_one, List.tail_cons]
      omega
    · simp only [if_neg ha] at h
      obtain ⟨h1, h2, h3⟩ := ih h
      refine ⟨List.mem_cons_of_mem _ h1, by simpa [qLen, ha] using h2, ?_⟩
      have : tagLen stq (a :: l) = tagLen stq l + 1 := by
        simp only [tagLen, hq, if_neg ha]
      rw [this, h3]
      simp only [qLen, if_neg ha, List.drop_succ_cons]
      omega

/-- a quoted value in a tag (`q` is `"` or `'`) -/
theorem tag_quote_facts {q : Char} (hq : q = '"' ∨ q = '\'') (l : Str) (h : tsRun .tag (q :: l) = some .text) :
    q ∈ l ∧ tsRun .tag (l.drop (qLen q l)) = some .text ∧
      tagLen .tag (q :: l) = 1 + qLen q l + tagLen .tag (l.drop (qLen q l)) := by
  obtain ⟨stq, hstep, hstq, hne⟩ : ∃ stq, tsStep .tag q = some stq ∧
      (∀ a, tsStep stq a = if a = q then some .tag else some stq) ∧ stq ≠ .text := by
    rcases hq with rfl | rfl
    · exact ⟨.dq, rfl, fun a => by by_cases ha : a = '"' <;> simp [tsStep, ha], by decide⟩
    · exact ⟨.sq, rfl, fun a => by by_cases ha : a = '\'' <;> simp [tsStep, ha], by decide⟩
  rw [tsRun_cons, hstep] at h
  obtain ⟨h1, h2, h3⟩ := quote_facts q stq hstq hne l h
  refine ⟨h1, h2, ?_⟩
  have : tagLen .tag (q :: l) = tagLen stq l + 1 := by
    simp only [tagLen, hstep]
  omega

theorem tsStep_tag_plain {a : Char} (h1 : a ≠ '>') (h2 : a ≠ '<') (h3 : a ≠ '"') (h4 : a ≠ '\'') :
    tsStep .tag a = some .tag := by
  simp [tsStep, h1, h2, h3, h4]

/-! ### the star over the body of a tag -/

theorem drop_add_of_drop {s : Str} {p : Nat} {l : Str} (h : s.drop p = l) (d : Nat) : s.drop (p + d) = l.drop d := by
  rw [← List.drop_drop, h]

/-- **The iterations of the star on the body of a tag.**  From a position where the scanner is inside a tag (`.tag`),
the items lead to the `>` that takes the scanner back to character data (every earlier exit of the star is followed by
a character that is not `>`, and an item cannot run past that `>`). -/
theorem tagItems_iter {s : Str} (c : Caps) : ∀ (n : Nat) (l : Str) (i : Nat), l.length ≤ n → s.drop i = l →
    tsRun .tag l = some .text →
    ∃ cnt e rest, Iter (fun i c j c' => Reaches (Py.ctxOf s) tagItemRx i c j c' ∧ i < j) cnt i c e c ∧
      s.drop e = '>' :: rest ∧ e + 1 = i + tagLen .tag l := by
  intro n
  induction n with
  | zero =>
    intro l i hn _ hrun
    have : l = [] := List.length_eq_zero_iff.mp (by omega)
    subst this
    simp [tsRun] at hrun
  | succ n ih =>
    intro l i hn hd hrun
    cases l with
    | nil => simp [tsRun] at hrun
    | cons a l =>
      simp only [List.length_cons] at hn
      have h3 : s.drop (i + 1) = l := drop_append (u := [a]) hd
      by_cases hgt : a = '>'
      · subst hgt
        exact ⟨0, i, l, Iter.zero i c, hd, by simp [tagLen, tsStep]⟩
      by_cases hlt : a = '<'
      · subst hlt
        simp [tsRun, tsStep] at hrun
      by_cases hq : a = '"' ∨ a = '\''
      · obtain ⟨hmem, hrest, hlen⟩ := tag_quote_facts hq l hrun
        obtain ⟨cnt, e, rest, hit, he, hlen'⟩ := ih (l.drop (qLen a l)) (i + 1 + qLen a l) (by simp; omega)
          (drop_add_of_drop h3 _) hrest
        exact ⟨cnt + 1, e, rest, Iter.succ ⟨reaches_tagItem_quoted hq c hd hmem, by omega⟩ hit, he, by omega⟩
      · have hdq : a ≠ '"' := fun e => hq (Or.inl e)
        have hsq : a ≠ '\'' := fun e => hq (Or.inr e)
        have hstep := tsStep_tag_plain hgt hlt hdq hsq
        have hrun' : tsRun .tag l = some .text := by rw [tsRun_cons, hstep] at hrun; exact hrun
        obtain ⟨cnt, e, rest, hit, he, hlen'⟩ := ih l (i + 1) (by omega) h3 hrun'
        have : tagLen .tag (a :: l) = tagLen .tag l + 1 := by simp [tagLen, hstep]
        exact ⟨cnt + 1, e, rest, Iter.succ ⟨reaches_tagItem_plain c hd hgt hdq hsq, Nat.lt_succ_self i⟩ hit, he,
          by omega⟩

/-! ### `match` at one position -/

/-- just after `<`: the next character exists, is none of `! < > " '`, and the scanner is inside the tag -/
theorem lt_facts (l : Str) (h : tsRun .lt l = some .text) :
    ∃ a l', l = a :: l' ∧ a ≠ '!' ∧ a ≠ '<' ∧ a ≠ '>' ∧ a ≠ '"' ∧ a ≠ '\'' ∧ tsRun .tag l' = some .text ∧
      tsRun .tag l = some .text ∧ tagLen .lt l = tagLen .tag l := by
  cases l with
  | nil => simp [tsRun] at h
  | cons a l' =>
    rw [tsRun_cons] at h
    by_cases h1 : a = '!'
    · subst h1; simp [tsStep] at h
    by_cases h2 : a = '<'
    · subst h2; simp [tsStep] at h
    by_cases h3 : a = '>'
    · subst h3; simp [tsStep] at h
    by_cases h4 : a = '"'
    · subst h4; simp [tsStep] at h
    by_cases h5 : a = '\''
    · subst h5; simp [tsStep] at h
    have hs : tsStep .lt a = some .tag := by simp [tsStep, h1, h2, h3, h4, h5]
    rw [hs] at h
    have hs' := tsStep_tag_plain h3 h2 h4 h5
    refine ⟨a, l', rfl, h1, h2, h3, h4, h5, h, ?_, ?_⟩
    · rw [tsRun_cons, hs']; exact h
    · simp [tagLen, hs, hs']

/-- **At a `<` of character data** the comment alternative fails (no `<!`), and the tag alternative matches exactly the
scanner's tag: the star takes the items up to the closing `>`, where the item fails. -/
theorem strip_matchAt_lt {s l : Str} {j : Nat} (hl : s.drop j = '<' :: l) (hrun : tsRun .lt l = some .text) :
    striptagsRxExpected.matchAt (Py.ctxOf s) j =
      some { start := j, stop := j + 1 + tagLen .lt l, caps := [(1, (j, j + 1 + tagLen .lt l))] } := by
  obtain ⟨a, l', rfl, hbang, _, _, _, _, _, hrunT, hlen⟩ := lt_facts l hrun
  have h3 : s.drop (j + 1) = a :: l' := drop_append (u := ['<']) hl
  obtain ⟨cnt, e, rest, hit, he, hlen'⟩ := tagItems_iter [] _ (a :: l') (j + 1) (Nat.le_refl _) h3 hrunT
  have hee := lt_of_drop_cons he
  rw [striptagsRxExpected_eq, hlen, show j + 1 + tagLen .tag (a :: l') = e + 1 by omega]
  unfold commentTailRx
  exact (reaches_grp 1 (reaches_seq (reaches_chr (clsTest_chr1 pyCats '<') [] hl rfl)
    (reaches_alt_right
      (seq_fails _ (chr_fails (clsTest_chr1 pyCats '!') [] h3 (fun ch h => by cases h; simpa using hbang)))
      (reaches_seq (reaches_rep_iter hit (Or.inr (tagItem_fails_gt [] he)) (Nat.zero_le _) (by intro m hm; cases hm)
          (by rw [ctxOf_n]; omega))
        (reaches_chr (clsTest_chr1 pyCats '>') [] he rfl))))).matchAt

/-- where the subject does not go on with `<` nothing matches -/
theorem strip_matchAt_none {s u : Str} {j : Nat} (hd : s.drop j = u) (hu : ∀ ch, u.head? = some ch → ch ≠ '<') :
    striptagsRxExpected.matchAt (Py.ctxOf s) j = none := by
  unfold Rx.matchAt
  rw [striptagsRxExpected_eq, m_grp]
  exact seq_fails _ (chr_fails (clsTest_chr1 pyCats '<') [] hd (fun ch h => by simpa using hu ch h)) _

/-! ### `search` from a position in character data -/

/-- no `<` in the rest of the subject: nothing is found -/
theorem strip_search_none {s l : Str} {p : Nat} (hl : s.drop p = l) (hno : '<' ∉ l) :
    striptagsRxExpected.search (Py.ctxOf s) p = none := by
  apply search_all_none
  intro i hpi _
  have hd : s.drop i = l.drop (i - p) := by
    rw [← drop_add_of_drop hl (i - p)]; congr 1; omega
  exact strip_matchAt_none hd fun ch hch e => hno (e ▸ List.mem_of_mem_drop (List.mem_of_mem_head? hch))

/-- the rest of the subject is character data without `<`, then a tag: the tag is found, whole -/
theorem strip_search_some {s pre l : Str} {p : Nat} (hl : s.drop p = pre ++ '<' :: l) (hpre : '<' ∉ pre)
    (hrun : tsRun .lt l = some .text) :
    striptagsRxExpected.search (Py.ctxOf s) p =
      some { start := p + pre.length, stop := p + pre.length + 1 + tagLen .lt l,
             caps := [(1, (p + pre.length, p + pre.length + 1 + tagLen .lt l))] } := by
  have hq : s.drop (p + pre.length) = '<' :: l := drop_append hl
  apply search_first _ _ p (p + pre.length) _ (by omega)
  · have := lt_of_drop_cons hq; rw [ctxOf_n]; omega
  · intro i hpi hiq
    have hd : s.drop i = pre.drop (i - p) ++ '<' :: l := by
      rw [← List.drop_append_of_le_length (by omega), ← drop_add_of_drop hl (i - p)]; congr 1; omega
    refine strip_matchAt_none hd fun ch hch e => hpre ?_
    cases hr : pre.drop (i - p) with
    | nil => have := List.drop_eq_nil_iff.mp hr; omega
    | cons a r =>
      rw [hr] at hch
      cases hch
      exact e ▸ List.mem_of_mem_drop (by rw [hr]; simp)
  · exact strip_matchAt_lt hq hrun

/-! ### the scanner's projection, piecewise -/

theorem erase_cons (p : Char × Bool) (t : TStr) : TStr.erase (p :: t) = p.1 :: TStr.erase t := rfl
theorem erase_nil : TStr.erase [] = [] := rfl
theorem erase_append (a b : TStr) : TStr.erase (a ++ b) = TStr.erase a ++ TStr.erase b := by simp [TStr.erase]
theorem erase_drop (n : Nat) (t : TStr) : TStr.erase (t.drop n) = (TStr.erase t).drop n := by simp [TStr.erase]
theorem erase_length (t : TStr) : (TStr.erase t).length = t.length := by simp [TStr.erase]

theorem tsStep_text_ne_lt {a : Char} {st : TS} (ha : a ≠ '<') (h : tsStep .text a = some st) : st = .text := by
  simp only [tsStep, beq_iff_eq, ha, if_false] at h
  split at h
  · cases h
  · injection h with h; exact h.symm

/-- character data before the next `<` is kept as it is -/
theorem tsStripT_text_prefix : ∀ (tpre rest : TStr), '<' ∉ tpre.erase →
    tsRun .text ((tpre ++ rest).erase) = some .text →
      tsStripT .text (tpre ++ rest) = tpre ++ tsStripT .text rest ∧ tsRun .text rest.erase = some .text := by
  intro tpre
  induction tpre with
  | nil => intro rest _ h; exact ⟨rfl, h⟩
  | cons p ps ih =>
    intro rest hno h
    rw [List.cons_append, erase_cons, tsRun_cons] at h
    rw [erase_cons] at hno
    have hp : p.1 ≠ '<' := fun e => hno (by rw [e]; simp)
    cases hs : tsStep .text p.1 with
    | none => rw [hs] at h; cases h
    | some st =>
      have := tsStep_text_ne_lt hp hs
      subst this
      rw [hs] at h
      obtain ⟨h1, h2⟩ := ih rest (fun hm => hno (List.mem_cons_of_mem _ hm)) h
      refine ⟨?_, h2⟩
      rw [List.cons_append, tsStripT, hs]
      simp [h1]

/-- from inside a tag, the projection drops everything up to and including the closing `>` -/
theorem tsStripT_tag : ∀ (tl : TStr) (st : TS), st ≠ .text → tsRun st tl.erase = some .text →
    tsStripT st tl = tsStripT .text (tl.drop (tagLen st tl.erase)) ∧
      tsRun .text (tl.erase.drop (tagLen st tl.erase)) = some .text ∧
      1 ≤ tagLen st tl.erase ∧ tagLen st tl.erase ≤ tl.length := by
  intro tl
  induction tl with
  | nil =>
    intro st hst h
    simp only [erase_nil, tsRun, Option.some.injEq] at h
    exact absurd h hst
  | cons p ps ih =>
    intro st hst h
    rw [erase_cons, tsRun_cons] at h
    cases hs : tsStep st p.1 with
    | none => rw [hs] at h; cases h
    | some st' =>
      rw [hs] at h
      have hstb : (st == TS.text) = false := by simpa using hst
      by_cases ht : st' = .text
      · subst ht
        have hlen : tagLen st (TStr.erase (p :: ps)) = 1 := by simp [erase_cons, tagLen, hs]
        rw [hlen]
        refine ⟨?_, by simpa [erase_cons] using h, Nat.le_refl _, by simp⟩
        rw [tsStripT, hs]
        simp [hstb]
      · have hlen : tagLen st (TStr.erase (p :: ps)) = tagLen st' (TStr.erase ps) + 1 := by
          simp only [erase_cons, tagLen, hs]
        obtain ⟨h1, h2, h3, h4⟩ := ih st' ht h
        rw [hlen]
        refine ⟨?_, by simpa [erase_cons] using h2, by omega, by simp; omega⟩
        rw [tsStripT, hs]
        simp [hstb, h1]

theorem first_lt_split (b : Str) (h : '<' ∈ b) : ∃ u v, b = u ++ '<' :: v ∧ '<' ∉ u := by
  induction b with
  | nil => simp at h
  | cons a r ih =>
    by_cases ha : a = '<'
    · exact ⟨[], r, by simp [ha], by simp⟩
    · rcases List.mem_cons.mp h with h | h
      · exact absurd h.symm ha
      · obtain ⟨u, v, h1, h2⟩ := ih h
        refine ⟨a :: u, v, by simp [h1], ?_⟩
        intro hm
        rcases List.mem_cons.mp hm with h3 | h3
        · exact ha h3.symm
        · exact h2 h3

/-! ### the `allSpans` / `deleteSpans` loop -/

theorem deleteSpans_nil {α : Type} (i : Nat) (l : List α) : deleteSpans [] i l = l := by
  cases l <;> simp [deleteSpans]

/-- the first span `[a, b)`, scanning from `i ≤ b`: keep up to `a`, drop up to `b`, go on with the other spans -/
theorem deleteSpans_skip {α : Type} (a b : Nat) (rest : List (Nat × Nat)) (hab : a ≤ b) :
    ∀ (tl : List α) (i : Nat), i ≤ b →
      deleteSpans ((a, b) :: rest) i tl = tl.take (a - i) ++ deleteSpans rest b (tl.drop (b - i)) := by
  intro tl
  induction tl with
  | nil => intro i _; simp [deleteSpans]
  | cons y ys ih =>
    intro i hib
    rw [deleteSpans]
    by_cases h1 : i < a
    · rw [if_pos h1, ih (i + 1) (by omega), show a - i = (a - (i + 1)) + 1 by omega,
        show b - i = (b - (i + 1)) + 1 by omega]
      simp
    · rw [if_neg h1]
      by_cases h2 : i < b
      · rw [if_pos h2, ih (i + 1) (by omega), show a - i = 0 by omega, show a - (i + 1) = 0 by omega,
          show b - i = (b - (i + 1)) + 1 by omega]
        simp
      · rw [if_neg h2, show a - i = 0 by omega, show b - i = 0 by omega]
        have : i = b := by omega
        subst this
        simp

theorem go_none (r : Rx) (x : RxCtx) (fuel p : Nat) (h : r.search x p = none) : allSpans.go r x fuel p = [] := by
  cases fuel with
  | zero => rfl
  | succ f =>
    simp only [allSpans.go, h]
    split <;> rfl

theorem go_some (r : Rx) (x : RxCtx) (f p : Nat) (mt : RxMatch) (hp : p ≤ x.n) (h : r.search x p = some mt)
    (hne : mt.stop ≠ mt.start) : allSpans.go r x (f + 1) p = (mt.start, mt.stop) :: allSpans.go r x f mt.stop := by
  simp only [allSpans.go, h]
  rw [if_neg (by omega), if_neg (by simpa using hne)]

/-- **The loop.**  From a position `p` in character data with enough fuel, deleting the spans the regex finds is the
scanner's projection. -/
theorem strip_go (s : Str) :
    ∀ (n : Nat) (tl : TStr) (p fuel : Nat), tl.length ≤ n → s.drop p = tl.erase →
      tsRun .text tl.erase = some .text → tl.length < fuel →
      deleteSpans (allSpans.go striptagsRxExpected (Py.ctxOf s) fuel p) p tl = tsStripT .text tl := by
  intro n
  induction n with
  | zero =>
    intro tl p fuel hn _ _ _
    have : tl = [] := List.length_eq_zero_iff.mp (by omega)
    subst this
    simp [deleteSpans, tsStripT]
  | succ n ih =>
    intro tl p fuel hn hl hrun hf
    by_cases hmem : '<' ∈ tl.erase
    · obtain ⟨pre, l', hsplit, hpre⟩ := first_lt_split _ hmem
      obtain ⟨tpre, trest, rfl, htpre, htrest⟩ := List.map_eq_append_iff.mp hsplit
      obtain ⟨tlt, tl', rfl, htlt, htl'⟩ := List.map_eq_cons_iff.mp htrest
      have hpl : tpre.length = pre.length := by rw [← htpre]; simp
      have hpre' : '<' ∉ TStr.erase tpre := by rw [TStr.erase, htpre]; exact hpre
      obtain ⟨hS1, hR1⟩ := tsStripT_text_prefix tpre (tlt :: tl') hpre' hrun
      have hlt : tsRun .lt (TStr.erase tl') = some .text := by
        rw [erase_cons, htlt, tsRun_cons] at hR1
        simpa [tsStep] using hR1
      obtain ⟨hS2, hR2, hL1, hL2⟩ := tsStripT_tag tl' .lt (by decide) hlt
      have hS3 : tsStripT .text (tlt :: tl') = tsStripT .lt tl' := by
        rw [tsStripT, htlt]
        simp [tsStep]
      have hl' : s.drop p = pre ++ '<' :: TStr.erase tl' := by
        rw [hl, erase_append, erase_cons, htlt, TStr.erase, htpre]
      obtain ⟨f, rfl⟩ : ∃ f, fuel = f + 1 := ⟨fuel - 1, by omega⟩
      have hsr := strip_search_some hl' hpre hlt
      have hq : s.drop (p + pre.length) = '<' :: TStr.erase tl' := drop_append hl'
      have hqn := lt_of_drop_cons hq
      have hq1 : s.drop (p + pre.length + 1) = TStr.erase tl' := drop_append (u := ['<']) hq
      rw [go_some _ _ f p _ (by rw [ctxOf_n]; omega) hsr (by simp; omega)]
      simp only
      rw [deleteSpans_skip _ _ _ (by omega) _ _ (by omega), hS1, hS3, hS2]
      have e1 : p + pre.length - p = tpre.length := by omega
      have e2 : p + pre.length + 1 + tagLen .lt (TStr.erase tl') - p =
          tpre.length + (1 + tagLen .lt (TStr.erase tl')) := by omega
      rw [e1, e2, List.take_left', ← List.drop_drop, List.drop_left']
      · simp only [List.drop_succ_cons, Nat.add_comm 1]
        congr 1
        simp only [List.length_append, List.length_cons] at hn hf
        apply ih
        · simp; omega
        · rw [erase_drop, ← drop_add_of_drop hq1]
        · rw [erase_drop]; exact hR2
        · simp; omega
      · rfl
      · rfl
    · rw [go_none _ _ _ _ (strip_search_none hl hmem), deleteSpans_nil]
      have := tsStripT_text_prefix tl [] hmem (by simpa using hrun)
      simpa [tsStripT] using this.1.symm

/-! ### `StripAgrees` -/

/-- **`StripAgrees`** for the expected regex: for ALL tagged strings whose erasure is well tagged -/
theorem stripAgrees_expected : StripAgrees striptagsRxExpected := by
  intro t hw
  unfold tStriptags allSpans
  exact strip_go t.erase t.length t 0 _ (Nat.le_refl _) rfl hw (by simp [TStr.erase])

/-- … hence for the regex of the regenerated table -/
theorem stripAgrees_generated : StripAgrees ((namedRx.lookup "mistune.util._striptags_re").getD .fail) := by
  rw [striptagsRx_is_expected]
  exact stripAgrees_expected

/-- the environment the driver builds carries the regenerated regex -/
theorem stripAgrees_mkTEnv (args : List (String × TVal)) (esc : Bool) : StripAgrees (mkTEnv args esc).striptagsRe := by
  rw [mkTEnv_striptagsRe]
  exact stripAgrees_generated

/-! ### hypothesis-free corollaries of the theorems that took `hstrip` -/

/-- **C02, tag structure, on the templates of the working tree** — `render_tagged` without the hypothesis
`StripAgrees` -/
theorem render_tagged_closed (fuel : Nat) (toks : List Json)
    (h1 : toks.all (refinedOk templates fuel) = true) (h2 : toks.all (tagTreeOk tagTable fuel) = true) :
    WellTagged (renderToks templates (fun a => mkTEnv a true) fuel toks).erase :=
  render_tagged fuel toks stripAgrees_generated h1 h2

/-- `renderTok_tagged_without_wf_false` without `hstrip` -/
theorem renderTok_tagged_without_wf_false_closed :
    ¬ (∀ (tt : TagTable) (mk : List (String × TVal) → TEnv),
        (∀ args, (mk args).escapeFlag = true ∧ (mk args).args = args) →
        (∀ args, StripAgrees (mk args).striptagsRe) →
        ∀ fuel t, refinedOk tt.tbl fuel t = true → tagTreeOk tt fuel t = true →
          WellTagged (renderTok tt.tbl mk fuel t).erase) :=
  renderTok_tagged_without_wf_false stripAgrees_generated

/-- **C06 (a), balance, on the templates of the working tree** — `render_balanced` without the hypothesis `StripAgrees` -/
theorem render_balanced_closed (fuel : Nat) (toks : List Json)
    (h1 : toks.all (refinedOk templates fuel) = true) (h2 : toks.all (balTreeOk tagTable fuel) = true) :
    Balanced (renderToks templates (fun a => mkTEnv a true) fuel toks).erase :=
  render_balanced fuel toks stripAgrees_generated h1 h2

/-- `renderTok_balanced_without_strict_false` without `hstrip` -/
theorem renderTok_balanced_without_strict_false_closed :
    ¬ (∀ (tt : TagTable) (mk : List (String × TVal) → TEnv),
        (∀ args, (mk args).escapeFlag = true ∧ (mk args).args = args) →
        (∀ args, StripAgrees (mk args).striptagsRe) →
        (tt.tbl.tmpls.map (·.1)).Nodup → tt.wf = true →
        ∀ fuel t, refinedOk tt.tbl fuel t = true → balTreeOk tt fuel t = true →
          Neutral (renderTok tt.tbl mk fuel t).erase) :=
  renderTok_balanced_without_strict_false stripAgrees_generated

/-! ### concrete instances (the statement is not vacuous) -/

/-- character data (document data, flagged `true`) around two tags (template literals, flagged `false`); the first tag
has a double-quoted value holding `>`, `'` and `<`, and a single-quoted value holding `>`, `"` and `<` -/
def exTagged : TStr :=
  TStr.ofData "it's ".toList ++ TStr.ofLit "<a href=\"1>2'<3\" title='>\"<' x>".toList ++ TStr.ofData "b".toList ++
    TStr.ofLit "</a>".toList ++ TStr.ofData " c".toList

/-- the hypothesis holds … -/
example : WellTagged exTagged.erase := by unfold WellTagged; decide +kernel

/-- … and the theorem gives the result of `striptags` on it: both tags go, whole (no `>` inside a quoted value ends a
tag, the quote of the other kind does not end a value), the flags of the rest are kept -/
example :
    tStriptags ((namedRx.lookup "mistune.util._striptags_re").getD .fail) exTagged =
      TStr.ofData "it's b c".toList := by
  rw [stripAgrees_generated exTagged (by unfold WellTagged; decide +kernel)]
  decide +kernel

/-- the same instance by running the engine itself (no use of the theorem) -/
example : tStriptags striptagsRxExpected exTagged = TStr.ofData "it's b c".toList := by
  rw [tStriptags_eq_F]
  decide +kernel

/-- the spans the engine finds on it: the two tags -/
example : allSpans striptagsRxExpected exTagged.erase = [(5, 36), (37, 41)] := by decide +kernel

/-- non-vacuity of `render_tagged_closed`: an image whose description holds a link with a title; the description goes
into the `alt` attribute tag-stripped -/
example :
    let tok := Json.obj [("type", .str "paragraph".toList), ("children", .arr [
      Json.obj [("type", .str "image".toList), ("attrs", .obj [("url", .str "x.png".toList)]), ("children", .arr [
        Json.obj [("type", .str "link".toList), ("attrs", .obj [("url", .str "on=1//".toList), ("title", .str "t\nu".toList)]),
                  ("children", .arr [Json.obj [("type", .str "text".toList), ("raw", .str "a".toList)]])]])]])]
    refinedOk templates 6 tok = true ∧ tagTreeOk tagTable 6 tok = true ∧
    (renderTok templates (fun a => mkTEnv a true) 6 tok).erase = "<p><img src=\"x.png\" alt=\"a\" /></p>\n".toList := by
  dsimp only
  refine ⟨by decide +kernel, by decide +kernel, ?_⟩
  rw [renderTok_children templates _ 5 _ _ tmpl_paragraph (by decide +kernel) rfl rfl]
  simp only [List.flatMap_cons, List.flatMap_nil]
  rw [renderTok_children templates _ 4 _ _ tmpl_image (by decide +kernel) rfl rfl]
  rw [evalTmpl_image_notitle, evalPieces_split _ "$text" [.striptags] 3 _ rfl]
  · simp only [applyOps, List.foldl_cons, List.foldl_nil, applyOp]
    rw [stripAgrees_mkTEnv _ _ _ (by unfold WellTagged; decide +kernel)]
    decide +kernel
  · decide +kernel

/-- a quoted value that is never closed makes the string ill tagged: the hypothesis is needed (here the regex removes
nothing, the scanner's projection stops at the `<`) -/
example :
    ¬ WellTagged "a<b \"c>d".toList ∧
    tStriptags striptagsRxExpected (TStr.ofLit "a<b \"c>d".toList) = TStr.ofLit "a<b \"c>d".toList ∧
    tsStripT .text (TStr.ofLit "a<b \"c>d".toList) = TStr.ofLit "a".toList := by
  refine ⟨by unfold WellTagged; decide +kernel, ?_, by decide +kernel⟩
  rw [tStriptags_eq_F]
  decide +kernel

/-- `<!` is not well tagged, and there the two differ as well: the regex takes `<!x>` as a tag (second alternative) -/
example :
    ¬ WellTagged "a<!x>b".toList ∧
    tStriptags striptagsRxExpected (TStr.ofLit "a<!x>b".toList) = TStr.ofLit "ab".toList ∧
    tsStripT .text (TStr.ofLit "a<!x>b".toList) = TStr.ofLit "a".toList := by
  refine ⟨by unfold WellTagged; decide +kernel, ?_, by decide +kernel⟩
  rw [tStriptags_eq_F]
  decide +kernel

end Mistune

