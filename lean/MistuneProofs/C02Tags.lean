/-
C02 — tag structure: the rendered HTML is *well tagged* (every `<`, `>`, `"` delimits a tag or a quoted attribute
value, or sits inside such a value).  Together with `render_safe` (no document character is `<`, `>`, `"`) this is
"input text appears only as escaped character data or inside properly quoted attribute values": the delimiters
all come from template literals, and they pair up.

One hypothesis is explicit here: `StripAgrees` — on well-tagged strings the regenerated
`_striptags_re` removes exactly what the scanner calls tags (the image template puts the tag-stripped rendering of
its children into the `alt` attribute).  It is proved in `MistuneProofs/C02Strip.lean` (`stripAgrees_generated`),
which also holds the hypothesis-free corollaries (`render_tagged_closed`, …) and a worked example; they cannot stand
here: C02Strip imports this file for the definition of `StripAgrees`.

The tree theorem `renderTok_tagged` is false for an arbitrary `TagTable` that passes the per-template check (four
kernel-checked counterexamples in the section "counterexamples" below); it has two more decidable table hypotheses
(`Nodup` of the type names and `TagTable.wf`), both kernel-decided for the working tree, so `render_tagged` has neither.
-/
import Mistune.TmplTags
import Mistune.Generated.Templates
import MistuneProofs.C02Tmpl
namespace Mistune
open Mistune.Generated

/-- on well-tagged strings, `striptags` is the scanner's projection on character data -/
def StripAgrees (re : Rx) : Prop := ∀ t : TStr, WellTagged t.erase → tStriptags re t = tsStripT .text t

/-- The environment the driver builds carries the regenerated regex.  The callers rewrite with this equation: left to
the unifier (`exact hstrip`), the two sides are compared by evaluating the table look-up. -/
theorem mkTEnv_striptagsRe (args : List (String × TVal)) (esc : Bool) :
    (mkTEnv args esc).striptagsRe = (namedRx.lookup "mistune.util._striptags_re").getD .fail := by
  rw [mkTEnv]

/-- every character is document data (argument values are; rendered children are not) -/
def TStr.AllData (t : TStr) : Prop := ∀ p ∈ t, p.2 = true

theorem tsRun_append (st : TS) (a b : Str) :
    tsRun st (a ++ b) = (tsRun st a).bind (fun s => tsRun s b) := by
  induction a generalizing st with
  | nil => simp [tsRun]
  | cons c cs ih =>
    simp only [List.cons_append, tsRun]
    cases tsStep st c with
    | none => simp
    | some s => exact ih s

theorem tsRun_seq {st st1 st2 : TS} {a b : Str} (h1 : tsRun st a = some st1) (h2 : tsRun st1 b = some st2) :
    tsRun st (a ++ b) = some st2 := by
  rw [tsRun_append, h1]; exact h2

theorem plain3_iff (c : Char) : plain3 c = true ↔ c ≠ '<' ∧ c ≠ '>' ∧ c ≠ '"' := by
  simp [plain3, and_assoc]

theorem tsStep_text_of_plain3 (c : Char) (h : plain3 c = true) : tsStep .text c = some .text := by
  simp only [plain3, Bool.and_eq_true, bne_iff_ne, ne_eq] at h
  simp [tsStep, h]

theorem plain3_of_tsStep_text (c : Char) (h : tsStep .text c = some .text) : plain3 c = true := by
  simp only [tsStep] at h
  simp only [plain3, Bool.and_eq_true, bne_iff_ne, ne_eq]
  split at h
  · cases h
  · split at h
    · cases h
    · rename_i h1 h2
      simp at h1 h2
      exact ⟨⟨h1, h2.1⟩, h2.2⟩

theorem tsStep_dq_of_plain3 (c : Char) (h : plain3 c = true) : tsStep .dq c = some .dq := by
  simp only [plain3, Bool.and_eq_true, bne_iff_ne, ne_eq] at h
  simp [tsStep, h]

theorem tsStep_tag_of_plainC (c : Char) (h : plainC c = true) : tsStep .tag c = some .tag := by
  simp only [plainC, Bool.and_eq_true, bne_iff_ne, ne_eq] at h
  simp [tsStep, h]

theorem plain3_of_plainC (c : Char) (h : plainC c = true) : plain3 c = true := by
  simp only [plainC, Bool.and_eq_true] at h
  simp only [plain3, Bool.and_eq_true]
  exact h.1

theorem tsRun_stable (st : TS) (s : Str) (h : ∀ c ∈ s, tsStep st c = some st) : tsRun st s = some st := by
  induction s with
  | nil => rfl
  | cons c cs ih =>
    simp only [tsRun, h c List.mem_cons_self]
    exact ih (fun d hd => h d (List.mem_cons_of_mem _ hd))

theorem tsStripT_plain (st : TS) (t : TStr) : ∀ p ∈ tsStripT st t, plain3 p.1 = true := by
  induction t generalizing st with
  | nil => intro p hp; simp [tsStripT] at hp
  | cons q qs ih =>
    intro p hp
    unfold tsStripT at hp
    split at hp
    · rename_i st' hst
      split at hp
      · rename_i hc
        simp only [Bool.and_eq_true, beq_iff_eq] at hc
        rcases List.mem_cons.1 hp with rfl | hp
        · rw [hc.1, hc.2] at hst
          exact plain3_of_tsStep_text _ hst
        · exact ih _ p hp
      · exact ih _ p hp
    · cases hp

/-! ### strings with none of `<`, `>`, `"` (whatever the flags) -/

def TStr.Plain (t : TStr) : Prop := ∀ p ∈ t, plain3 p.1 = true

theorem TStr.plain_iff_clean (t : TStr) : t.Plain ↔ t.Clean (fun _ => True) :=
  forall₂_congr fun p _ => ⟨fun h _ => (plain3_iff p.1).1 h, fun h => (plain3_iff p.1).2 (h trivial)⟩

theorem TStr.Plain.erase {t : TStr} (h : t.Plain) : ∀ c ∈ t.erase, plain3 c = true := by
  intro c hc
  simp only [TStr.erase, List.mem_map] at hc
  obtain ⟨p, hp, rfl⟩ := hc
  exact h p hp

theorem TStr.Plain.nil : TStr.Plain [] := by intro p hp; cases hp

theorem TStr.Plain.append {a b : TStr} (ha : a.Plain) (hb : b.Plain) : (a ++ b).Plain := by
  intro p hp
  rcases List.mem_append.1 hp with h | h
  · exact ha p h
  · exact hb p h

theorem safe_allData_Plain (t : TStr) (hd : t.AllData) (hs : t.Safe) : t.Plain :=
  fun p hp => (plain3_iff _).2 (hs p hp (hd p hp))

theorem applyOps_Plain (env : TEnv) (ops : List TOp) (t : TStr) (h : hasEscaper ops = true ∨ t.Plain) :
    (applyOps env ops t).Plain :=
  (TStr.plain_iff_clean _).2 (applyOps_clean env ops t (h.imp_right (TStr.plain_iff_clean t).1))

/-- whatever goes in, an operation chain that contains an escaper yields none of `<`, `>`, `"` -/
theorem applyOps_escaper_plain (env : TEnv) (ops : List TOp) (t : TStr) (h : hasEscaper ops = true) :
    ∀ c ∈ (applyOps env ops t).erase, plain3 c = true :=
  (applyOps_Plain env ops t (Or.inl h)).erase

theorem applyOps_all_str (env : TEnv) (ops : List TOp) (t : TStr) (h : ops.all (fun o => o == .str) = true) :
    applyOps env ops t = t := by
  induction ops generalizing t with
  | nil => rfl
  | cons op ops ih =>
    simp only [List.all_cons, Bool.and_eq_true, beq_iff_eq] at h
    simp only [applyOps, List.foldl_cons]
    rw [h.1]
    exact ih _ h.2

theorem plain_run {st : TS} (hst : st = .text ∨ st = .dq) (t : TStr) (h : t.Plain) : tsRun st t.erase = some st := by
  apply tsRun_stable
  intro c hc
  rcases hst with rfl | rfl
  · exact tsStep_text_of_plain3 c (h.erase c hc)
  · exact tsStep_dq_of_plain3 c (h.erase c hc)

/-- digits and `-` are harmless inside a tag -/
theorem intChar_plainC (c : Char) (h : intChar c = true) : plainC c = true := by
  have := intChar_ne c h
  simp [plainC, this]

theorem intChar_run (st : TS) (s : Str) (hs : ∀ c ∈ s, intChar c = true) (h : st = .text ∨ st = .dq ∨ st = .tag) :
    tsRun st s = some st := by
  apply tsRun_stable
  intro c hc
  have hp := intChar_plainC c (hs c hc)
  rcases h with rfl | rfl | rfl
  · exact tsStep_text_of_plain3 c (plain3_of_plainC c hp)
  · exact tsStep_dq_of_plain3 c (plain3_of_plainC c hp)
  · exact tsStep_tag_of_plainC c hp

/-! ### environments -/

def TocSafe (env : TEnv) (n : String) : Prop :=
  ∀ items, env.get n = .toc items → ∀ it ∈ items, it.2.1.Safe ∧ it.2.2.Safe

/-- the value of an integer argument: an integer, or absent -/
def IntVal (env : TEnv) (n : String) : Prop := (∃ k, env.get n = .int k) ∨ env.get n = .none

theorem IntVal.chars {env : TEnv} {n : String} (h : IntVal env n) : ∀ c ∈ (env.get n).toTStr.erase, intChar c = true := by
  rcases h with ⟨k, hk⟩ | hk
  · rw [hk, TVal.toTStr, TStr.erase_ofData]
    exact int_chars_intChar k
  · rw [hk]; intro c hc; cases hc

/-- what the environment of one token must satisfy (everything except the safety of table-of-contents items, which
`tagRunPieces` does not ask about: see `TocSafe`, `tocNames`, counterexample 1).  `ints` is guarded like `allData` /
`safe`: for a container, `$text` is the rendered children even when listed in `intArgs`. -/
structure EnvCore (info : TagInfo) (env : TEnv) : Prop where
  esc : env.escapeFlag = true
  strip : StripAgrees env.striptagsRe
  /-- `$text` of a container is well tagged (induction hypothesis of the tree theorem) -/
  children : info.textIsChildren = true → WellTagged (env.get "$text").toTStr.erase
  /-- every other value is all-data, and safe unless listed as arbitrary data -/
  allData : ∀ n, (n = "$text" → info.textIsChildren = false) → (env.get n).toTStr.AllData
  safe : ∀ n, (n = "$text" → info.textIsChildren = false) → info.dataArgs.contains n = false → (env.get n).Safe
  ints : ∀ n, (n = "$text" → info.textIsChildren = false) → info.intArgs.contains n = true →
    (∃ k, env.get n = .int k) ∨ env.get n = .none
  tocs : ∀ n items, env.get n = .toc items → ∀ it ∈ items, it.2.1.AllData ∧ it.2.2.AllData

/-- `EnvCore` plus: every table-of-contents value is safe, whatever its name (needed because the checker accepts any `.toc n`) -/
structure EnvTagged (info : TagInfo) (env : TEnv) : Prop extends EnvCore info env where
  tocSafe : ∀ n, TocSafe env n

/-! ### what a piece evaluates to, by the case in which the checkers admit it

`tagRunPieces` and the balance checker (C06Balance) admit an argument in the same four cases: the rendered children
untouched; the rendered children tag-stripped; an integer argument printed as it is; any other argument that is not
arbitrary data, or is escaped. -/

section Pieces
variable {info : TagInfo} {env : TEnv}

theorem EnvCore.strip_plain (h : EnvCore info env) (hw : WellTagged (env.get "$text").toTStr.erase) :
    (evalPiece env (.arg "$text" [.striptags])).Plain := by
  have : evalPiece env (.arg "$text" [.striptags]) = tsStripT .text (env.get "$text").toTStr := h.strip _ hw
  rw [this]
  exact tsStripT_plain _ _

theorem evalPiece_int {n : String} {ops : List TOp} (hops : ops.all (fun o => o == .str) = true) :
    evalPiece env (.arg n ops) = (env.get n).toTStr := by
  rw [evalPiece, applyOps_all_str env ops _ hops]

theorem EnvCore.arg_plain (h : EnvCore info env) {n : String} {ops : List TOp}
    (hg : n = "$text" → info.textIsChildren = false)
    (hc : info.dataArgs.contains n = false ∨ hasEscaper ops = true) : (evalPiece env (.arg n ops)).Plain := by
  rw [evalPiece]
  apply applyOps_Plain
  rcases hc with hd | he
  · exact Or.inr (safe_allData_Plain _ (h.allData n hg) (TVal.toTStr_safe _ (h.safe n hg hd)))
  · exact Or.inl he

theorem evalPiece_sub_plain (env : TEnv) {ops : List TOp} (e : List TPiece) (h : hasEscaper ops = true) :
    (evalPiece env (.sub ops e)).Plain := by
  rw [evalPiece]
  exact applyOps_Plain _ _ _ (Or.inl h)

/-- the guard of the checkers' second and third case -/
theorem text_guard {n : String} (hc : ¬ (n == "$text" && info.textIsChildren) = true) :
    n = "$text" → info.textIsChildren = false := by
  intro hn
  subst hn
  simpa using hc

end Pieces

theorem tocAnchorT_run (id text : TStr) (h1 : id.Plain) (h2 : text.Plain) :
    tsRun .text (tocAnchorT id text).erase = some .text := by
  unfold tocAnchorT
  simp only [TStr.erase_append, TStr.erase_ofLit]
  have e1 : tsRun .text "<a href=\"#".toList = some .dq := by decide
  have e2 : tsRun .dq "\">".toList = some .text := by decide
  have e3 : tsRun .text "</a>".toList = some .text := by decide
  exact tsRun_seq (tsRun_seq (tsRun_seq (tsRun_seq e1 (plain_run (Or.inr rfl) _ h1)) e2) (plain_run (Or.inl rfl) _ h2)) e3

theorem WellTagged.nil : WellTagged [] := rfl

theorem WellTagged.append {a b : TStr} (ha : WellTagged a.erase) (hb : WellTagged b.erase) :
    WellTagged (a ++ b).erase := by
  rw [TStr.erase_append]
  exact tsRun_seq ha hb

theorem WellTagged.flatMap {α : Type} (l : List α) (f : α → TStr) (h : ∀ x ∈ l, WellTagged (f x).erase) :
    WellTagged (TStr.erase (l.flatMap f)) :=
  flatMap_of_append (Q := fun t => WellTagged t.erase) WellTagged.nil (fun _ _ => WellTagged.append) l f h

/-! ### a checker's run through the pieces

`tagRunPieces` and the two runs of the balance checker (C06Balance) walk the pieces of a template in the same way and
admit an argument under the same conditions (the four cases above).  What each has of its own is a `PieceRun σ`: its
states `σ` with the scanner state each stands for (`ts`), its run through a literal (`lit`), what it does at an integer
argument (`int`), and whether it takes a table of contents (`toc`).  `PieceRun.run` is the common walk.

There are three instances: `tagPieceRun`, whose states are the scanner states themselves (`tagRunPieces_eq_run`), and in
C06Balance `balPieceRun false` (`balRunPieces_eq_run`) and `balPieceRun true` (`balRunStrict_eq_run`), whose states are
the symbolic states `SBS` of the stack automaton.

`PieceRun.Sound crun γ I Q env` is what `PieceRun.run_sound` asks for, to conclude that a run of the checker from `s`
to `s'` is matched, over the evaluated pieces, by the concrete run `crun` (`tsRun`, `bsRun`) from `γ s` to `γ s'`: `crun`
composes along `++`; `crun` follows `lit` over the literal and `int` over the printed integer, and both keep the
invariant `I`; `crun` stays at `γ s` over a string without `<`, `>`, `"` if `s` stands for character data or a
double-quoted value, and over the rendered children (`Q` is what is known of them) if `s` stands for character
data. -/

structure PieceRun (σ : Type) where
  /-- the scanner state the checker is in -/
  ts : σ → TS
  lit : σ → Str → Option σ
  int : String → σ → Option σ
  toc : σ → Bool

/-- stay in `s` if `c` holds, reject otherwise -/
def allow {σ : Type} (c : Bool) (s : σ) : Option σ := if c then some s else none

theorem allow_eq_some {σ : Type} {c : Bool} {s s' : σ} (h : allow c s = some s') : c = true ∧ s = s' := by
  cases c
  · cases h
  · cases h; exact ⟨rfl, rfl⟩

theorem allow_bind {σ τ : Type} (c : Bool) (s : σ) (k : σ → Option τ) :
    (allow c s).bind k = if c then k s else none := by
  cases c <;> rfl

theorem Option.ite_bind {σ τ : Type} (c : Prop) [Decidable c] (a b : Option σ) (k : σ → Option τ) :
    (if c then a else b).bind k = if c then a.bind k else b.bind k := by
  split <;> rfl

namespace PieceRun
variable {σ : Type} (M : PieceRun σ) (info : TagInfo)

def step (s : σ) : TPiece → Option σ
  | .lit x => M.lit s x
  | .arg n ops =>
    if n == "$text" && info.textIsChildren then
      allow ((ops == [] && M.ts s == .text) || (ops == [.striptags] && (M.ts s == .text || M.ts s == .dq))) s
    else if info.intArgs.contains n && ops.all (fun o => o == .str) then M.int n s
    else allow ((!info.dataArgs.contains n || hasEscaper ops) && (M.ts s == .text || M.ts s == .dq)) s
  | .sub ops _ => allow (hasEscaper ops && (M.ts s == .text || M.ts s == .dq)) s
  | .toc _ => allow (M.toc s) s
  | .replaceFirst _ _ _ => none

def run : σ → List TPiece → Option σ
  | s, [] => some s
  | s, p :: rest => (M.step info s p).bind (fun s' => run s' rest)

/-- a checker that admits more at integer arguments accepts more -/
theorem run_mono {M : PieceRun σ} {int' : String → σ → Option σ}
    (hint' : ∀ n s s', M.int n s = some s' → int' n s = some s') :
    ∀ (e : List TPiece) (s s' : σ), M.run info s e = some s' → { M with int := int' }.run info s e = some s' := by
  intro e
  induction e with
  | nil => exact fun _ _ h => h
  | cons p rest ih =>
    intro s s' h
    simp only [run] at h ⊢
    cases h1 : M.step info s p with
    | none => simp [h1] at h
    | some s1 =>
      rw [h1] at h
      have : { M with int := int' }.step info s p = some s1 := by
        cases p with
        | arg n ops =>
          simp only [step] at h1 ⊢
          by_cases hc : (n == "$text" && info.textIsChildren) = true
          · rw [if_pos hc] at h1 ⊢
            exact h1
          · rw [if_neg hc] at h1 ⊢
            by_cases hint : (info.intArgs.contains n && ops.all (fun o => o == .str)) = true
            · rw [if_pos hint] at h1 ⊢
              exact hint' n s s1 h1
            · rw [if_neg hint] at h1 ⊢
              exact h1
        | _ => exact h1
      rw [this]
      exact ih s1 s' h

/-- What makes the checker sound for `crun`, on the states that meet `I`; `Q` is what is known of the rendered children. -/
structure Sound {κ : Type} (crun : κ → Str → Option κ) (γ : σ → κ) (I : σ → Prop) (Q : Str → Prop) (env : TEnv) : Prop where
  nil : ∀ k, crun k [] = some k
  seq : ∀ {k k1 k2 x y}, crun k x = some k1 → crun k1 y = some k2 → crun k (x ++ y) = some k2
  lit : ∀ s s' x, I s → M.lit s x = some s' → crun (γ s) x = some (γ s') ∧ I s'
  children : ∀ s x, I s → M.ts s = .text → Q x → crun (γ s) x = some (γ s)
  plain : ∀ s (t : TStr), I s → M.ts s = .text ∨ M.ts s = .dq → t.Plain → crun (γ s) t.erase = some (γ s)
  int : ∀ s s' n, I s → IntVal env n → M.int n s = some s' → crun (γ s) (env.get n).toTStr.erase = some (γ s') ∧ I s'

variable {M info} {κ : Type} {crun : κ → Str → Option κ} {γ : σ → κ} {I : σ → Prop} {Q : Str → Prop} {env : TEnv}

/-- one piece, by the case in which it is admitted -/
theorem step_sound (hS : M.Sound crun γ I Q env) (h : EnvCore info env)
    (hch : info.textIsChildren = true → Q (env.get "$text").toTStr.erase) {p : TPiece} {s s' : σ}
    (htoc : ∀ n, p = .toc n → M.toc s = true → crun (γ s) (evalPiece env p).erase = some (γ s))
    (hi : I s) (hr : M.step info s p = some s') :
    crun (γ s) (evalPiece env p).erase = some (γ s') ∧ I s' := by
  cases p with
  | lit x =>
    rw [evalPiece, TStr.erase_ofLit]
    exact hS.lit s s' x hi hr
  | arg n ops =>
    simp only [step] at hr
    by_cases hc : (n == "$text" && info.textIsChildren) = true
    · -- the rendered children
      rw [if_pos hc] at hr
      simp only [Bool.and_eq_true, beq_iff_eq] at hc
      obtain ⟨rfl, htc⟩ := hc
      obtain ⟨hcase, rfl⟩ := allow_eq_some hr
      simp only [Bool.or_eq_true, Bool.and_eq_true, beq_iff_eq] at hcase
      refine ⟨?_, hi⟩
      rcases hcase with ⟨rfl, hst⟩ | ⟨rfl, hst⟩
      · exact hS.children s _ hi hst (hch htc)
      · exact hS.plain s _ hi hst (h.strip_plain (h.children htc))
    · rw [if_neg hc] at hr
      have hguard := text_guard hc
      by_cases hint : (info.intArgs.contains n && ops.all (fun o => o == .str)) = true
      · -- an integer
        rw [if_pos hint] at hr
        simp only [Bool.and_eq_true] at hint
        rw [evalPiece_int hint.2]
        exact hS.int s s' n hi (h.ints n hguard hint.1) hr
      · rw [if_neg hint] at hr
        obtain ⟨hcase, rfl⟩ := allow_eq_some hr
        simp only [Bool.and_eq_true, Bool.or_eq_true, Bool.not_eq_true', beq_iff_eq] at hcase
        exact ⟨hS.plain s _ hi hcase.2 (h.arg_plain hguard hcase.1), hi⟩
  | sub ops e =>
    obtain ⟨hcase, rfl⟩ := allow_eq_some hr
    simp only [Bool.and_eq_true, Bool.or_eq_true, beq_iff_eq] at hcase
    exact ⟨hS.plain s _ hi hcase.2 (evalPiece_sub_plain env e hcase.1), hi⟩
  | replaceFirst e pat b => cases hr
  | toc n =>
    obtain ⟨hcase, rfl⟩ := allow_eq_some hr
    exact ⟨htoc n rfl hcase, hi⟩

/-- soundness of the run on a piece list; `htoc`: of the table-of-contents pieces it admits -/
theorem run_sound (hS : M.Sound crun γ I Q env) (h : EnvCore info env)
    (hch : info.textIsChildren = true → Q (env.get "$text").toTStr.erase) :
    ∀ (e : List TPiece), (∀ n, TPiece.toc n ∈ e → ∀ s, M.toc s = true →
        crun (γ s) (evalPiece env (.toc n)).erase = some (γ s)) → ∀ (s s' : σ), I s → M.run info s e = some s' →
      crun (γ s) (evalPieces env e).erase = some (γ s') ∧ I s' := by
  intro e
  induction e with
  | nil =>
    intro _ s s' hi hr
    cases hr
    exact ⟨hS.nil _, hi⟩
  | cons p rest ih =>
    intro htoc s s' hi hr
    simp only [run] at hr
    cases h1 : M.step info s p with
    | none => simp [h1] at hr
    | some s1 =>
      rw [h1] at hr
      obtain ⟨hp, hi1⟩ := step_sound hS h hch (fun n hn => hn ▸ htoc n (hn ▸ List.mem_cons_self) s) hi h1
      obtain ⟨hrest, hi'⟩ := ih (fun n hn => htoc n (List.mem_cons_of_mem _ hn)) s1 s' hi1 hr
      rw [evalPieces, TStr.erase_append]
      exact ⟨hS.seq hp hrest, hi'⟩

end PieceRun

/-- the tag checker: the scanner itself; an integer may stand wherever `<`, `>`, `"`, `'` mean nothing -/
def tagPieceRun : PieceRun TS where
  ts := id
  lit := tsRun
  int := fun _ st => allow (st == .text || st == .dq || st == .tag) st
  toc := fun st => st == .text

theorem tagRunPieces_eq_run (info : TagInfo) (st : TS) (e : List TPiece) :
    tagRunPieces info st e = tagPieceRun.run info st e := by
  induction e generalizing st with
  | nil => rfl
  | cons p rest ih =>
    cases p with
    | lit s =>
      simp only [tagRunPieces, PieceRun.run, PieceRun.step, tagPieceRun, ih]
      cases tsRun st s <;> rfl
    | _ =>
      simp only [tagRunPieces, PieceRun.run, PieceRun.step, tagPieceRun, Option.ite_bind, allow_bind, Option.bind_none, id, ih]

theorem tagPieceRun_sound (env : TEnv) : tagPieceRun.Sound tsRun id (fun _ => True) WellTagged env where
  nil := fun _ => rfl
  seq := tsRun_seq
  lit := fun _ _ _ _ hr => ⟨hr, trivial⟩
  children := fun s x _ hst hx => by
    cases (show s = .text from hst)
    exact hx
  plain := fun _ t _ hst ht => plain_run hst t ht
  int := fun s s' n _ hv hr => by
    obtain ⟨hst, rfl⟩ := allow_eq_some hr
    simp only [Bool.or_eq_true, beq_iff_eq, or_assoc] at hst
    exact ⟨intChar_run s _ hv.chars hst, trivial⟩

theorem toc_wellTagged {info : TagInfo} {env : TEnv} (h : EnvCore info env) {n : String} (hs : TocSafe env n) :
    WellTagged (evalPiece env (.toc n)).erase := by
  simp only [evalPiece]
  split
  · rename_i items heq
    apply WellTagged.flatMap
    intro it hit
    have hd := h.tocs n items heq it hit
    have hs := hs items heq it hit
    exact tocAnchorT_run _ _ (safe_allData_Plain _ hd.1 hs.1) (safe_allData_Plain _ hd.2 hs.2)
  · rfl

/-- soundness of the checker on a piece list; the `.toc` pieces it meets must read safe values -/
theorem tagRunPieces_core (info : TagInfo) (env : TEnv) (h : EnvCore info env) (e : List TPiece)
    (htoc : ∀ n, TPiece.toc n ∈ e → TocSafe env n) (st st' : TS) (hr : tagRunPieces info st e = some st') :
    tsRun st (evalPieces env e).erase = some st' :=
  (PieceRun.run_sound (tagPieceRun_sound env) h h.children e
    (fun n hn s hs => by cases (show s = .text from beq_iff_eq.1 hs); exact toc_wellTagged h (htoc n hn))
    st st' trivial (tagRunPieces_eq_run info st e ▸ hr)).1

theorem tagRunPieces_sound (info : TagInfo) (env : TEnv) (h : EnvTagged info env) :
    ∀ (e : List TPiece) (st st' : TS), tagRunPieces info st e = some st' → tsRun st (evalPieces env e).erase = some st' :=
  fun e => tagRunPieces_core info env h.toEnvCore e (fun n _ => h.tocSafe n)

/-! ### templates -/

/-- names of the table-of-contents pieces a template can evaluate -/
def tocNamesP (e : List TPiece) : List String :=
  e.filterMap (fun p => match p with | .toc n => some n | _ => none)

def tocNames : Tmpl → List String
  | .seq e => tocNamesP e
  | .ite _ t e => tocNames t ++ tocNames e
  | .opaque => []

theorem mem_tocNamesP (e : List TPiece) (n : String) (h : TPiece.toc n ∈ e) : n ∈ tocNamesP e :=
  List.mem_filterMap.2 ⟨_, h, rfl⟩

theorem EnvCore.filter {info : TagInfo} {env : TEnv} {n : String} (h : EnvCore info env)
    (hn : (env.get n).Safe) : EnvCore { info with dataArgs := info.dataArgs.filter (· != n) } env where
  esc := h.esc
  strip := h.strip
  children := h.children
  allData := h.allData
  ints := h.ints
  tocs := h.tocs
  safe := by
    intro m hg hm
    by_cases hmn : m = n
    · subst hmn; exact hn
    · exact h.safe m hg (not_contains_of_filter_ne hmn hm)

/-- the static context of the tag and balance checks after a condition has shown `n` to be harmless -/
abbrev TagInfo.narrow (info : TagInfo) (n : String) : TagInfo :=
  { info with dataArgs := info.dataArgs.filter (· != n) }

theorem tmplTagOk_eq_check (info : TagInfo) (T : Tmpl) :
    tmplTagOk info T = tmplCheck TagInfo.narrow (fun info e => tagRunPieces info .text e == some .text) info T := by
  fun_induction tmplTagOk info T <;> simp [tmplCheck, *]

theorem evalTmpl_some_tagged (info : TagInfo) (env : TEnv) (T : Tmpl) (h : EnvCore info env)
    (hok : tmplTagOk info T = true) (htoc : ∀ n ∈ tocNames T, TocSafe env n) :
    ∃ out, evalTmpl env T = some out ∧ WellTagged out.erase := by
  rw [tmplTagOk_eq_check] at hok
  refine tmplCheck_sound h.esc (P := fun info T => EnvCore info env ∧ ∀ n ∈ tocNames T, TocSafe env n)
    (fun _ _ _ _ hP => ⟨hP.1, fun n hn => hP.2 n (List.mem_append_left _ hn)⟩)
    (fun _ _ _ _ hP => ⟨hP.1, fun n hn => hP.2 n (List.mem_append_right _ hn)⟩)
    (fun _ _ _ hP hn => ⟨hP.1.filter hn, hP.2⟩) ?_ info T ⟨h, htoc⟩ hok
  intro info e hP hok
  exact tagRunPieces_core info env hP.1 e (fun n hn => hP.2 n (mem_tocNamesP e n hn)) _ _ (beq_iff_eq.1 hok)

theorem evalTmpl_tagged (info : TagInfo) (env : TEnv) (T : Tmpl) (h : EnvTagged info env) (hok : tmplTagOk info T = true) :
    ∀ out, evalTmpl env T = some out → WellTagged out.erase :=
  forall_of_exists_some (evalTmpl_some_tagged info env T h.toEnvCore hok (fun n _ => h.tocSafe n))

/-! ### token trees -/

theorem TStr.ofData_allData (s : Str) : (TStr.ofData s).AllData := by
  intro p hp
  obtain ⟨c, _, rfl⟩ := List.mem_map.1 hp
  rfl

theorem TStr.AllData.nil : TStr.AllData [] := by intro p hp; cases hp

theorem valOfJson_allData (j : Json) : (valOfJson j).toTStr.AllData := by
  cases j <;> simp only [valOfJson, TVal.toTStr]
  · exact TStr.AllData.nil
  · exact TStr.ofData_allData _
  · exact TStr.ofData_allData _
  · exact TStr.ofData_allData _
  · exact TStr.AllData.nil
  · exact TStr.AllData.nil

theorem valOfJson_toc (j : Json) (items : List (Int × TStr × TStr)) (h : valOfJson j = .toc items) :
    ∀ it ∈ items, it.2.1.AllData ∧ it.2.2.AllData := by
  cases j <;> simp only [valOfJson, reduceCtorEq, TVal.toc.injEq] at h
  subst h
  intro it hit
  obtain ⟨x, _, hx⟩ := List.mem_filterMap.1 hit
  split at hx
  · simp only [Option.some.injEq] at hx
    subst hx
    exact ⟨TStr.ofData_allData _, TStr.ofData_allData _⟩
  · cases hx

theorem attrVals_lookup (a : Json) (n : String) (v : TVal) (h : (attrVals a).lookup n = some v) :
    ∃ j, v = valOfJson j := by
  have hm := mem_of_lookup_eq_some n _ v h
  cases a <;> simp only [attrVals, List.not_mem_nil] at hm
  obtain ⟨p, _, hp⟩ := List.mem_map.1 hm
  simp only [Prod.mk.injEq] at hp
  exact ⟨p.2, hp.2.symm⟩

theorem lookup_of_mem_nodup {β : Type} (l : List (String × β)) (hnd : (l.map (·.1)).Nodup) (a : String) (b : β)
    (h : (a, b) ∈ l) : l.lookup a = some b := by
  induction l with
  | nil => cases h
  | cons p l ih =>
    obtain ⟨k, v⟩ := p
    simp only [List.map_cons, List.nodup_cons] at hnd
    simp only [List.lookup_cons]
    rcases List.mem_cons.1 h with heq | hm
    · simp only [Prod.mk.injEq] at heq
      rw [heq.1, heq.2]
      simp
    · have hne : a ≠ k := by
        rintro rfl
        exact hnd.1 (List.mem_map.2 ⟨_, hm, rfl⟩)
      have : (a == k) = false := by simpa using hne
      rw [this]
      exact ih hnd.2 hm

/-- in a table without repeated names, the entry that `lookup` finds is the one a filter of the table kept -/
theorem of_filter_names_contains {β : Type} (l : List (String × β)) (hnd : (l.map (·.1)).Nodup) (f : String × β → Bool)
    {a : String} {b : β} (hl : l.lookup a = some b) (h : ((l.filter f).map (·.1)).contains a = true) :
    f (a, b) = true := by
  simp only [List.contains_eq_mem, decide_eq_true_eq, List.mem_map, List.mem_filter] at h
  obtain ⟨⟨k, b'⟩, ⟨hp, hf⟩, rfl⟩ := h
  have := lookup_of_mem_nodup _ hnd _ _ hp
  rw [hl] at this
  cases this
  exact hf

/-- what a keyword argument taken from `token["attrs"]` satisfies -/
structure ValOk (info : TagInfo) (n : String) (v : TVal) : Prop where
  allData : v.toTStr.AllData
  safe : info.dataArgs.contains n = false → v.Safe
  int : info.intArgs.contains n = true → (∃ k, v = .int k) ∨ v = .none
  toc : ∀ items, v = .toc items → ∀ it ∈ items, it.2.1.AllData ∧ it.2.2.AllData

theorem ValOk.none (info : TagInfo) (n : String) : ValOk info n .none where
  allData := TStr.AllData.nil
  safe := fun _ => trivial
  int := fun _ => Or.inr rfl
  toc := by intro items h; cases h

theorem attrs_valOk (info : TagInfo) (a : Json)
    (hs : ∀ n, info.dataArgs.contains n = false → (((attrVals a).lookup n).getD .none).Safe)
    (hi : (attrVals a).all (fun p =>
      if info.intArgs.contains p.1 then (match p.2 with | .int _ => true | .none => true | _ => false) else true) = true) :
    ∀ n, ValOk info n (((attrVals a).lookup n).getD .none) := by
  intro n
  cases hl : (attrVals a).lookup n with
  | none => exact ValOk.none info n
  | some v =>
    simp only [Option.getD_some]
    obtain ⟨j, rfl⟩ := attrVals_lookup a n v hl
    have hm := mem_of_lookup_eq_some n _ _ hl
    refine ⟨valOfJson_allData j, ?_, ?_, valOfJson_toc j⟩
    · intro hd
      have := hs n hd
      rw [hl] at this
      exact this
    · intro hint
      have := List.all_eq_true.1 hi _ hm
      simp only [hint, if_true] at this
      cases hv : valOfJson j with
      | none => exact Or.inr rfl
      | int k => exact Or.inl ⟨k, rfl⟩
      | bool b => rw [hv] at this; cases this
      | str b => rw [hv] at this; cases this
      | toc b => rw [hv] at this; cases this

theorem EnvCore.of_valOk (info : TagInfo) (env : TEnv) (esc : env.escapeFlag = true) (strip : StripAgrees env.striptagsRe)
    (children : info.textIsChildren = true → WellTagged (env.get "$text").toTStr.erase)
    (hv : ∀ n, (n = "$text" → info.textIsChildren = false) → ValOk info n (env.get n))
    (htoc : ∀ n items, env.get n = .toc items → ∀ it ∈ items, it.2.1.AllData ∧ it.2.2.AllData) : EnvCore info env where
  esc := esc
  strip := strip
  children := children
  allData := fun n hg => (hv n hg).allData
  safe := fun n hg => (hv n hg).safe
  ints := fun n hg => (hv n hg).int
  tocs := htoc

/-- what the table must satisfy besides the per-template check (the tree theorem fails without each clause:
counterexamples 1 to 3 below): no table-of-contents piece reads a data argument; `$text` is not an integer argument of a
raw type; `$text` is a data argument of raw types only -/
def TagTable.wf (tt : TagTable) : Bool :=
  tt.tbl.tmpls.all (fun p =>
    (tocNames p.2).all (fun n => !(tt.tbl.dataArgsOf p.1).contains n) &&
    (!tt.tbl.rawTypes.contains p.1 || !((tt.intArgs.lookup p.1).getD []).contains "$text") &&
    (tt.tbl.rawTypes.contains p.1 || !(tt.tbl.dataArgsOf p.1).contains "$text"))

theorem TagTable.wf_entry {tt : TagTable} (hwf : tt.wf = true) {ty : String} {T : Tmpl}
    (hT : tt.tbl.tmpls.lookup ty = some T) :
    (∀ n ∈ tocNames T, (tt.tbl.dataArgsOf ty).contains n = false) ∧
    (tt.tbl.rawTypes.contains ty = true → ((tt.intArgs.lookup ty).getD []).contains "$text" = false) ∧
    (tt.tbl.rawTypes.contains ty = false → (tt.tbl.dataArgsOf ty).contains "$text" = false) := by
  have hw := List.all_eq_true.1 hwf _ (mem_of_lookup_eq_some _ _ T hT)
  simp only [Bool.and_eq_true, Bool.or_eq_true, Bool.not_eq_true', List.all_eq_true] at hw
  refine ⟨hw.1.1, fun hr => ?_, fun hr => ?_⟩
  · rcases hw.1.2 with h | h
    · rw [hr] at h; cases h
    · exact h
  · rcases hw.2 with h | h
    · rw [hr] at h; cases h
    · exact h

/-! The environment of one token.  `hV`: its keyword arguments are as the tree hypotheses say; `hraw`, `hwint`,
`hwdata`: what `refinedOk` and `TagTable.wf` say of `$text`. -/

section Token
variable {tt : TagTable} {mk : List (String × TVal) → TEnv} {fuel : Nat} {t : Json}
  (hmk : ∀ args, (mk args).escapeFlag = true ∧ (mk args).args = args)
  (hV : ∀ n, ValOk (tt.infoOf t.type) n (((tokAttrs t).lookup n).getD .none))
include hmk

/-- a table-of-contents value is a keyword argument -/
theorem token_get_toc {n : String} {items : List (Int × TStr × TStr)}
    (h : (mk (tokArgs tt.tbl mk fuel t)).get n = .toc items) : ((tokAttrs t).lookup n).getD .none = .toc items := by
  rw [get_mk hmk] at h
  rcases tokArgs_cases tt.tbl mk fuel t with ⟨r, _, _, e⟩ | ⟨cs, _, _, e⟩ | e <;> rw [e] at h
  · rw [get_cons_text] at h
    split at h
    · cases h
    · exact h
  · rw [get_cons_text] at h
    split at h
    · cases h
    · exact h
  · exact h

include hV

/-- `$text` of a container is its rendered children — or, for a token without children, a keyword argument, which is
not data and so has none of `<`, `>`, `"`.  `Q` is well-taggedness here and neutrality in C06Balance. -/
theorem token_children {Q : Str → Prop} (hplain : ∀ s : Str, (∀ c ∈ s, plain3 c = true) → Q s)
    (hwdata : tt.tbl.rawTypes.contains t.type = false → (tt.tbl.dataArgsOf t.type).contains "$text" = false)
    (hch : ∀ cs, t.get? "children" = some (.arr cs) → Q (TStr.erase (cs.flatMap (renderTok tt.tbl mk fuel)))) :
    (tt.infoOf t.type).textIsChildren = true → Q ((mk (tokArgs tt.tbl mk fuel t)).get "$text").toTStr.erase := by
  intro htc
  have hnr : tt.tbl.rawTypes.contains t.type = false := by simpa [TagTable.infoOf] using htc
  rw [get_mk hmk]
  rcases tokArgs_cases tt.tbl mk fuel t with ⟨r, hr, _, _⟩ | ⟨cs, _, hc, e⟩ | e
  · rw [hnr] at hr; cases hr
  · rw [e, get_cons_text, if_pos rfl]
    exact hch cs hc
  · rw [e]
    have hv := hV "$text"
    exact hplain _ (safe_allData_Plain _ hv.allData (TVal.toTStr_safe _ (hv.safe (hwdata hnr)))).erase

/-- every argument but the rendered children is as `ValOk` says: a keyword argument, or the raw text of a raw type -/
theorem token_valOk
    (hraw : ∀ r, tt.tbl.rawTypes.contains t.type = true → t.getStr? "raw" = some r →
      (tt.tbl.dataArgsOf t.type).contains "$text" = false → (TStr.ofData r).Safe)
    (hwint : tt.tbl.rawTypes.contains t.type = true → ((tt.intArgs.lookup t.type).getD []).contains "$text" = false) :
    ∀ n, (n = "$text" → (tt.infoOf t.type).textIsChildren = false) →
      ValOk (tt.infoOf t.type) n ((mk (tokArgs tt.tbl mk fuel t)).get n) := by
  intro n hg
  rw [get_mk hmk]
  rcases tokArgs_cases tt.tbl mk fuel t with ⟨r, hr, hgr, e⟩ | ⟨cs, hnr, _, e⟩ | e <;> rw [e]
  · rw [get_cons_text]
    split
    · rename_i hn
      subst hn
      refine ⟨TStr.ofData_allData r, hraw r hr hgr, fun hint => ?_, fun _ h => by cases h⟩
      have := hwint hr
      rw [show (tt.infoOf t.type).intArgs = (tt.intArgs.lookup t.type).getD [] from rfl, this] at hint
      cases hint
    · exact hV n
  · rw [get_cons_text]
    split
    · rename_i hn
      have := hg hn
      rw [show (tt.infoOf t.type).textIsChildren = !tt.tbl.rawTypes.contains t.type from rfl, hnr] at this
      cases this
    · exact hV n
  · exact hV n

end Token

/-- the environment of a token that meets the tree hypotheses, given that the renderings of its children are well tagged -/
theorem EnvCore.of_token (tt : TagTable) (mk : List (String × TVal) → TEnv)
    (hmk : ∀ args, (mk args).escapeFlag = true ∧ (mk args).args = args)
    (hstrip : ∀ args, StripAgrees (mk args).striptagsRe) (hwf : tt.wf = true) {fuel : Nat} {t : Json} {T : Tmpl}
    (hT : tt.tbl.tmpls.lookup t.type = some T) (h1 : refinedOk tt.tbl (fuel + 1) t = true)
    (hints : (tokAttrs t).all (fun p => if ((tt.intArgs.lookup t.type).getD []).contains p.1 then
      (match p.2 with | .int _ => true | .none => true | _ => false) else true) = true)
    (hch : ∀ cs, t.get? "children" = some (.arr cs) → WellTagged (TStr.erase (cs.flatMap (renderTok tt.tbl mk fuel)))) :
    (∀ n, ValOk (tt.infoOf t.type) n (((tokAttrs t).lookup n).getD .none)) ∧
    EnvCore (tt.infoOf t.type) (mk (tokArgs tt.tbl mk fuel t)) ∧
    ∀ n ∈ tocNames T, TocSafe (mk (tokArgs tt.tbl mk fuel t)) n := by
  obtain ⟨hwtoc, hwint, hwdata⟩ := TagTable.wf_entry hwf hT
  obtain ⟨_, hraw, hattrs, _⟩ := refinedOk_succ h1
  have hV := attrs_valOk (tt.infoOf t.type) _ hattrs hints
  refine ⟨hV, EnvCore.of_valOk _ _ (hmk _).1 (hstrip _)
    (token_children hmk hV (fun s hs => tsRun_stable _ _ (fun c hc => tsStep_text_of_plain3 c (hs c hc))) hwdata hch)
    (token_valOk hmk hV hraw hwint) (fun n items h => (hV n).toc items (token_get_toc hmk h)), ?_⟩
  intro n hn items hget it hit
  have hs := (hV n).safe (hwtoc n hn)
  rw [token_get_toc hmk hget] at hs
  exact hs it hit

/-- what `tagTreeOk` and `balTreeOk` (C06Balance) say of one token: its type is admitted (`a`), its integer arguments
are integers (`b`), and its children pass -/
theorem treeOk_succ {ok : Json → Bool} {a b : Bool} {t : Json}
    (h : (a && b && (match t.get? "children" with
      | some (.arr cs) => cs.all ok
      | _ => true)) = true) :
    a = true ∧ b = true ∧ ∀ cs, t.get? "children" = some (.arr cs) → ∀ c ∈ cs, ok c = true := by
  simp only [Bool.and_eq_true] at h
  refine ⟨h.1.1, h.1.2, fun cs hcs => ?_⟩
  have := h.2
  rw [hcs] at this
  exact List.all_eq_true.1 this

/-- **Tree theorem**: for every token tree that meets the decidable hypotheses (`refinedOk`, `tagTreeOk`), at every depth,
the rendering is well tagged.  `hnd` and `hwf` are decidable conditions on the table; the statement is false without
them (section "counterexamples"). -/
theorem renderTok_tagged (tt : TagTable) (mk : List (String × TVal) → TEnv)
    (hmk : ∀ args, (mk args).escapeFlag = true ∧ (mk args).args = args)
    (hstrip : ∀ args, StripAgrees (mk args).striptagsRe)
    (hnd : (tt.tbl.tmpls.map (·.1)).Nodup) (hwf : tt.wf = true) :
    ∀ fuel t, refinedOk tt.tbl fuel t = true → tagTreeOk tt fuel t = true →
      WellTagged (renderTok tt.tbl mk fuel t).erase := by
  intro fuel t h1 h2
  refine renderTok_induct tt.tbl mk (Q := fun s => WellTagged s.erase)
    (ok := fun fuel t => refinedOk tt.tbl fuel t = true ∧ tagTreeOk tt fuel t = true)
    WellTagged.nil (fun _ _ => WellTagged.append)
    (fun _ _ cs h hcs c hc => ⟨(refinedOk_succ h.1).2.2.2 cs hcs c hc, (treeOk_succ h.2).2.2 cs hcs c hc⟩)
    ?_ fuel t ⟨h1, h2⟩
  intro fuel t T h hT hch
  obtain ⟨hokT, hints, _⟩ := treeOk_succ h.2
  obtain ⟨_, henv, htoc⟩ := EnvCore.of_token tt mk hmk hstrip hwf hT h.1 hints hch
  exact evalTmpl_some_tagged _ _ T henv (of_filter_names_contains _ hnd _ hT hokT) htoc

/-- integer arguments of the templates of the working tree -/
def templateIntArgs : List (String × List String) :=
  [("heading", ["level"]), ("list", ["start"]), ("footnote_ref", ["index"]), ("footnote_item", ["index"])]

def tagTable : TagTable := { tbl := templates, intArgs := templateIntArgs }

/-- the driver evaluates `tagTreeOk` with the same table -/
theorem templateIntArgs_eq : templateIntArgs = defaultIntArgs := rfl

/-- kernel-decided: every template of the working tree passes the tag check, except the three that transform the rendered
text of their children or emit raw data (`block_error`: known finding; `footnote_item`, `task_list_item`: string surgery) -/
theorem templates_tagOk :
    (templates.tmpls.map (·.1)).filter (fun ty => !tagTable.okTypes.contains ty) = ["block_error", "footnote_item", "task_list_item"] := by
  decide +kernel

/-- kernel-decided: the type names of the working tree's table are distinct -/
theorem templates_nodup : (tagTable.tbl.tmpls.map (·.1)).Nodup := by decide +kernel

/-- kernel-decided: the extra table conditions hold for the working tree -/
theorem tagTable_wf : tagTable.wf = true := by decide +kernel

/-- **C02, tag structure, on the templates of the working tree** (the table conditions of `renderTok_tagged`
are kernel-decided: `templates_nodup`, `tagTable_wf`) -/
theorem render_tagged (fuel : Nat) (toks : List Json)
    (hstrip : StripAgrees ((namedRx.lookup "mistune.util._striptags_re").getD .fail))
    (h1 : toks.all (refinedOk templates fuel) = true) (h2 : toks.all (tagTreeOk tagTable fuel) = true) :
    WellTagged (renderToks templates (fun a => mkTEnv a true) fuel toks).erase := by
  unfold renderToks
  apply WellTagged.flatMap
  intro t ht
  exact renderTok_tagged tagTable (fun a => mkTEnv a true) (fun _ => ⟨rfl, rfl⟩)
    (fun _ => by rw [mkTEnv_striptagsRe]; exact hstrip)
    templates_nodup tagTable_wf fuel t (List.all_eq_true.1 h1 t ht) (List.all_eq_true.1 h2 t ht)

/-! ### counterexamples: why `renderTok_tagged` needs `hnd` and `hwf`

Each table below passes `refinedOk` and `tagTreeOk` on the token shown, and the rendering is NOT well tagged.
(`StripAgrees` plays no role: no template here uses `striptags`.) -/

section Counterexamples

/-- 1. hole of `tagRunPieces`: a `.toc n` piece is accepted without checking that `n` is not a data argument -/
def ceTable1 : TagTable :=
  { tbl := { tmpls := [("t", .seq [.toc "toc"])], rawTypes := [], dataArgs := [("t", ["toc"])], exempt := [] }, intArgs := [] }
def ceTok1 : Json := .obj [("type", .str "t".toList), ("attrs", .obj [("toc", .arr [.arr [.num 1, .str "\"".toList, .str "".toList]])])]

/-- 2. `$text` listed as an integer argument of a raw type: `tagRunPieces` lets it stand inside a tag, `tagTreeOk` checks the
integer arguments among `attrs` only -/
def ceTable2 : TagTable :=
  { tbl := { tmpls := [("x", .seq [.lit "<a ".toList, .arg "$text" [], .lit ">".toList])], rawTypes := ["x"], dataArgs := [],
             exempt := [] }, intArgs := [("x", ["$text"])] }
def ceTok2 : Json := .obj [("type", .str "x".toList), ("raw", .str "'".toList)]

/-- 3. a container type whose `$text` is declared data: a token WITHOUT children takes `$text` from `attrs`
(`renderTok` binds `$text` only when there are children), and `tagRunPieces` believes it is the rendered children -/
def ceTable3 : TagTable :=
  { tbl := { tmpls := [("x", .seq [.arg "$text" []])], rawTypes := [], dataArgs := [("x", ["$text"])], exempt := [] }, intArgs := [] }
def ceTok3 : Json := .obj [("type", .str "x".toList), ("attrs", .obj [("$text", .str "<".toList)])]

/-- 4. two templates under one name: `okTypes` is satisfied by the second, `lookup` renders the first -/
def ceTable4 : TagTable :=
  { tbl := { tmpls := [("x", .seq [.lit "<".toList]), ("x", .seq [])], rawTypes := [], dataArgs := [], exempt := [] }, intArgs := [] }
def ceTok4 : Json := .obj [("type", .str "x".toList)]

theorem counterexamples :
    (refinedOk ceTable1.tbl 1 ceTok1 = true ∧ tagTreeOk ceTable1 1 ceTok1 = true ∧
      (renderTok ceTable1.tbl (fun a => mkTEnv a true) 1 ceTok1).erase = "<a href=\"#\"\"></a>".toList ∧
      tsRun .text (renderTok ceTable1.tbl (fun a => mkTEnv a true) 1 ceTok1).erase = some .dq) ∧
    (refinedOk ceTable2.tbl 1 ceTok2 = true ∧ tagTreeOk ceTable2 1 ceTok2 = true ∧
      (renderTok ceTable2.tbl (fun a => mkTEnv a true) 1 ceTok2).erase = "<a '>".toList ∧
      tsRun .text (renderTok ceTable2.tbl (fun a => mkTEnv a true) 1 ceTok2).erase = some .sq) ∧
    (refinedOk ceTable3.tbl 1 ceTok3 = true ∧ tagTreeOk ceTable3 1 ceTok3 = true ∧
      (renderTok ceTable3.tbl (fun a => mkTEnv a true) 1 ceTok3).erase = "<".toList ∧
      tsRun .text (renderTok ceTable3.tbl (fun a => mkTEnv a true) 1 ceTok3).erase = some .lt) ∧
    (refinedOk ceTable4.tbl 1 ceTok4 = true ∧ tagTreeOk ceTable4 1 ceTok4 = true ∧
      (renderTok ceTable4.tbl (fun a => mkTEnv a true) 1 ceTok4).erase = "<".toList ∧
      tsRun .text (renderTok ceTable4.tbl (fun a => mkTEnv a true) 1 ceTok4).erase = some .lt) := by
  decide +kernel

/-- the tree theorem without `hnd` / `hwf` is false -/
theorem renderTok_tagged_without_wf_false
    (hstrip : StripAgrees ((namedRx.lookup "mistune.util._striptags_re").getD .fail)) :
    ¬ (∀ (tt : TagTable) (mk : List (String × TVal) → TEnv),
        (∀ args, (mk args).escapeFlag = true ∧ (mk args).args = args) →
        (∀ args, StripAgrees (mk args).striptagsRe) →
        ∀ fuel t, refinedOk tt.tbl fuel t = true → tagTreeOk tt fuel t = true →
          WellTagged (renderTok tt.tbl mk fuel t).erase) := by
  intro H
  obtain ⟨⟨hrefined, htree, -, hrun⟩, -⟩ := counterexamples
  have h := H ceTable1 (fun a => mkTEnv a true) (fun _ => ⟨rfl, rfl⟩)
    (fun _ => by rw [mkTEnv_striptagsRe]; exact hstrip) 1 ceTok1 hrefined htree
  unfold WellTagged at h
  rw [hrun] at h
  cases h

end Counterexamples

/-! ### evaluating one instance by hand (used by the examples of C02Strip) -/

/-- `deleteSpans` is compiled by well-founded recursion, which the kernel cannot evaluate; a copy with fuel -/
def deleteSpansF {α : Type} : Nat → List (Nat × Nat) → Nat → List α → List α
  | 0, _, _, l => l
  | _ + 1, _, _, [] => []
  | _ + 1, [], _, l => l
  | fuel + 1, (a, b) :: rest, i, x :: xs =>
    if i < a then x :: deleteSpansF fuel ((a, b) :: rest) (i + 1) xs
    else if i < b then deleteSpansF fuel ((a, b) :: rest) (i + 1) xs
    else deleteSpansF fuel rest i (x :: xs)

theorem deleteSpansF_eq {α : Type} (sp : List (Nat × Nat)) (i : Nat) (l : List α) :
    ∀ fuel, sp.length + l.length ≤ fuel → deleteSpansF fuel sp i l = deleteSpans sp i l := by
  fun_induction deleteSpans sp i l with
  | case1 sp i =>
    intro fuel _
    cases fuel <;> simp [deleteSpansF]
  | case2 i l hl =>
    intro fuel _
    cases fuel with
    | zero => simp [deleteSpansF]
    | succ f => cases l <;> simp [deleteSpansF]
  | case3 a b rest i x xs h ih =>
    intro fuel hf
    cases fuel with
    | zero => simp at hf
    | succ f =>
      simp only [deleteSpansF, if_pos h]
      rw [ih f (by simp at hf ⊢; omega)]
  | case4 a b rest i x xs h1 h2 ih =>
    intro fuel hf
    cases fuel with
    | zero => simp at hf
    | succ f =>
      simp only [deleteSpansF, if_neg h1, if_pos h2]
      rw [ih f (by simp at hf ⊢; omega)]
  | case5 a b rest i x xs h1 h2 ih =>
    intro fuel hf
    cases fuel with
    | zero => simp at hf
    | succ f =>
      simp only [deleteSpansF, if_neg h1, if_neg h2]
      rw [ih f (by simp at hf ⊢; omega)]

theorem tStriptags_eq_F (re : Rx) (t : TStr) :
    tStriptags re t = deleteSpansF ((allSpans re t.erase).length + t.length) (allSpans re t.erase) 0 t := by
  unfold tStriptags
  rw [deleteSpansF_eq _ _ _ _ (Nat.le_refl _)]

theorem renderTok_children (tbl : TmplTable) (mk : List (String × TVal) → TEnv) (fuel : Nat) (t : Json)
    (cs : List Json) (T : Tmpl) (h1 : tbl.rawTypes.contains t.type = false) (h2 : t.get? "children" = some (.arr cs))
    (h3 : tbl.tmpls.lookup t.type = some T) :
    renderTok tbl mk (fuel + 1) t =
      (evalTmpl (mk (("$text", .str (cs.flatMap (renderTok tbl mk fuel))) :: attrVals ((t.get? "attrs").getD (.obj [])))) T).getD [] := by
  unfold renderTok
  simp only [h1, h2, h3, Bool.false_eq_true, if_false]

theorem evalPieces_split (env : TEnv) (n : String) (ops : List TOp) :
    ∀ (k : Nat) (e : List TPiece), e[k]? = some (.arg n ops) →
      evalPieces env e = evalPieces env (e.take k) ++ (applyOps env ops (env.get n).toTStr ++ evalPieces env (e.drop (k + 1))) := by
  intro k
  induction k with
  | zero =>
    intro e h
    cases e with
    | nil => simp at h
    | cons p rest =>
      simp only [List.getElem?_cons_zero, Option.some.injEq] at h
      subst h
      simp [evalPieces, evalPiece]
  | succ k ih =>
    intro e h
    cases e with
    | nil => simp at h
    | cons p rest =>
      simp only [List.getElem?_cons_succ] at h
      simp only [List.take_succ_cons, List.drop_succ_cons, evalPieces, ih rest h, List.append_assoc]

/-- the pieces of the `else` branch -/
def Tmpl.elseSeq : Tmpl → List TPiece
  | .ite _ _ (.seq e) => e
  | _ => []

theorem evalTmpl_image_notitle (env : TEnv) (h : (env.get "title").truthy = false) :
    evalTmpl env tmpl_image = some (evalPieces env tmpl_image.elseSeq) := by
  unfold tmpl_image
  simp only [evalTmpl, evalCond, h, Bool.false_eq_true, if_false, Tmpl.elseSeq]

end Mistune
