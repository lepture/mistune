/-
C02 / C06 — template-level safety theorem.

`TStr.Safe t` : no character of `t` that comes from the document (flag `true`) is `<`, `>` or `"`.
The HTML output is obtained by erasing the flags (tied to the real render methods by probing, every run), so the
theorem says: with escaping on, every `<`, `>`, `"` of the output was written by a template literal.

The file also holds what the theorems about templates share (C02Tags, C06Balance, C06Leaf): `tmplCheck`, the walk along
a template that every static check makes, with its soundness `tmplCheck_sound`; `tokArgs`, the arguments `renderTok`
hands to a template; `renderTok_induct`, the induction over the token tree.
-/
import Mistune.TmplTree
import Mistune.Generated.Templates
import MistuneProofs.Oblig.Templates
import MistuneProofs.C18
namespace Mistune
open Mistune.Generated

def ArgsSafe (env : TEnv) (dataArgs : List String) : Prop :=
  ∀ n, dataArgs.contains n = false → (env.get n).Safe

/-! ### strings without delimiters -/

/-- No character whose flag satisfies `G` is `<`, `>` or `"`.  `TStr.Safe` is the case `G = (· = true)` (document
data); `TStr.Plain` (C02Tags) is the case of all flags. -/
def TStr.Clean (G : Bool → Prop) (t : TStr) : Prop := ∀ p ∈ t, G p.2 → p.1 ≠ '<' ∧ p.1 ≠ '>' ∧ p.1 ≠ '"'

section Clean
variable {G : Bool → Prop}

theorem TStr.Clean.nil : TStr.Clean G [] := by intro p hp; cases hp

theorem TStr.Clean.append {a b : TStr} (ha : a.Clean G) (hb : b.Clean G) : (a ++ b).Clean G := by
  intro p hp
  rcases List.mem_append.1 hp with h | h
  · exact ha p h
  · exact hb p h

theorem TStr.Clean.of_subset {a b : TStr} (hb : b.Clean G) (h : ∀ p ∈ a, p ∈ b) : a.Clean G :=
  fun p hp => hb p (h p hp)

theorem TStr.Clean.of_sublist {a b : TStr} (hb : b.Clean G) (h : a.Sublist b) : a.Clean G :=
  hb.of_subset (fun _ hp => h.subset hp)

theorem TStr.Clean.flatMap {α : Type} (l : List α) (f : α → TStr) (h : ∀ x ∈ l, (f x).Clean G) :
    TStr.Clean G (l.flatMap f) := by
  intro p hp
  obtain ⟨x, hx, hpx⟩ := List.mem_flatMap.1 hp
  exact h x hx p hpx

theorem TStr.ofData_clean (s : Str) (h : ∀ c ∈ s, c ≠ '<' ∧ c ≠ '>' ∧ c ≠ '"') : (TStr.ofData s).Clean G := by
  intro p hp _
  obtain ⟨c, hc, rfl⟩ := List.mem_map.1 hp
  exact h c hc

theorem tEscape_true_clean (t : TStr) : (tEscape true t).Clean G := by
  intro p hp _
  simp only [tEscape, List.mem_flatMap, List.mem_map] at hp
  obtain ⟨q, _, c, hc, rfl⟩ := hp
  have := escChar_no_special true q.1 c hc
  exact ⟨this.1, this.2.1, this.2.2 rfl⟩

theorem escChar_quote {q : Bool} {c : Char} (h : '"' ∈ escChar q c) : c = '"' := by
  unfold escChar at h
  split at h
  · simp at h
  split at h
  · simp at h
  split at h
  · simp at h
  split at h
  · simp at h
  · exact (List.mem_singleton.1 h).symm

theorem tEscape_clean (q : Bool) (t : TStr) (h : t.Clean G) : (tEscape q t).Clean G := by
  intro p hp hg
  simp only [tEscape, List.mem_flatMap, List.mem_map] at hp
  obtain ⟨r, hr, c, hc, rfl⟩ := hp
  have := escChar_no_special q r.1 c hc
  refine ⟨this.1, this.2.1, fun hcq => ?_⟩
  simp only at hcq
  subst hcq
  exact (h r hr hg).2.2 (escChar_quote hc)

end Clean

theorem TStr.safeB_iff (t : TStr) : t.safeB = true ↔ t.Safe := by
  unfold TStr.safeB TStr.Safe
  rw [List.all_eq_true]
  constructor
  · intro h p hp hf
    have := h p hp
    simp [hf] at this
    exact ⟨this.1.1, this.1.2, this.2⟩
  · intro h p hp
    by_cases hf : p.2 = true
    · have := h p hp hf
      simp [hf, this]
    · simp at hf; simp [hf]

theorem TVal.safeB_iff (v : TVal) : v.safeB = true ↔ v.Safe := by
  cases v with
  | str t => exact TStr.safeB_iff t
  | toc items =>
    simp only [TVal.safeB, TVal.Safe, List.all_eq_true, Bool.and_eq_true, TStr.safeB_iff]
  | none => simp [TVal.safeB, TVal.Safe]
  | bool b => simp [TVal.safeB, TVal.Safe]
  | int n => simp [TVal.safeB, TVal.Safe]

theorem TStr.Safe.nil : TStr.Safe [] := TStr.Clean.nil (G := (· = true))

theorem TStr.Safe.append {a b : TStr} (ha : a.Safe) (hb : b.Safe) : (a ++ b).Safe :=
  TStr.Clean.append (G := (· = true)) ha hb

theorem TStr.Safe.of_sublist {a b : TStr} (hb : b.Safe) (h : a.Sublist b) : a.Safe :=
  TStr.Clean.of_sublist (G := (· = true)) hb h

theorem TStr.Safe.flatMap {α : Type} (l : List α) (f : α → TStr) (h : ∀ x ∈ l, (f x).Safe) :
    TStr.Safe (l.flatMap f) :=
  TStr.Clean.flatMap (G := (· = true)) l f h

theorem TStr.ofData_safe (s : Str) (h : ∀ c ∈ s, c ≠ '<' ∧ c ≠ '>' ∧ c ≠ '"') : (TStr.ofData s).Safe :=
  TStr.ofData_clean (G := (· = true)) s h

theorem TStr.ofLit_safe (s : Str) : (TStr.ofLit s).Safe := by
  intro p hp hf
  obtain ⟨c, _, rfl⟩ := List.mem_map.1 hp
  cases hf

theorem TStr.erase_append (a b : TStr) : (a ++ b).erase = a.erase ++ b.erase := by
  simp [TStr.erase]

theorem TStr.erase_ofLit (s : Str) : (TStr.ofLit s).erase = s := by
  simp [TStr.erase, TStr.ofLit, Function.comp_def]

theorem TStr.erase_ofData (s : Str) : (TStr.ofData s).erase = s := by
  simp [TStr.erase, TStr.ofData, Function.comp_def]

/-! ### operations -/

theorem escape_mem_no_specials (s : Str) : ∀ c ∈ escape true s, c ≠ '<' ∧ c ≠ '>' ∧ c ≠ '"' := by
  intro c hc
  have h := escape_no_specials true s
  refine ⟨?_, ?_, ?_⟩
  · rintro rfl; exact h.1 hc
  · rintro rfl; exact h.2.1 hc
  · rintro rfl; exact h.2.2 rfl hc

theorem safeUrlStr_no_specials (h g : List Str) (u : Str) : ∀ c ∈ safeUrlStr h g u, c ≠ '<' ∧ c ≠ '>' ∧ c ≠ '"' := by
  intro c hc
  unfold safeUrlStr at hc
  simp only at hc
  split at hc
  · revert c; decide
  · exact escape_mem_no_specials u c hc

theorem mem_deleteSpans {α : Type} (sp : List (Nat × Nat)) (i : Nat) (l : List α) :
    ∀ x ∈ deleteSpans sp i l, x ∈ l := by
  fun_induction deleteSpans sp i l with
  | case1 => intro x hx; cases hx
  | case2 => intro x hx; exact hx
  | case3 a b rest i x xs h ih =>
    intro y hy
    rcases List.mem_cons.1 hy with rfl | hy
    · exact List.mem_cons_self
    · exact List.mem_cons_of_mem _ (ih y hy)
  | case4 a b rest i x xs h1 h2 ih =>
    intro y hy; exact List.mem_cons_of_mem _ (ih y hy)
  | case5 a b rest i x xs h1 h2 ih =>
    intro y hy; exact ih y hy

theorem tRstrip_sublist (t : TStr) : (tRstrip t).Sublist t := by
  have h := List.reverse_sublist.2 (List.dropWhile_sublist (fun p => isSpace p.1) (l := t.reverse))
  rwa [List.reverse_reverse] at h

theorem tStrip_sublist (t : TStr) : (tStrip t).Sublist t :=
  (tRstrip_sublist _).trans (List.dropWhile_sublist _)

section Clean
variable {G : Bool → Prop}

theorem applyOp_escaper_clean (env : TEnv) (op : TOp) (t : TStr) (h : isEscaper op = true) :
    (applyOp env op t).Clean G := by
  cases op <;> simp [isEscaper] at h
  · exact tEscape_true_clean t
  · exact TStr.ofData_clean _ (escape_mem_no_specials _)
  · exact TStr.ofData_clean _ (safeUrlStr_no_specials _ _ _)

/-- every operation is an escaper, an `escape` that keeps `"`, or takes a part of its argument -/
theorem applyOp_clean (env : TEnv) (op : TOp) (t : TStr) (h : t.Clean G) : (applyOp env op t).Clean G := by
  cases op
  · exact tEscape_true_clean t
  · exact tEscape_clean false t h
  · exact TStr.ofData_clean _ (escape_mem_no_specials _)
  · exact TStr.ofData_clean _ (safeUrlStr_no_specials _ _ _)
  · exact h.of_subset (mem_deleteSpans _ _ _)
  · exact h
  · exact h.of_sublist (tStrip_sublist t)
  · exact h.of_sublist (tRstrip_sublist t)
  · exact h.of_sublist ((List.takeWhile_sublist _).trans (List.dropWhile_sublist _))
  · exact h.of_sublist (List.take_sublist _ _)

theorem applyOps_clean (env : TEnv) (ops : List TOp) (t : TStr) (h : hasEscaper ops = true ∨ t.Clean G) :
    (applyOps env ops t).Clean G := by
  induction ops generalizing t with
  | nil =>
    rcases h with h | h
    · simp [hasEscaper] at h
    · exact h
  | cons op ops ih =>
    simp only [applyOps, List.foldl_cons]
    apply ih
    rcases h with h | h
    · simp only [hasEscaper, List.any_cons, Bool.or_eq_true] at h
      rcases h with h | h
      · exact Or.inr (applyOp_escaper_clean env op t h)
      · exact Or.inl h
    · exact Or.inr (applyOp_clean env op t h)

end Clean

theorem applyOps_safe (env : TEnv) (ops : List TOp) (t : TStr) (h : hasEscaper ops = true ∨ t.Safe) :
    (applyOps env ops t).Safe :=
  applyOps_clean (G := (· = true)) env ops t h

/-- what an integer prints: digits and `-` -/
def intChar (c : Char) : Bool := c.isDigit || c == '-'

theorem int_chars_intChar (n : Int) : ∀ c ∈ (toString n).toList, intChar c = true := by
  have hd : ∀ (m : Nat) c, c ∈ m.repr.toList → intChar c = true := by
    intro m c hc
    rw [Nat.toList_repr] at hc
    have := Nat.isDigit_of_mem_toDigits (by decide) (by decide) hc
    simp [intChar, this]
  intro c hc
  rw [Int.toString_eq_repr, Int.repr_eq_if] at hc
  split at hc
  · exact hd _ c hc
  · simp only [String.toList_append, List.mem_append] at hc
    rcases hc with hc | hc
    · revert c; decide
    · exact hd _ c hc

theorem intChar_ne (c : Char) (h : intChar c = true) : c ≠ '<' ∧ c ≠ '>' ∧ c ≠ '"' ∧ c ≠ '\'' := by
  simp only [intChar, Bool.or_eq_true, beq_iff_eq] at h
  rcases h with h | h
  · refine ⟨?_, ?_, ?_, ?_⟩ <;> rintro rfl <;> simp at h
  · subst h; decide

theorem int_toString_safe (n : Int) : (TStr.ofData (toString n).toList).Safe :=
  TStr.ofData_safe _ fun c hc =>
    have h := intChar_ne c (int_chars_intChar n c hc)
    ⟨h.1, h.2.1, h.2.2.1⟩

theorem TVal.toTStr_safe (v : TVal) (h : v.Safe) : v.toTStr.Safe := by
  cases v with
  | none => exact TStr.Safe.nil
  | bool b =>
    apply TStr.ofData_safe
    cases b <;> decide
  | int n => exact int_toString_safe n
  | str t => exact h
  | toc items => exact TStr.Safe.nil

/-! ### pieces -/

theorem tReplaceFirst_safe (t : TStr) (pat : Str) (b : TStr) (ht : t.Safe) (hb : b.Safe) :
    (tReplaceFirst t pat b).Safe := by
  unfold tReplaceFirst
  split
  · exact ((ht.of_sublist (List.take_sublist _ _)).append hb).append (ht.of_sublist (List.drop_sublist _ _))
  · exact ht

theorem tocAnchorT_safe (id text : TStr) (h1 : id.Safe) (h2 : text.Safe) : (tocAnchorT id text).Safe := by
  unfold tocAnchorT
  exact ((((TStr.ofLit_safe _).append h1).append (TStr.ofLit_safe _)).append h2).append (TStr.ofLit_safe _)

mutual
theorem evalPieces_safe (env : TEnv) (d : List String) (e : List TPiece)
    (hok : piecesOk d e = true) (ha : ArgsSafe env d) : (evalPieces env e).Safe := by
  match e with
  | [] => simp only [evalPieces]; exact TStr.Safe.nil
  | p :: rest =>
    simp only [piecesOk, Bool.and_eq_true] at hok
    simp only [evalPieces]
    exact (evalPiece_safe env d p hok.1 ha).append (evalPieces_safe env d rest hok.2 ha)
theorem evalPiece_safe (env : TEnv) (d : List String) (p : TPiece)
    (hok : pieceOk d p = true) (ha : ArgsSafe env d) : (evalPiece env p).Safe := by
  match p with
  | .lit s => simp only [evalPiece]; exact TStr.ofLit_safe s
  | .arg n ops =>
    simp only [evalPiece]
    simp only [pieceOk, Bool.or_eq_true, Bool.not_eq_true'] at hok
    apply applyOps_safe
    rcases hok with h | h
    · exact Or.inr (TVal.toTStr_safe _ (ha n h))
    · exact Or.inl h
  | .sub ops e =>
    simp only [evalPiece]
    simp only [pieceOk, Bool.or_eq_true] at hok
    apply applyOps_safe
    rcases hok with h | h
    · exact Or.inl h
    · exact Or.inr (evalPieces_safe env d e h ha)
  | .replaceFirst e pat by_ =>
    simp only [evalPiece]
    simp only [pieceOk, Bool.and_eq_true] at hok
    exact tReplaceFirst_safe _ _ _ (evalPieces_safe env d e hok.1 ha) (evalPieces_safe env d by_ hok.2 ha)
  | .toc n =>
    simp only [pieceOk, Bool.not_eq_true'] at hok
    have hs := ha n hok
    simp only [evalPiece]
    split
    · rename_i items heq
      rw [heq] at hs
      apply TStr.Safe.flatMap
      intro it hit
      exact tocAnchorT_safe _ _ (hs it hit).1 (hs it hit).2
    · exact TStr.Safe.nil
end

/-! ### templates

The static checks of a template (`tmplOk`, `tmplTagOk`, `tmplBalOk`, `passOkT`) walk it in the same way: they follow the
branches that are possible when escaping is on, and take an argument out of the data arguments in a branch whose
condition has shown it to be all digits, or to be `None`.  `tmplCheck` is that walk with the check of a piece list and
the narrowing of the static context left open, and `tmplCheck_sound` the one induction along `evalTmpl` that the
soundness theorems of all these checks share. -/

def tmplCheck {σ : Type} (narrow : σ → String → σ) (okSeq : σ → List TPiece → Bool) : σ → Tmpl → Bool
  | s, .seq e => okSeq s e
  | s, .ite .flagEscape t _ => tmplCheck narrow okSeq s t
  | s, .ite (.not .flagEscape) _ e => tmplCheck narrow okSeq s e
  | s, .ite (.isDigit n) t e => tmplCheck narrow okSeq (narrow s n) t && tmplCheck narrow okSeq s e
  | s, .ite (.notNone n) t e => tmplCheck narrow okSeq s t && tmplCheck narrow okSeq (narrow s n) e
  | s, .ite _ t e => tmplCheck narrow okSeq s t && tmplCheck narrow okSeq s e
  | _, .opaque => false

theorem tmplCheck_mono {σ : Type} {narrow : σ → String → σ} {ok1 ok2 : σ → List TPiece → Bool}
    (h : ∀ s e, ok1 s e = true → ok2 s e = true) :
    ∀ s T, tmplCheck narrow ok1 s T = true → tmplCheck narrow ok2 s T = true := by
  intro s T
  fun_induction tmplCheck narrow ok1 s T <;> simp_all [tmplCheck]

theorem isDigitStr_safe (v : TVal) (h : isDigitStr v.toTStr.erase = true) : v.Safe := by
  cases v with
  | str t =>
    simp only [TVal.toTStr] at h
    simp only [TVal.Safe]
    intro p hp _
    simp only [isDigitStr, Bool.and_eq_true, List.all_eq_true] at h
    have hd := h.2 p.1 (List.mem_map.2 ⟨p, hp, rfl⟩)
    -- `<`, `>`, `"` are not in the `str.isdigit()` table
    refine ⟨?_, ?_, ?_⟩ <;> intro hc <;> rw [hc] at hd <;> revert hd <;> decide +kernel
  | toc items => simp [TVal.toTStr, TStr.erase, isDigitStr] at h
  | none => trivial
  | bool b => trivial
  | int n => trivial

theorem safe_of_not_notNone {env : TEnv} {n : String} (h : ¬ evalCond env (.notNone n) = true) : (env.get n).Safe := by
  simp only [evalCond] at h
  cases heq : env.get n <;> simp [heq] at h
  trivial

/-- `P s T`: what is known of the static context `s` and the (sub)template `T`; it passes to the branches, and to the
narrowed context once the argument is known to be safe.  Then a template that passes the check evaluates, and its
value has the property `Q` that the check of a piece list ensures. -/
theorem tmplCheck_sound {σ : Type} {narrow : σ → String → σ} {okSeq : σ → List TPiece → Bool} {env : TEnv}
    (hesc : env.escapeFlag = true) {P : σ → Tmpl → Prop} {Q : TStr → Prop}
    (hthen : ∀ s c t e, P s (.ite c t e) → P s t) (helse : ∀ s c t e, P s (.ite c t e) → P s e)
    (hnarrow : ∀ s n T, P s T → (env.get n).Safe → P (narrow s n) T)
    (hseq : ∀ s e, P s (.seq e) → okSeq s e = true → Q (evalPieces env e)) :
    ∀ s T, P s T → tmplCheck narrow okSeq s T = true → ∃ out, evalTmpl env T = some out ∧ Q out := by
  intro s T
  fun_induction tmplCheck narrow okSeq s T with
  | case1 s e => exact fun hP hok => ⟨_, rfl, hseq s e hP hok⟩
  | case2 s t e ih =>
    intro hP hok
    have hc : evalCond env .flagEscape = true := hesc
    simp only [evalTmpl, if_pos hc]
    exact ih (hthen _ _ _ _ hP) hok
  | case3 s t e ih =>
    intro hP hok
    have hc : ¬ evalCond env (.not .flagEscape) = true := by simp [evalCond, hesc]
    simp only [evalTmpl, if_neg hc]
    exact ih (helse _ _ _ _ hP) hok
  | case4 s n t e ih1 ih2 =>
    intro hP hok
    simp only [Bool.and_eq_true] at hok
    simp only [evalTmpl]
    split
    · rename_i hc
      exact ih1 (hnarrow _ _ _ (hthen _ _ _ _ hP) (isDigitStr_safe _ hc)) hok.1
    · exact ih2 (helse _ _ _ _ hP) hok.2
  | case5 s n t e ih1 ih2 =>
    intro hP hok
    simp only [Bool.and_eq_true] at hok
    simp only [evalTmpl]
    split
    · exact ih1 (hthen _ _ _ _ hP) hok.1
    · rename_i hc
      exact ih2 (hnarrow _ _ _ (helse _ _ _ _ hP) (safe_of_not_notNone hc)) hok.2
  | case6 s c t e _ _ _ _ ih1 ih2 =>
    intro hP hok
    simp only [Bool.and_eq_true] at hok
    simp only [evalTmpl]
    split
    · exact ih1 (hthen _ _ _ _ hP) hok.1
    · exact ih2 (helse _ _ _ _ hP) hok.2
  | case7 => intro _ hok; cases hok

theorem forall_of_exists_some {α : Type} {o : Option α} {Q : α → Prop} (h : ∃ a, o = some a ∧ Q a) :
    ∀ a, o = some a → Q a := by
  intro a ha
  obtain ⟨b, hb, hq⟩ := h
  rw [ha] at hb
  cases hb
  exact hq

theorem tmplOk_eq_check (d : List String) (T : Tmpl) :
    tmplOk d T = tmplCheck (fun d n => d.filter (· != n)) piecesOk d T := by
  fun_induction tmplOk d T <;> simp [tmplCheck, *]

theorem not_contains_of_filter_ne {d : List String} {n m : String} (hmn : m ≠ n)
    (hm : (d.filter (· != n)).contains m = false) : d.contains m = false := by
  simp only [List.contains_eq_mem, decide_eq_false_iff_not, List.mem_filter, bne_iff_ne, ne_eq, not_and,
    Decidable.not_not] at hm ⊢
  exact fun hmem => hmn (hm hmem)

theorem ArgsSafe.filter {env : TEnv} {d : List String} {n : String} (ha : ArgsSafe env d)
    (hn : (env.get n).Safe) : ArgsSafe env (d.filter (· != n)) := by
  intro m hm
  by_cases hmn : m = n
  · subst hmn; exact hn
  · exact ha m (not_contains_of_filter_ne hmn hm)

theorem evalTmpl_some_safe (env : TEnv) (d : List String) (T : Tmpl) (hesc : env.escapeFlag = true)
    (hok : tmplOk d T = true) (ha : ArgsSafe env d) : ∃ out, evalTmpl env T = some out ∧ out.Safe := by
  rw [tmplOk_eq_check] at hok
  exact tmplCheck_sound hesc (P := fun d _ => ArgsSafe env d) (fun _ _ _ _ h => h) (fun _ _ _ _ h => h)
    (fun _ _ _ h hn => h.filter hn) (fun d e h hok => evalPieces_safe env d e hok h) d T ha hok

theorem evalTmpl_safe (env : TEnv) (d : List String) (T : Tmpl) (hesc : env.escapeFlag = true)
    (hok : tmplOk d T = true) (ha : ArgsSafe env d) : ∀ out, evalTmpl env T = some out → out.Safe :=
  forall_of_exists_some (evalTmpl_some_safe env d T hesc hok ha)

/-! ### token trees -/

theorem mem_of_lookup_eq_some {β : Type} (a : String) (l : List (String × β)) (b : β)
    (h : l.lookup a = some b) : (a, b) ∈ l := by
  obtain ⟨l₁, l₂, rfl, -⟩ := List.lookup_eq_some_iff.1 h
  exact List.mem_append_right _ List.mem_cons_self

/-- the keyword arguments of a token -/
abbrev tokAttrs (t : Json) : List (String × TVal) := attrVals ((t.get? "attrs").getD (.obj []))

/-- the arguments `renderTok` hands to the template of `t`: the keyword arguments, behind `$text` (the raw text of a
raw type, the rendered children of a token that has children) if there is one -/
def tokArgs (tbl : TmplTable) (mk : List (String × TVal) → TEnv) (fuel : Nat) (t : Json) : List (String × TVal) :=
  let text : Option TStr :=
    if tbl.rawTypes.contains t.type then (t.getStr? "raw").map TStr.ofData
    else match t.get? "children" with
      | some (.arr cs) => some (cs.flatMap (renderTok tbl mk fuel))
      | _ => none
  match text with
  | some x => ("$text", TVal.str x) :: tokAttrs t
  | none => tokAttrs t

theorem renderTok_succ (tbl : TmplTable) (mk : List (String × TVal) → TEnv) (fuel : Nat) (t : Json) :
    renderTok tbl mk (fuel + 1) t =
      match tbl.tmpls.lookup t.type with
      | some T => (evalTmpl (mk (tokArgs tbl mk fuel t)) T).getD []
      | none => [] := rfl

/-- where `$text` comes from -/
theorem tokArgs_cases (tbl : TmplTable) (mk : List (String × TVal) → TEnv) (fuel : Nat) (t : Json) :
    (∃ r, tbl.rawTypes.contains t.type = true ∧ t.getStr? "raw" = some r ∧
      tokArgs tbl mk fuel t = ("$text", .str (TStr.ofData r)) :: tokAttrs t) ∨
    (∃ cs, tbl.rawTypes.contains t.type = false ∧ t.get? "children" = some (.arr cs) ∧
      tokArgs tbl mk fuel t = ("$text", .str (cs.flatMap (renderTok tbl mk fuel))) :: tokAttrs t) ∨
    tokArgs tbl mk fuel t = tokAttrs t := by
  unfold tokArgs
  by_cases hr : tbl.rawTypes.contains t.type = true
  · rw [if_pos hr]
    cases hg : t.getStr? "raw" with
    | none => exact Or.inr (Or.inr rfl)
    | some r => exact Or.inl ⟨r, hr, rfl, rfl⟩
  · rw [if_neg hr]
    have hr' : tbl.rawTypes.contains t.type = false := by simpa using hr
    cases hc : t.get? "children" with
    | none => exact Or.inr (Or.inr rfl)
    | some j =>
      cases j with
      | arr cs => exact Or.inr (Or.inl ⟨cs, hr', rfl, rfl⟩)
      | _ => exact Or.inr (Or.inr rfl)

theorem get_cons_text (x : TStr) (attrs : List (String × TVal)) (n : String) :
    (((("$text", TVal.str x) :: attrs).lookup n).getD .none) =
      if n = "$text" then TVal.str x else (attrs.lookup n).getD .none := by
  simp only [List.lookup_cons]
  by_cases h : n = "$text"
  · subst h; simp
  · have : (n == "$text") = false := by simpa using h
    rw [this]; simp [h]

theorem get_mk {mk : List (String × TVal) → TEnv} (hmk : ∀ args, (mk args).escapeFlag = true ∧ (mk args).args = args)
    (args : List (String × TVal)) (n : String) : (mk args).get n = (args.lookup n).getD .none := by
  unfold TEnv.get; rw [(hmk args).2]

/-- what `refinedOk` says of one token -/
theorem refinedOk_succ {tbl : TmplTable} {fuel : Nat} {t : Json} (h : refinedOk tbl (fuel + 1) t = true) :
    tbl.exempt.contains t.type = false ∧
    (∀ r, tbl.rawTypes.contains t.type = true → t.getStr? "raw" = some r →
      (tbl.dataArgsOf t.type).contains "$text" = false → (TStr.ofData r).Safe) ∧
    (∀ n, (tbl.dataArgsOf t.type).contains n = false → (((tokAttrs t).lookup n).getD .none).Safe) ∧
    (∀ cs, t.get? "children" = some (.arr cs) → ∀ c ∈ cs, refinedOk tbl fuel c = true) := by
  simp only [refinedOk, Bool.and_eq_true, Bool.or_eq_true, Bool.not_eq_true'] at h
  obtain ⟨⟨⟨hex, hraw⟩, hattrs⟩, hch⟩ := h
  refine ⟨hex, ?_, ?_, ?_⟩
  · intro r hr hg hd
    rw [hr, hd, hg] at hraw
    simpa [TStr.safeB_iff] using hraw
  · intro n hn
    cases hl : (tokAttrs t).lookup n with
    | none => trivial
    | some v =>
      have := List.all_eq_true.1 hattrs _ (mem_of_lookup_eq_some n _ v hl)
      simp only [hn, Bool.false_or] at this
      exact (TVal.safeB_iff v).1 this
  · intro cs hcs
    rw [hcs] at hch
    exact List.all_eq_true.1 hch

theorem flatMap_of_append {α : Type} {Q : TStr → Prop} (hnil : Q []) (happ : ∀ a b, Q a → Q b → Q (a ++ b))
    (l : List α) (f : α → TStr) (h : ∀ x ∈ l, Q (f x)) : Q (l.flatMap f) := by
  induction l with
  | nil => exact hnil
  | cons x xs ih =>
    rw [List.flatMap_cons]
    exact happ _ _ (h x List.mem_cons_self) (ih (fun y hy => h y (List.mem_cons_of_mem _ hy)))

/-- **Induction over the token tree**, shared by the tree theorems: a property of tagged strings that holds of the empty
string and is kept by `++` holds of the rendering of every token that meets `ok`, if `ok` passes to the children and
the value of a token's template has the property whenever the renderings of its children have it. -/
theorem renderTok_induct (tbl : TmplTable) (mk : List (String × TVal) → TEnv) {Q : TStr → Prop} {ok : Nat → Json → Prop}
    (hnil : Q []) (happ : ∀ a b, Q a → Q b → Q (a ++ b))
    (hch : ∀ fuel t cs, ok (fuel + 1) t → t.get? "children" = some (.arr cs) → ∀ c ∈ cs, ok fuel c)
    (hstep : ∀ fuel t T, ok (fuel + 1) t → tbl.tmpls.lookup t.type = some T →
      (∀ cs, t.get? "children" = some (.arr cs) → Q (cs.flatMap (renderTok tbl mk fuel))) →
      ∃ out, evalTmpl (mk (tokArgs tbl mk fuel t)) T = some out ∧ Q out) :
    ∀ fuel t, ok fuel t → Q (renderTok tbl mk fuel t) := by
  intro fuel
  induction fuel with
  | zero => intro t _; exact hnil
  | succ fuel ih =>
    intro t h
    rw [renderTok_succ]
    cases hT : tbl.tmpls.lookup t.type with
    | none => exact hnil
    | some T =>
      obtain ⟨out, ho, hq⟩ := hstep fuel t T h hT (fun cs hcs => flatMap_of_append hnil happ _ _
        (fun c hc => ih c (hch fuel t cs h hcs c hc)))
      simp only [ho, Option.getD_some]
      exact hq

theorem tmplOk_of_table (tbl : TmplTable) (hok : tbl.ok = true) (ty : String) (T : Tmpl)
    (hl : tbl.tmpls.lookup ty = some T) (hex : tbl.exempt.contains ty = false) :
    tmplOk (tbl.dataArgsOf ty) T = true := by
  have := List.all_eq_true.1 hok _ (mem_of_lookup_eq_some ty _ T hl)
  simp only [hex, Bool.false_or] at this
  exact this

/-- **Tree theorem**: for a template table that passes the static check, rendering a token tree whose restricted
fields are safe (the decidable `refinedOk`) yields a safe string, at every depth. -/
theorem renderTok_safe (tbl : TmplTable) (hok : tbl.ok = true) (mk : List (String × TVal) → TEnv)
    (hmk : ∀ args, (mk args).escapeFlag = true ∧ (mk args).args = args) :
    ∀ fuel t, refinedOk tbl fuel t = true → (renderTok tbl mk fuel t).Safe := by
  refine renderTok_induct tbl mk (ok := fun fuel t => refinedOk tbl fuel t = true) TStr.Safe.nil
    (fun _ _ => TStr.Safe.append) (fun _ _ cs h => (refinedOk_succ h).2.2.2 cs) ?_
  intro fuel t T h hT hcs
  obtain ⟨hex, hraw, hattrs, _⟩ := refinedOk_succ h
  refine evalTmpl_some_safe _ _ T (hmk _).1 (tmplOk_of_table tbl hok _ T hT hex) ?_
  intro n hn
  rw [get_mk hmk]
  rcases tokArgs_cases tbl mk fuel t with ⟨r, hr, hg, e⟩ | ⟨cs, _, hc, e⟩ | e <;> rw [e]
  · rw [get_cons_text]
    split
    · rename_i hnt
      subst hnt
      exact hraw r hr hg hn
    · exact hattrs n hn
  · rw [get_cons_text]
    split
    · exact hcs cs hc
    · exact hattrs n hn
  · exact hattrs n hn

/-- **C02 on the templates of the working tree** (uses the kernel-decided obligation `templates_ok`). -/
theorem render_safe (fuel : Nat) (toks : List Json) (h : toks.all (refinedOk templates fuel) = true) :
    (renderToks templates (fun a => mkTEnv a true) fuel toks).Safe := by
  unfold renderToks
  apply TStr.Safe.flatMap
  intro t ht
  exact renderTok_safe templates templates_ok (fun a => mkTEnv a true) (fun _ => ⟨rfl, rfl⟩) fuel t
    (List.all_eq_true.1 h t ht)

/-- non-vacuity: a paragraph holding a raw `<script>` text and a link with a quote in its title meets the
hypothesis, and the output keeps the data but no data delimiter. -/
example :
    let tok := Json.obj [("type", .str "paragraph".toList), ("children", .arr [
      Json.obj [("type", .str "text".toList), ("raw", .str "<script>\"".toList)],
      Json.obj [("type", .str "link".toList), ("attrs", .obj [("url", .str "a\"b".toList), ("title", .str "<".toList)]),
                ("children", .arr [])]])]
    refinedOk templates 5 tok = true ∧
    (renderTok templates (fun a => mkTEnv a true) 5 tok).erase
      = "<p>&lt;script&gt;&quot;<a href=\"a&quot;b\" title=\"&lt;\"></a></p>\n".toList := by
  decide +kernel

end Mistune
