/-
C02 — the script-URL clause: no link / image destination that mistune emits is a script-capable URL *as a
browser reads it*.

mistune escapes every destination at PARSE time (`escape_url = quote(unescape(link), safe=…)`, model `escapeUrl`) and
checks the scheme at RENDER time (`HTMLRenderer.safe_url`, model `safeUrlStr`) with a plain
`url.lower().startswith(…)`.  A browser (WHATWG URL parser) is more generous than `startswith`: it removes leading
and trailing C0-control-or-space characters (code points ≤ 0x20) and ALL tab / LF / CR characters of the attribute
value before it looks for the scheme, and it compares the scheme ASCII-case-insensitively.  `browserNorm` /
`asciiLower` / `scriptCapable` below are that reading.

The theorems show that the two readings coincide on everything `escape_url` can return (its alphabet is 33..126, so
the browser has nothing to remove and `str.lower()` is ASCII lower-casing), hence `safe_url` never lets a
script-capable URL through; and that they do NOT coincide on raw strings (`necessity_*`), i.e. the parse-time
escaping is what makes the render-time check sound.
-/
import MistuneProofs.C02Tmpl
import MistuneProofs.C18Quote
import Mistune.TmplWire
namespace Mistune
open Mistune.Generated

/-! ## 1. the browser's reading of an attribute value as a URL -/

/-- "C0 control or space" of the WHATWG URL standard: code point ≤ 0x20. -/
def isC0Space (c : Char) : Bool := decide (c.toNat ≤ 32)

/-- "ASCII tab or newline" of the WHATWG URL standard. -/
def isTabNl (c : Char) : Bool := c == '\t' || c == '\n' || c == '\r'

/-- Steps 1–3 of the WHATWG basic URL parser: strip leading and trailing C0-control-or-space, then remove every
tab / LF / CR. -/
def browserNorm (s : Str) : Str :=
  (((s.dropWhile isC0Space).reverse.dropWhile isC0Space).reverse).filter (fun c => !isTabNl c)

/-- ASCII lower-casing of one character (`A`..`Z` ↦ `a`..`z`, everything else fixed). -/
def asciiLowerChar (c : Char) : Char :=
  if 65 ≤ c.toNat ∧ c.toNat ≤ 90 then Char.ofNat (c.toNat + 32) else c

def asciiLower (s : Str) : Str := s.map asciiLowerChar

/-- The browser would treat `s` as a URL of one of the `harmful` schemes and not of a `good` `data:` prefix:
some harmful prefix is a prefix of `asciiLower (browserNorm s)` and no good-data prefix is. -/
def scriptCapable (harmful good : List Str) (s : Str) : Bool :=
  let l := asciiLower (browserNorm s)
  harmful.any (fun p => Py.startsWith l p) && !(good.any (fun p => Py.startsWith l p))

/-- The same with the comparison case-insensitive on BOTH sides (what "compare schemes ASCII-case-insensitively"
literally says); equal to `scriptCapable` for lower-case prefix lists (`scriptCapableCI_eq`). -/
def scriptCapableCI (harmful good : List Str) (s : Str) : Bool :=
  let l := asciiLower (browserNorm s)
  harmful.any (fun p => Py.startsWith l (asciiLower p)) && !(good.any (fun p => Py.startsWith l (asciiLower p)))

/-- the lists of the default environment (`mkTEnv`), from the regenerated constants -/
def defaultHarmful : List Str := strsOf harmfulProtocols
def defaultGoodData : List Str := strsOf goodDataProtocols

theorem mkTEnv_harmful (args : List (String × TVal)) (esc : Bool) : (mkTEnv args esc).harmful = defaultHarmful := rfl
theorem mkTEnv_goodData (args : List (String × TVal)) (esc : Bool) : (mkTEnv args esc).goodData = defaultGoodData := rfl

/-! ## 2. on the alphabet of `escape_url` the browser removes nothing and `lower()` is ASCII lower-casing -/

theorem dropWhile_eq_self_of_all_false {α : Type} (p : α → Bool) :
    ∀ (l : List α), (∀ x ∈ l, p x = false) → l.dropWhile p = l
  | [], _ => rfl
  | x :: l, h => by
    have hx := h x (by simp)
    simp [hx]

theorem browserNorm_fixed (s : Str) (h : ∀ c ∈ s, 33 ≤ c.toNat) : browserNorm s = s := by
  have h1 : ∀ c ∈ s, isC0Space c = false := by
    intro c hc; have := h c hc; simp [isC0Space]; omega
  have h2 : ∀ c ∈ s, (!isTabNl c) = true := by
    intro c hc
    have := h c hc
    have e : isTabNl c = false := by
      unfold isTabNl
      have a : c ≠ '\t' := by intro e; subst e; revert this; decide
      have b : c ≠ '\n' := by intro e; subst e; revert this; decide
      have d : c ≠ '\r' := by intro e; subst e; revert this; decide
      simp [a, b, d]
    simp [e]
  unfold browserNorm
  rw [dropWhile_eq_self_of_all_false _ s h1,
    dropWhile_eq_self_of_all_false _ s.reverse (by intro x hx; exact h1 x (List.mem_reverse.1 hx)),
    List.reverse_reverse]
  exact List.filter_eq_self.2 h2

/-- **C02 (script URL), browser pre-processing.** Whatever `unescape` returns, a browser's URL pre-processing leaves the result of
`escape_url` as it is. -/
theorem escapeUrl_browser_fixed (unescape : Str → Str) (s : Str) :
    browserNorm (escapeUrl unescape s) = escapeUrl unescape s :=
  browserNorm_fixed _ (fun c hc => (escapeUrl_attr_safe unescape s c hc).1)

/-- Obligation on the regenerated `str.lower()` table: on the 128 ASCII code points it maps exactly `A`..`Z`, to
the code point 32 above (kernel-decided). -/
theorem lowerTree_ascii : ∀ n, n < 128 →
    lowerTree.lookup n = (if 65 ≤ n ∧ n ≤ 90 then some (n + 32) else none) := by decide +kernel

/-- the model's `str.lower()` (per code point, `Generated.lowerTree`) is ASCII lower-casing on ASCII -/
theorem lowerChar_ascii (c : Char) (h : c.toNat < 128) : lowerChar c = asciiLowerChar c := by
  unfold lowerChar variantOf asciiLowerChar
  rw [lowerTree_ascii c.toNat h]
  by_cases hc : 65 ≤ c.toNat ∧ c.toNat ≤ 90
  · simp only [hc, and_self, if_true]
  · simp only [hc, if_false]

theorem map_lowerChar_ascii (s : Str) (h : ∀ c ∈ s, c.toNat < 128) : s.map lowerChar = asciiLower s := by
  unfold asciiLower
  exact List.map_congr_left (fun c hc => lowerChar_ascii c (h c hc))

/-- **C02 (script URL), lower-casing.** On the result of `escape_url` the lower-casing `safe_url` uses is ASCII
lower-casing. -/
theorem escapeUrl_lower_ascii (unescape : Str → Str) (s : Str) :
    (escapeUrl unescape s).map lowerChar = asciiLower (escapeUrl unescape s) :=
  map_lowerChar_ascii _ (fun c hc => by have := (escapeUrl_attr_safe unescape s c hc).2.1; omega)

/-! ## 3. `safe_url` on an escaped destination -/

/-- The test of `safe_url` IS the browser's test on strings of the `escape_url` alphabet — for ANY prefix lists. -/
theorem safeUrl_test_eq_scriptCapable (H G : List Str) (url : Str) (h : ∀ c ∈ url, 33 ≤ c.toNat ∧ c.toNat < 128) :
    (H.any (fun p => Py.startsWith (url.map lowerChar) p) && !(G.any (fun p => Py.startsWith (url.map lowerChar) p)))
      = scriptCapable H G url := by
  unfold scriptCapable
  rw [browserNorm_fixed url (fun c hc => (h c hc).1), map_lowerChar_ascii url (fun c hc => (h c hc).2)]

/-- `safe_url` on a string of the `escape_url` alphabet, for ANY prefix lists: either the fixed replacement, or the
escaped text of a URL that is not script-capable. -/
theorem safeUrlStr_cases (H G : List Str) (url : Str) (h : ∀ c ∈ url, 33 ≤ c.toNat ∧ c.toNat < 128) :
    safeUrlStr H G url = "#harmful-link".toList ∨
      (safeUrlStr H G url = escape true url ∧ scriptCapable H G url = false) := by
  have e := safeUrl_test_eq_scriptCapable H G url h
  unfold safeUrlStr
  simp only
  cases hc : scriptCapable H G url
  · right
    rw [hc] at e
    rw [e]; simp
  · left
    rw [hc] at e
    rw [e]; simp

theorem escapeUrl_alphabet (unescape : Str → Str) (s : Str) :
    ∀ c ∈ escapeUrl unescape s, 33 ≤ c.toNat ∧ c.toNat < 128 := by
  intro c hc
  have := escapeUrl_attr_safe unescape s c hc
  omega

/-- Obligations on the regenerated prefix lists (kernel-decided): every prefix is non-empty, ASCII and lower-case
(so that mistune's `lower().startswith(p)` is the case-insensitive comparison a browser makes), and the replacement
text is itself not script-capable. -/
theorem harmful_lower_ascii :
    ∀ p ∈ defaultHarmful, p ≠ [] ∧ ∀ c ∈ p, c.toNat < 128 ∧ asciiLowerChar c = c := by decide +kernel

theorem goodData_lower_ascii :
    ∀ p ∈ defaultGoodData, p ≠ [] ∧ ∀ c ∈ p, c.toNat < 128 ∧ asciiLowerChar c = c := by decide +kernel

/-- every good-data prefix extends a harmful prefix (the exemption only ever re-admits `data:` URLs) -/
theorem goodData_extends_harmful :
    ∀ g ∈ defaultGoodData, defaultHarmful.any (fun p => Py.startsWith g p) = true := by decide +kernel

theorem harmfulLink_not_script : scriptCapable defaultHarmful defaultGoodData "#harmful-link".toList = false := by
  decide +kernel

theorem asciiLower_fixed (p : Str) (h : ∀ c ∈ p, asciiLowerChar c = c) : asciiLower p = p := by
  unfold asciiLower
  conv => rhs; rw [← List.map_id p]
  exact List.map_congr_left (fun c hc => h c hc)

theorem any_congr_mem {α : Type} (f g : α → Bool) :
    ∀ (l : List α), (∀ x ∈ l, f x = g x) → l.any f = l.any g
  | [], _ => rfl
  | x :: l, h => by
    rw [List.any_cons, List.any_cons, h x (by simp), any_congr_mem f g l (fun y hy => h y (by simp [hy]))]

/-- for lower-case prefix lists the two-sided case-insensitive reading is `scriptCapable` -/
theorem scriptCapableCI_eq (H G : List Str) (hH : ∀ p ∈ H, ∀ c ∈ p, asciiLowerChar c = c)
    (hG : ∀ p ∈ G, ∀ c ∈ p, asciiLowerChar c = c) (s : Str) : scriptCapableCI H G s = scriptCapable H G s := by
  unfold scriptCapableCI scriptCapable
  simp only
  have e : ∀ L : List Str, (∀ p ∈ L, ∀ c ∈ p, asciiLowerChar c = c) → ∀ l : Str,
      L.any (fun p => Py.startsWith l (asciiLower p)) = L.any (fun p => Py.startsWith l p) := by
    intro L hL l
    apply any_congr_mem
    intro p hp
    rw [asciiLower_fixed p (hL p hp)]
  rw [e H hH, e G hG]

theorem scriptCapableCI_default (s : Str) :
    scriptCapableCI defaultHarmful defaultGoodData s = scriptCapable defaultHarmful defaultGoodData s :=
  scriptCapableCI_eq _ _ (fun p hp => fun c hc => ((harmful_lower_ascii p hp).2 c hc).2)
    (fun p hp => fun c hc => ((goodData_lower_ascii p hp).2 c hc).2) s

/-- **C02 (script URL), emitted text.** For every `unescape` and every source string `s`, `safe_url` applied to the
parse-time escaped destination returns either the fixed text `#harmful-link`, or the escaped text of a URL that a
browser does not read as script-capable. -/
theorem href_not_script (unescape : Str → Str) (s : Str) :
    let url := escapeUrl unescape s
    safeUrlStr defaultHarmful defaultGoodData url = "#harmful-link".toList ∨
      (safeUrlStr defaultHarmful defaultGoodData url = escape true url ∧
        scriptCapable defaultHarmful defaultGoodData url = false) :=
  safeUrlStr_cases _ _ _ (escapeUrl_alphabet unescape s)

theorem decodeBasic_harmfulLink : decodeBasic "#harmful-link".toList = "#harmful-link".toList := by decide +kernel

/-- **C02 (script URL), attribute value.** The attribute VALUE a browser sees is the HTML-decoding of the emitted
text (`decodeBasic`: the decoder of exactly the entities `escape` produces, `escape_roundtrip`).  It is either
`#harmful-link` or the escaped destination itself, and in both cases not script-capable. -/
theorem rendered_url_not_script (unescape : Str → Str) (s : Str) :
    let url := escapeUrl unescape s
    let value := decodeBasic (safeUrlStr defaultHarmful defaultGoodData url)
    (value = "#harmful-link".toList ∨ value = url) ∧
      scriptCapable defaultHarmful defaultGoodData value = false := by
  intro url value
  rcases href_not_script unescape s with h | ⟨h, hs⟩
  · have e : value = "#harmful-link".toList := by
      show decodeBasic (safeUrlStr defaultHarmful defaultGoodData (escapeUrl unescape s)) = _
      rw [h]; exact decodeBasic_harmfulLink
    exact ⟨Or.inl e, by rw [e]; exact harmfulLink_not_script⟩
  · have e : value = url := by
      show decodeBasic (safeUrlStr defaultHarmful defaultGoodData (escapeUrl unescape s)) = _
      rw [h]; exact escape_roundtrip true _
    exact ⟨Or.inr e, by rw [e]; exact hs⟩

/-- the same in the two-sided case-insensitive reading -/
theorem rendered_url_not_scriptCI (unescape : Str → Str) (s : Str) :
    scriptCapableCI defaultHarmful defaultGoodData
      (decodeBasic (safeUrlStr defaultHarmful defaultGoodData (escapeUrl unescape s))) = false := by
  rw [scriptCapableCI_default]; exact (rendered_url_not_script unescape s).2

/-- **C02 (script URL), in the environment of the render theorems.** The `safe_url` operation of the template
interpreter, in `mkTEnv`, on an escaped destination (whatever flags its characters carry). -/
theorem applyOp_safeUrl_not_script (args : List (String × TVal)) (esc : Bool) (unescape : Str → Str) (s : Str)
    (t : TStr) (ht : t.erase = escapeUrl unescape s) :
    let value := decodeBasic (applyOp (mkTEnv args esc) .safeUrl t).erase
    (value = "#harmful-link".toList ∨ value = escapeUrl unescape s) ∧
      scriptCapable (mkTEnv args esc).harmful (mkTEnv args esc).goodData value = false := by
  have e : (applyOp (mkTEnv args esc) .safeUrl t).erase
      = safeUrlStr defaultHarmful defaultGoodData (escapeUrl unescape s) := by
    show (TStr.ofData (safeUrlStr defaultHarmful defaultGoodData t.erase)).erase = _
    rw [ht]; exact TStr.erase_ofData _
  simp only [e, mkTEnv_harmful, mkTEnv_goodData]
  exact rendered_url_not_script unescape s

/-! ## 4. necessity of the parse-time escaping

`safe_url` alone is NOT sound against the browser's reading: on a raw string with an embedded tab, a leading space
or a leading control character it answers "fine" and the browser runs the script.  (These strings cannot reach
`safe_url` through the parser, by `escapeUrl_attr_safe`; a renderer fed by a different front end has no such
guarantee.) -/

theorem necessity_tab :
    safeUrlStr defaultHarmful defaultGoodData "java\tscript:alert(1)".toList = "java\tscript:alert(1)".toList ∧
    scriptCapable defaultHarmful defaultGoodData "java\tscript:alert(1)".toList = true := by
  decide +kernel

theorem necessity_leading_space :
    safeUrlStr defaultHarmful defaultGoodData " javascript:alert(1)".toList = " javascript:alert(1)".toList ∧
    scriptCapable defaultHarmful defaultGoodData " javascript:alert(1)".toList = true := by
  decide +kernel

theorem necessity_leading_control :
    safeUrlStr defaultHarmful defaultGoodData "\x01javascript:alert(1)".toList = "\x01javascript:alert(1)".toList ∧
    scriptCapable defaultHarmful defaultGoodData "\x01javascript:alert(1)".toList = true := by
  decide +kernel

theorem necessity_newline_in_scheme :
    safeUrlStr defaultHarmful defaultGoodData "javascript\n:alert(1)".toList = "javascript\n:alert(1)".toList ∧
    scriptCapable defaultHarmful defaultGoodData "javascript\n:alert(1)".toList = true := by
  decide +kernel

/-! ## 5. concrete inputs -/

/-- a toy `unescape`: decodes the one reference `&#9;` -/
def toyUnescape : Str → Str
  | '&' :: '#' :: '9' :: ';' :: r => '\t' :: toyUnescape r
  | c :: r => c :: toyUnescape r
  | [] => []

-- mixed case is caught by `lower()`
example : safeUrlStr defaultHarmful defaultGoodData (escapeUrl id "JaVaScRiPt:alert(1)".toList)
    = "#harmful-link".toList := by decide +kernel

-- a character reference for TAB is decoded and then percent-encoded at parse time: the browser sees `%09`, which
-- it does not remove, and the scheme is not `javascript`
example : escapeUrl toyUnescape "java&#9;script:x".toList = "java%09script:x".toList := by decide +kernel
example : safeUrlStr defaultHarmful defaultGoodData (escapeUrl toyUnescape "java&#9;script:x".toList)
    = "java%09script:x".toList := by decide +kernel
example : scriptCapable defaultHarmful defaultGoodData (escapeUrl toyUnescape "java&#9;script:x".toList)
    = false := by decide +kernel
-- … whereas the decoded string itself (what `safe_url` would see without `quote`) is script-capable and passes
example : safeUrlStr defaultHarmful defaultGoodData (toyUnescape "java&#9;script:x".toList)
      = "java\tscript:x".toList ∧
    scriptCapable defaultHarmful defaultGoodData (toyUnescape "java&#9;script:x".toList) = true := by decide +kernel

-- a good `data:image/…;` prefix is let through, and is not script-capable by definition
example : safeUrlStr defaultHarmful defaultGoodData (escapeUrl id "data:image/png;base64,AA".toList)
      = "data:image/png;base64,AA".toList ∧
    scriptCapable defaultHarmful defaultGoodData "data:image/png;base64,AA".toList = false := by decide +kernel

-- any other `data:` URL is replaced
example : safeUrlStr defaultHarmful defaultGoodData (escapeUrl id "data:text/html,x".toList)
    = "#harmful-link".toList := by decide +kernel

-- the emitted text keeps `&` escaped, so that a reference surviving in the URL is not decoded by the browser
example : safeUrlStr defaultHarmful defaultGoodData (escapeUrl id "java&#9;script:x".toList)
      = "java&amp;#9;script:x".toList ∧
    decodeBasic "java&amp;#9;script:x".toList = "java&#9;script:x".toList ∧
    scriptCapable defaultHarmful defaultGoodData "java&#9;script:x".toList = false := by decide +kernel

end Mistune
