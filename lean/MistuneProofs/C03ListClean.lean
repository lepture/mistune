/-
C03 (list items): `_clean_list_item_text(src, continue_width)` (`Model.Blk.cleanListItemText`) is, line by line,
"if the line starts with `continue_width` blanks, remove exactly these and expand a leading tab (after at most three
blanks) to four blanks; otherwise copy the line".  (a) Nothing but blanks and tabs is ever removed or inserted
(`clean_conserve`), the line structure is preserved, and the removal is anchored at the line start
(`str.replace(trim_space, "", 1)` is called only under `startswith(trim_space)`, so its first occurrence *is* the
prefix).  (b) A text without tab heads after the indent comes out verbatim up to the indent (`clean_verbatim`).

The regex `_expand_tab_re = ^( {0,3})\t` (`re.M`) is the line-head pattern already evaluated in `C11Indent`; only the
replacement differs (`r"\1" + "    "` here, `group(1) + " " * (width - len(group(1)))` there).
-/
import MistuneProofs.C11Indent
namespace Mistune
open Mistune.Model Mistune.Model.Blk Mistune.Generated

/-! ### `expand_tab`: `_expand_tab_re.sub(r"\1" + "    ", text)` -/

/-- `expand_tab` on one line: a tab after at most three blanks at the start of the line becomes four blanks (the
blanks before it are kept: `\1`); nothing else changes -/
def expandTab4 (l : Str) : Str :=
  if l[spRun 3 l]? = some '\t' then l.take (spRun 3 l) ++ [' ', ' ', ' ', ' '] ++ l.drop (spRun 3 l + 1) else l

theorem expandTab4_tab (sp rest : Str) (hsp : ∀ ch ∈ sp, ch = ' ') (hlen : sp.length ≤ 3) :
    expandTab4 (sp ++ '\t' :: rest) = sp ++ [' ', ' ', ' ', ' '] ++ rest := by
  have hrun : spRun 3 (sp ++ '\t' :: rest) = sp.length :=
    spRun_run 3 sp _ hsp hlen (fun ch r h => by cases h; decide)
  unfold expandTab4
  rw [hrun, if_pos (by simp)]
  simp

theorem expandTab4_other (l : Str) (h : ¬ TabHead l) : expandTab4 l = l := by
  unfold expandTab4
  split
  · rename_i htab
    exact absurd (tabHead_of_getElem l htab) h
  · rfl

/-- the two cases of `expandTab4`, as one statement -/
theorem expandTab4_spec (l : Str) :
    (∃ sp rest, l = sp ++ '\t' :: rest ∧ (∀ ch ∈ sp, ch = ' ') ∧ sp.length ≤ 3 ∧
      expandTab4 l = sp ++ [' ', ' ', ' ', ' '] ++ rest) ∨ (¬ TabHead l ∧ expandTab4 l = l) := by
  by_cases h : TabHead l
  · obtain ⟨sp, rest, h1, h2, h3⟩ := h
    exact Or.inl ⟨sp, rest, h1, h2, h3, by rw [h1]; exact expandTab4_tab sp rest h2 h3⟩
  · exact Or.inr ⟨h, expandTab4_other l h⟩

theorem reSub_expandTab4 (t : Str) :
    Py.reSub expandTabRxExpected (fun a mt => (Py.groupStr a mt 1).getD [] ++ "    ".toList) t =
      subLines expandTab4 t := by
  refine (lineSub (tab_lineSub (· ++ "    ".toList)) t).trans ?_
  congr 1
  funext l
  rw [rwLine_tab (· ++ "    ".toList), expandTab4]
  rfl

/-- **`expand_tab(text)` rewrites every line separately**, for every configuration whose `_expand_tab_re` is the
expected term -/
theorem expandTab_eq_of_lookup (cfg : MdCfg)
    (h : cfg.named.lookup "mistune.util._expand_tab_re" = some expandTabRxExpected) (t : Str) :
    expandTab cfg t = subLines expandTab4 t := by
  unfold expandTab
  rw [rx_of_lookup cfg _ _ h]
  exact reSub_expandTab4 t

/-- **…in particular for every regenerated configuration** -/
theorem expandTab_eq (cfg : MdCfg) (hcfg : cfg.named = Generated.namedRx) (t : Str) :
    expandTab cfg t = subLines expandTab4 t :=
  expandTab_eq_of_lookup cfg (by rw [hcfg]; exact expandTabRx_lookup) t

/-- on a single line -/
theorem expandTab_line (cfg : MdCfg) (hcfg : cfg.named = Generated.namedRx) (l : Str) (h : '\n' ∉ l) :
    expandTab cfg l = expandTab4 l := by
  rw [expandTab_eq cfg hcfg, subLines_no_nl _ _ h]

/-! ### `startswith` and `replace(old, new, 1)` -/

theorem startsWith_iff (l p : Str) : Py.startsWith l p = true ↔ ∃ r, l = p ++ r := by
  induction p generalizing l with
  | nil => simp [Py.startsWith]
  | cons b p ih =>
    cases l with
    | nil => simp [Py.startsWith]
    | cons a s =>
      simp only [Py.startsWith, Bool.and_eq_true, beq_iff_eq, ih, List.cons_append, List.cons.injEq]
      constructor
      · rintro ⟨rfl, r, rfl⟩; exact ⟨r, rfl, rfl⟩
      · rintro ⟨r, rfl, rfl⟩; exact ⟨rfl, r, rfl⟩

theorem startsWith_append (p r : Str) : Py.startsWith (p ++ r) p = true := (startsWith_iff _ _).mpr ⟨r, rfl⟩

/-- a line that starts with `p` is `p` followed by the line without its first `len(p)` characters -/
theorem startsWith_split (l p : Str) (h : Py.startsWith l p = true) : l = p ++ l.drop p.length := by
  obtain ⟨r, rfl⟩ := (startsWith_iff l p).mp h
  simp

/-- `line.replace(p, new, 1)` when `line.startswith(p)`: the first occurrence is the prefix itself.  Also for `p = ""`:
Python's `"abc".replace("", new, 1)` is `new + "abc"` (the empty string occurs first at position 0), which is what the
model computes (`new ++ s`), and `drop 0` is the identity. -/
theorem replaceFirst_prefix_gen (line p new : Str) (h : Py.startsWith line p = true) :
    Py.replaceFirst p new line = new ++ line.drop p.length := by
  unfold Py.replaceFirst
  split
  · rename_i he
    have : p = [] := by simpa using he
    subst this; rfl
  · rename_i he
    cases line with
    | nil =>
      cases p with
      | nil => simp at he
      | cons b p => simp [Py.startsWith] at h
    | cons c r => rw [Py.replaceFirst.go, if_pos h]

/-- **the removal is anchored at the line start**: under `line.startswith(p)`, `line.replace(p, "", 1)` is the line
without its first `len(p)` characters — for every `p`, the empty one included (`"abc".replace("", "", 1) == "abc"`
in Python and in the model). -/
theorem replaceFirst_prefix (line p : Str) (h : Py.startsWith line p = true) :
    Py.replaceFirst p [] line = line.drop p.length := by
  rw [replaceFirst_prefix_gen line p [] h]; rfl

/-- what an unanchored `replace` does: without the `startswith` guard the first occurrence anywhere is removed -/
example : Py.replaceFirst "  ".toList [] "beta  gamma".toList = "betagamma".toList := by decide

example : Py.replaceFirst [] [] "abc".toList = "abc".toList := by decide

/-! ### `split("\n")` -/

/-- put a string in front of the first line -/
def prependHead (p : Str) : List Str → List Str
  | l :: ls => (p ++ l) :: ls
  | [] => [p]

theorem splitOn_go_nl (s : Str) : ∀ (cur : Str) (fuel : Nat), s.length < fuel →
    Py.splitOn.go ['\n'] s cur fuel = prependHead cur.reverse (splitNl s) := by
  induction s with
  | nil => intro cur fuel _; simp [Py.splitOn.go, splitNl, prependHead]
  | cons c r ih =>
    intro cur fuel hf
    cases fuel with
    | zero => simp at hf
    | succ fuel =>
      have hf' : r.length < fuel := by simpa using hf
      rw [Py.splitOn.go]
      by_cases hc : c = '\n'
      · subst hc
        have : Py.startsWith ('\n' :: r) ['\n'] = true := by simp [Py.startsWith]
        rw [if_pos this]
        simp only [List.length_cons, List.length_nil, Nat.zero_add, List.drop_succ_cons, List.drop_zero]
        rw [ih [] fuel hf']
        cases hs : splitNl r with
        | nil => exact absurd hs (splitNl_ne_nil r)
        | cons l ls => simp [splitNl, hs, prependHead]
      · have : ¬ Py.startsWith (c :: r) ['\n'] = true := by simp [Py.startsWith, hc]
        rw [if_neg this, ih (c :: cur) fuel hf']
        cases hs : splitNl r with
        | nil => exact absurd hs (splitNl_ne_nil r)
        | cons l ls => simp [splitNl, hc, hs, prependHead, consHead]

/-- **`src.split("\n")` of the model is `splitNl`** -/
theorem splitOn_nl (s : Str) : Py.splitOn ['\n'] s = splitNl s := by
  unfold Py.splitOn
  rw [splitOn_go_nl s [] _ (Nat.lt_succ_self _)]
  cases hs : splitNl s with
  | nil => exact absurd hs (splitNl_ne_nil s)
  | cons l ls => simp [prependHead]

/-! ### `_clean_list_item_text` -/

/-- one line of `_clean_list_item_text(src, w)` -/
def cleanLine (w : Nat) (l : Str) : Str :=
  if Py.startsWith l (List.replicate w ' ') then expandTab4 (l.drop w) else l

/-- **`_clean_list_item_text` rewrites every line separately**, for every configuration whose `_expand_tab_re` is the
expected term -/
theorem cleanListItemText_eq_of_lookup (cfg : MdCfg)
    (h : cfg.named.lookup "mistune.util._expand_tab_re" = some expandTabRxExpected) (src : Str) (w : Nat) :
    cleanListItemText cfg src w = Py.join ['\n'] ((Py.splitOn ['\n'] src).map (cleanLine w)) := by
  unfold cleanListItemText
  simp only [Py.rep]
  congr 1
  apply List.map_congr_left
  intro l hl
  rw [splitOn_nl] at hl
  have hnl := splitNl_mem_no_nl src l hl
  unfold cleanLine
  by_cases hs : Py.startsWith l (List.replicate w ' ') = true
  · simp only [hs, if_true]
    rw [replaceFirst_prefix l _ hs, List.length_replicate, expandTab_eq_of_lookup cfg h,
      subLines_no_nl _ _ (fun e => hnl (List.mem_of_mem_drop e))]
  · simp [hs]

/-- **…in particular for every regenerated configuration** -/
theorem cleanListItemText_eq (cfg : MdCfg) (hcfg : cfg.named = Generated.namedRx) (src : Str) (w : Nat) :
    cleanListItemText cfg src w = Py.join ['\n'] ((Py.splitOn ['\n'] src).map (cleanLine w)) :=
  cleanListItemText_eq_of_lookup cfg (by rw [hcfg]; exact expandTabRx_lookup) src w

/-- the same over `splitNl`, i.e. `subLines` -/
theorem cleanListItemText_eq_subLines (cfg : MdCfg) (hcfg : cfg.named = Generated.namedRx) (src : Str) (w : Nat) :
    cleanListItemText cfg src w = subLines (cleanLine w) src := by
  rw [cleanListItemText_eq cfg hcfg, splitOn_nl]; rfl

/-- every configuration the model is run with (`ofRuleCfg`) -/
theorem cleanListItemText_eq_ofRuleCfg (c : RuleCfg) (src : Str) (w : Nat) :
    cleanListItemText (ofRuleCfg c) src w = subLines (cleanLine w) src :=
  cleanListItemText_eq_subLines (ofRuleCfg c) rfl src w

/-! ### conservation: nothing but blanks and tabs is removed or inserted -/

/-- everything but the blank and the tab -/
abbrev notBlank : Char → Bool := fun c => c != ' ' && c != '\t'

theorem filter_replicate_sp (n : Nat) : (List.replicate n ' ').filter notBlank = [] := by
  induction n with
  | zero => rfl
  | succ n ih => rw [List.replicate_succ, List.filter_cons_of_neg (by decide), ih]

theorem filter_spaces (sp : Str) (h : ∀ ch ∈ sp, ch = ' ') : sp.filter notBlank = [] := by
  rw [List.filter_eq_nil_iff]
  intro ch hch
  rw [h ch hch]; decide

/-- `expand_tab` on a line only turns a tab into blanks -/
theorem expandTab4_conserve (l : Str) : (expandTab4 l).filter notBlank = l.filter notBlank := by
  rcases expandTab4_spec l with ⟨sp, rest, h1, _, _, h4⟩ | ⟨_, h⟩
  · rw [h4, h1, List.filter_append, List.filter_append, List.filter_append,
      List.filter_cons_of_neg (a := '\t') (by decide), show List.filter notBlank [' ', ' ', ' ', ' '] = [] from filter_replicate_sp 4, List.append_nil]
  · rw [h]

/-- **(a), one line**: with blanks and tabs removed, the cleaned line is the line — no other character is lost,
duplicated or reordered -/
theorem cleanLine_conserve (w : Nat) (l : Str) : (cleanLine w l).filter notBlank = l.filter notBlank := by
  unfold cleanLine
  by_cases hs : Py.startsWith l (List.replicate w ' ') = true
  · rw [if_pos hs, expandTab4_conserve]
    have := startsWith_split l _ hs
    rw [List.length_replicate] at this
    conv => rhs; rw [this]
    rw [List.filter_append, filter_replicate_sp, List.nil_append]
  · rw [if_neg hs]

/-- the same, with the predicate written out -/
theorem cleanLine_conserve' (w : Nat) (l : Str) :
    (cleanLine w l).filter (fun c => c != ' ' && c != '\t') = l.filter (fun c => c != ' ' && c != '\t') :=
  cleanLine_conserve w l

/-- stronger: the cleaned line and the line differ only in a prefix made of blanks and tabs (on the line) resp. of
blanks (on the cleaned line); the rest of the line — in particular every interior blank — is the same suffix -/
theorem cleanLine_suffix (w : Nat) (l : Str) :
    ∃ pre pre' rest, l = pre ++ rest ∧ cleanLine w l = pre' ++ rest ∧
      (∀ ch ∈ pre, ch = ' ' ∨ ch = '\t') ∧ (∀ ch ∈ pre', ch = ' ') := by
  unfold cleanLine
  by_cases hs : Py.startsWith l (List.replicate w ' ') = true
  · rw [if_pos hs]
    have hl := startsWith_split l _ hs
    rw [List.length_replicate] at hl
    rcases expandTab4_spec (l.drop w) with ⟨sp, rest, h1, h2, _, h4⟩ | ⟨_, h⟩
    · refine ⟨List.replicate w ' ' ++ sp ++ ['\t'], sp ++ [' ', ' ', ' ', ' '], rest, ?_, ?_, ?_, ?_⟩
      · conv => lhs; rw [hl, h1]
        simp
      · rw [h4]
      · intro ch hch
        simp only [List.mem_append, List.mem_singleton] at hch
        rcases hch with (hch | hch) | hch
        · exact Or.inl (List.eq_of_mem_replicate hch)
        · exact Or.inl (h2 ch hch)
        · exact Or.inr hch
      · intro ch hch
        rcases List.mem_append.mp hch with hch | hch
        · exact h2 ch hch
        · simp at hch; exact hch
    · refine ⟨List.replicate w ' ', [], l.drop w, hl, by rw [h]; rfl, ?_, by simp⟩
      intro ch hch
      exact Or.inl (List.eq_of_mem_replicate hch)
  · rw [if_neg hs]
    exact ⟨[], [], l, rfl, rfl, by simp, by simp⟩

/-! ### the whole text: the line structure is preserved -/

theorem expandTab4_no_nl (l : Str) (h : '\n' ∉ l) : '\n' ∉ expandTab4 l := by
  unfold expandTab4
  split
  · intro e
    rcases List.mem_append.mp e with e | e
    · rcases List.mem_append.mp e with e | e
      · exact h (List.mem_of_mem_take e)
      · simp at e
    · exact h (List.mem_of_mem_drop e)
  · exact h

theorem cleanLine_no_nl (w : Nat) (l : Str) (h : '\n' ∉ l) : '\n' ∉ cleanLine w l := by
  unfold cleanLine
  split
  · exact expandTab4_no_nl _ (fun e => h (List.mem_of_mem_drop e))
  · exact h

/-- **the lines of the result are the cleaned lines of the source** (`split("\n")` of the result, not only the list
that was joined: no line is created or merged) -/
theorem clean_lines (cfg : MdCfg) (hcfg : cfg.named = Generated.namedRx) (src : Str) (w : Nat) :
    splitNl (cleanListItemText cfg src w) = (splitNl src).map (cleanLine w) := by
  rw [cleanListItemText_eq_subLines cfg hcfg, splitNl_subLines _ (cleanLine_no_nl w)]

theorem clean_line_count (cfg : MdCfg) (hcfg : cfg.named = Generated.namedRx) (src : Str) (w : Nat) :
    (splitNl (cleanListItemText cfg src w)).length = (splitNl src).length := by
  rw [clean_lines cfg hcfg, List.length_map]

/-- **(a), the text, line by line**: the lines of the result with blanks and tabs removed are the lines of the source
with blanks and tabs removed -/
theorem clean_conserve_lines (cfg : MdCfg) (hcfg : cfg.named = Generated.namedRx) (src : Str) (w : Nat) :
    (splitNl (cleanListItemText cfg src w)).map (·.filter notBlank) = (splitNl src).map (·.filter notBlank) := by
  rw [clean_lines cfg hcfg, List.map_map]
  apply List.map_congr_left
  intro l _
  exact cleanLine_conserve w l

theorem filter_join_nl (ls : List Str) :
    (Py.join ['\n'] ls).filter notBlank = Py.join ['\n'] (ls.map (·.filter notBlank)) := by
  induction ls with
  | nil => rfl
  | cons a r ih =>
    cases r with
    | nil => rfl
    | cons b r =>
      rw [join_cons_cons, List.filter_append, List.filter_append, ih]
      rfl

/-- **(a), the text as a whole** (the newline is neither a blank nor a tab, so it is kept by the filter) -/
theorem clean_conserve (cfg : MdCfg) (hcfg : cfg.named = Generated.namedRx) (src : Str) (w : Nat) :
    (cleanListItemText cfg src w).filter notBlank = src.filter notBlank := by
  rw [← join_splitNl (cleanListItemText cfg src w), filter_join_nl, clean_conserve_lines cfg hcfg, ← filter_join_nl,
    join_splitNl]

/-! ### (b) verbatim -/

/-- a line indented by `w` blanks: the blanks are removed, the rest goes through `expand_tab` -/
theorem cleanLine_indent (w : Nat) (l : Str) : cleanLine w (List.replicate w ' ' ++ l) = expandTab4 l := by
  unfold cleanLine
  rw [if_pos (startsWith_append _ _)]
  congr 1
  simp

/-- …and comes out as it is unless it starts with (0–3 blanks, tab) -/
theorem cleanLine_indented (w : Nat) (l : Str) (h : ¬ TabHead l) : cleanLine w (List.replicate w ' ' ++ l) = l := by
  rw [cleanLine_indent, expandTab4_other l h]

/-- a line that does not start with `w` blanks (lazy continuation line, blank line shorter than `w`) is copied -/
theorem cleanLine_lazy (w : Nat) (l : Str) (h : Py.startsWith l (List.replicate w ' ') = false) : cleanLine w l = l := by
  unfold cleanLine
  rw [if_neg (by simp [h])]

/-- **`clean_verbatim`.**  Every line of `src` is `p.1 ++ p.2` where either `p.1` is the `w` blanks and `p.2` does not
start with (0–3 blanks, tab), or `p.1` is empty and `p.2` does not start with `w` blanks.  Then the result is the
`p.2`s joined by newlines: exactly the `w` leading blanks of the indented lines are removed, everything else —
interior blanks included — is untouched. -/
theorem clean_verbatim (cfg : MdCfg) (hcfg : cfg.named = Generated.namedRx) (src : Str) (w : Nat)
    (segs : List (Str × Str)) (hlines : splitNl src = segs.map (fun p => p.1 ++ p.2))
    (hseg : ∀ p ∈ segs, (p.1 = List.replicate w ' ' ∧ ¬ TabHead p.2) ∨
      (p.1 = [] ∧ Py.startsWith p.2 (List.replicate w ' ') = false)) :
    cleanListItemText cfg src w = Py.join ['\n'] (segs.map (·.2)) := by
  rw [cleanListItemText_eq_subLines cfg hcfg]
  unfold subLines
  rw [hlines, List.map_map]
  congr 1
  apply List.map_congr_left
  intro p hp
  rcases hseg p hp with ⟨h1, h2⟩ | ⟨h1, h2⟩
  · simp only [Function.comp, h1]; exact cleanLine_indented w p.2 h2
  · simp only [Function.comp, h1, List.nil_append]; exact cleanLine_lazy w p.2 h2

/-- the same with the text given by its lines -/
theorem clean_verbatim_join (cfg : MdCfg) (hcfg : cfg.named = Generated.namedRx) (w : Nat) (segs : List (Str × Str))
    (hne : segs ≠ [])
    (hseg : ∀ p ∈ segs, ((p.1 = List.replicate w ' ' ∧ ¬ TabHead p.2) ∨
      (p.1 = [] ∧ Py.startsWith p.2 (List.replicate w ' ') = false)) ∧ '\n' ∉ p.2) :
    cleanListItemText cfg (Py.join ['\n'] (segs.map (fun p => p.1 ++ p.2))) w = Py.join ['\n'] (segs.map (·.2)) := by
  apply clean_verbatim cfg hcfg _ w segs _ (fun p hp => (hseg p hp).1)
  apply splitNl_join _ (by simpa using hne)
  intro l hl
  obtain ⟨p, hp, rfl⟩ := List.mem_map.mp hl
  intro e
  rcases List.mem_append.mp e with e | e
  · rcases (hseg p hp).1 with ⟨h, _⟩ | ⟨h, _⟩
    · rw [h] at e; exact absurd (List.eq_of_mem_replicate e) (by decide)
    · rw [h] at e; simp at e
  · exact (hseg p hp).2 e

/-! ### instances -/

section Examples

/-- `split("\n")`: a trailing newline gives a last empty line, an empty text one empty line -/
example : Py.splitOn ['\n'] "a\n\nb\n".toList = ["a".toList, [], "b".toList, []] := by decide
example : Py.splitOn ['\n'] [] = [[]] := by decide

/-- `expand_tab` on the engine and the line function -/
example : expandTab exCfg "  \tx\n\ty\n    \tz\na\tb".toList = "      x\n    y\n    \tz\na\tb".toList := by
  rw [expandTab, rx_of_lookup exCfg _ _ expandTabRx_lookup]
  decide +kernel
example : subLines expandTab4 "  \tx\n\ty\n    \tz\na\tb".toList = "      x\n    y\n    \tz\na\tb".toList := by
  decide +kernel

/-- **anchoring**: a lazy line is copied, its interior double blank included (an unanchored
`replace("  ", "", 1)` would give `"betagamma"`, see above) -/
example : cleanLine 2 "beta  gamma".toList = "beta  gamma".toList := by decide

/-- an indented line: only the two leading blanks go -/
example : cleanLine 2 "  beta  gamma".toList = "beta  gamma".toList := by decide

/-- more blanks than `w`: exactly `w` are removed -/
example : cleanLine 2 "     x".toList = "   x".toList := by decide

/-- fewer blanks than `w`: nothing is removed -/
example : cleanLine 3 "  x".toList = "  x".toList := by decide

/-- a tab right after the indent, or after at most three further blanks, becomes four blanks (whatever the column) -/
example : cleanLine 2 "  \tx".toList = "    x".toList := by decide
example : cleanLine 2 "   \tx".toList = "     x".toList := by decide
example : cleanLine 2 "     \tx\ty".toList = "       x\ty".toList := by decide

/-- after four further blanks the tab stays; a tab inside the `w` columns is not an indent -/
example : cleanLine 2 "      \tx".toList = "    \tx".toList := by decide
example : cleanLine 2 " \tx".toList = " \tx".toList := by decide

/-- `w = 0`: every line "starts with" the empty string; `replace("", "", 1)` is the identity; only `expand_tab` acts -/
example : cleanLine 0 "\tx  y".toList = "    x  y".toList := by decide
example : cleanLine 0 "x  y".toList = "x  y".toList := by decide

/-- the model (regex on the engine), evaluated by the kernel: indented line, empty line, indented line with a tab, lazy
line with interior blanks, line with three blanks -/
example : cleanListItemText exCfg "  a\n\n  \tb\nlazy  c\n   d  e\n".toList 2 =
    "a\n\n    b\nlazy  c\n d  e\n".toList := by
  simp only [cleanListItemText, expandTab, rx_of_lookup exCfg _ _ expandTabRx_lookup]
  decide +kernel

example : cleanListItemText exCfg "  a\n\n  \tb\nlazy  c\n   d  e\n".toList 2 =
    subLines (cleanLine 2) "  a\n\n  \tb\nlazy  c\n   d  e\n".toList :=
  cleanListItemText_eq_subLines exCfg rfl _ _

/-- `clean_verbatim` on a text without tab heads: indented lines lose their two blanks, the others are copied -/
example : cleanListItemText exCfg "  a  b\n\n lazy  c\n    d\te\n".toList 2 = "a  b\n\n lazy  c\n  d\te\n".toList :=
  (clean_verbatim exCfg rfl _ 2
    [("  ".toList, "a  b".toList), ([], []), ([], " lazy  c".toList), ("  ".toList, "  d\te".toList), ([], [])]
    (by decide +kernel) (by decide +kernel)).trans (by decide +kernel)

/-- outside the hypothesis of `clean_verbatim` (tab head after the indent) the line is not verbatim, but (a) holds -/
example : cleanListItemText exCfg "  \tb".toList 2 = "    b".toList ∧
    ("    b".toList).filter notBlank = ("  \tb".toList).filter notBlank := by
  rw [cleanListItemText_eq_subLines exCfg rfl]
  decide +kernel

end Examples

end Mistune
