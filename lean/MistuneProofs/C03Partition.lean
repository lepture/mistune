/-
C03 (loop level): the two scanner loops PARTITION the source.

From the events a loop run returns (and the start cursor) we rebuild, in order, the *pieces* of source text the
Python loop hands on:

* the hole `[prevCursor, e.start)` before a match (block: `add_paragraph(get_text(end_pos))`, inline:
  `process_text(src[pos:end_pos])`) -- only when it is non-empty (`if end_pos > cursor`),
* the consumed piece `[e.start, e.cursor)` of the iteration: `handled rule` when the handler returned a (truthy)
  position, `declined rule` when it returned `None`/`0` (block: paragraph text up to the line end, inline: a
  one-character text piece),
* the tail `[lastCursor, x.n)` after the loop -- only when it is non-empty (`if state.cursor < cursor_max`,
  `elif pos < len(src)`).

Theorems (ANY subject, ANY consuming rule table, ANY handler table with the progress contract):
tiling (consecutive, non-empty, from the start cursor to the end), concatenation (the slices of the pieces
concatenate to the slice of the source), holes and tail are unclaimed (no rule matches at any position inside),
and the kinds are faithful (a declined piece ends at the line end / one character later, a handled piece ends
where the handler said).
-/
import Mistune.Scanner
import Mistune.Py
import MistuneProofs.C01Loops
namespace Mistune

/-! ### Pieces -/

inductive PieceKind where
  | hole
  | handled (rule : String)
  | declined (rule : String)
  | tail
  deriving Repr, DecidableEq

/-- a half-open span `[lo, hi)` of the source together with what the loop does with it -/
structure Piece where
  kind : PieceKind
  lo : Nat
  hi : Nat
  deriving Repr, DecidableEq

/-- `if end_pos2:` -- the handler's return value is truthy (`None` and `0` are falsy) -/
def ScanEvent.accepted (e : ScanEvent) : Bool :=
  match e.ret with
  | some r => r != 0
  | none => false

/-- the piece the iteration itself consumes -/
def ScanEvent.piece (e : ScanEvent) : Piece :=
  { kind := if e.accepted then .handled e.rule else .declined e.rule, lo := e.start, hi := e.cursor }

/-- the pieces of one iteration that started with the cursor at `prev`: the hole (if non-empty), then the
consumed piece -/
def eventPieces (prev : Nat) (e : ScanEvent) : List Piece :=
  (if prev < e.start then [{ kind := .hole, lo := prev, hi := e.start }] else []) ++ [e.piece]

/-- all pieces of a run over a source of effective length `n` that started at `cur` and produced `evs` -/
def piecesFrom (n : Nat) : Nat → List ScanEvent → List Piece
  | cur, [] => if cur < n then [{ kind := .tail, lo := cur, hi := n }] else []
  | cur, e :: rest => eventPieces cur e ++ piecesFrom n e.cursor rest

/-- the cursor after the last event (`cur` if there is none) -/
def lastCursor : Nat → List ScanEvent → Nat
  | cur, [] => cur
  | _, e :: rest => lastCursor e.cursor rest

/-- `Tiling a ps b`: the pieces are non-empty, the first starts at `a`, each next one starts where the previous
one ended, the last ends at `b` (`a = b` when there is no piece). -/
def Tiling : Nat → List Piece → Nat → Prop
  | a, [], b => a = b
  | a, p :: ps, b => p.lo = a ∧ p.lo < p.hi ∧ Tiling p.hi ps b

/-- the text of the pieces -/
def pieceTexts (s : Array Char) (ps : List Piece) : List Str := ps.map (fun p => Py.slice s p.lo p.hi)

/-- Handlers never return a position beyond the effective end of the source (for matches inside it). -/
def HandlersBounded (x : RxCtx) (h : HandlerRet) : Prop :=
  ∀ name mt e, mt.stop ≤ x.n → h name mt = some e → e ≤ x.n

/-! ### Tilings -/

theorem Tiling.le : ∀ {a : Nat} {ps : List Piece} {b : Nat}, Tiling a ps b → a ≤ b
  | _, [], _, h => by simp only [Tiling] at h; omega
  | _, p :: ps, _, h => by
    obtain ⟨h1, h2, h3⟩ := h
    have := Tiling.le h3
    omega

theorem Tiling.append : ∀ {a : Nat} {ps : List Piece} {b : Nat} {qs : List Piece} {c : Nat},
    Tiling a ps b → Tiling b qs c → Tiling a (ps ++ qs) c
  | _, [], _, _, _, h1, h2 => by simp only [Tiling] at h1; subst h1; simpa using h2
  | _, p :: ps, _, _, _, h1, h2 => by
    obtain ⟨e1, e2, e3⟩ := h1
    exact ⟨e1, e2, Tiling.append e3 h2⟩

/-- every piece of a tiling lies inside the tiled interval and is non-empty (so `lo ≤ hi` in particular) -/
theorem Tiling.mem_bounds : ∀ {a : Nat} {ps : List Piece} {b : Nat}, Tiling a ps b →
    ∀ p ∈ ps, a ≤ p.lo ∧ p.lo < p.hi ∧ p.hi ≤ b
  | _, [], _, _, p, hp => by simp at hp
  | _, p0 :: ps, _, h, p, hp => by
    obtain ⟨e1, e2, e3⟩ := h
    rcases List.mem_cons.1 hp with hp | hp
    · subst hp
      have := Tiling.le e3
      omega
    · have := Tiling.mem_bounds e3 p hp
      omega

/-- two different positions of a tiling hold disjoint pieces, the earlier one entirely before the later one -/
theorem Tiling.ordered : ∀ {a : Nat} {ps : List Piece} {b : Nat}, Tiling a ps b →
    ∀ i j (hi : i < ps.length) (hj : j < ps.length), i < j → (ps[i]).hi ≤ (ps[j]).lo
  | _, [], _, _, i, j, hi, _, _ => by simp at hi
  | _, p0 :: ps, _, h, i, j, hi, hj, hij => by
    obtain ⟨e1, e2, e3⟩ := h
    match i, j, hij with
    | 0, j + 1, _ =>
      simp only [List.getElem_cons_zero, List.getElem_cons_succ]
      have hj' : j < ps.length := by simpa using hj
      exact (Tiling.mem_bounds e3 _ (List.getElem_mem hj')).1
    | i + 1, j + 1, hij =>
      simp only [List.getElem_cons_succ]
      exact Tiling.ordered e3 i j (by simpa using hi) (by simpa using hj) (by omega)

theorem slice_append (s : Array Char) (i j k : Nat) (h1 : i ≤ j) (h2 : j ≤ k) :
    Py.slice s i j ++ Py.slice s j k = Py.slice s i k := by
  unfold Py.slice
  rw [← Array.toList_append, Array.extract_append_extract, Nat.min_eq_left h1, Nat.max_eq_right h2]

theorem slice_self (s : Array Char) (i : Nat) : Py.slice s i i = [] := by
  unfold Py.slice
  simp

/-- slicing stops at the end of the array -/
theorem slice_clamp (s : Array Char) (i j : Nat) (h : s.size ≤ j) : Py.slice s i j = Py.slice s i s.size := by
  unfold Py.slice
  congr 1
  apply Array.ext'
  simp only [Array.toList_extract, List.extract_eq_take_drop]
  rw [List.take_of_length_le (by simp; omega), List.take_of_length_le (by simp)]

/-- the texts of a tiling concatenate to the slice of the tiled interval -/
theorem Tiling.concat (s : Array Char) : ∀ {a : Nat} {ps : List Piece} {b : Nat}, Tiling a ps b →
    (pieceTexts s ps).flatten = Py.slice s a b
  | _, [], _, h => by
    simp only [Tiling] at h
    subst h
    simp [pieceTexts, slice_self]
  | _, p :: ps, _, h => by
    obtain ⟨e1, e2, e3⟩ := h
    have ih := Tiling.concat s e3
    have hle := Tiling.le e3
    simp only [pieceTexts] at ih
    simp only [pieceTexts, List.map_cons, List.flatten_cons, ih]
    subst e1
    exact slice_append s _ _ _ (by omega) hle

/-- ... and to the slice up to `n`, when the tiling ends at `n` or beyond it but past the end of the array
(slicing clamps) -/
theorem Tiling.concat_to (s : Array Char) {a : Nat} {ps : List Piece} {b n : Nat} (ht : Tiling a ps b)
    (hn : n ≤ b) (hend : b ≤ n ∨ s.size ≤ n) :
    (ps.map (fun p => Py.slice s p.lo p.hi)).flatten = Py.slice s a n := by
  rw [← pieceTexts, ht.concat s]
  rcases hend with hb | hsz
  · rw [Nat.le_antisymm hb hn]
  · rw [slice_clamp s a b (by omega), slice_clamp s a n hsz]

/-! ### Leftmost search of the combined scanner -/

/-- `sc.search(src, pos)` is leftmost: the match it returns is the scanner's answer at its own start, and at no
earlier start position in `[pos, start)` does any rule match. -/
theorem scan_leftmost (x : RxCtx) (rules : List (String × Rx)) (pos : Nat) (name : String) (mt : RxMatch)
    (h : scan x rules pos = some (name, mt)) :
    scanAt x rules mt.start = some (name, mt) ∧ ∀ q, pos ≤ q → q < mt.start → scanAt x rules q = none := by
  unfold scan at h
  obtain ⟨q, _, _, h3, h4⟩ := firstFrom_some (fun _ => rfl) (scanFrom_succ x rules) _ pos _ h
  obtain ⟨r, _, hm⟩ := scanAt_sound x rules q name mt h3
  rw [(matchAt_sound x r q mt hm).1]
  exact ⟨h3, h4⟩

/-- `sc.search(src, pos)` fails only if no rule matches at any start position in `[pos, endpos]`. -/
theorem scan_none (x : RxCtx) (rules : List (String × Rx)) (pos : Nat) (h : scan x rules pos = none) :
    ∀ q, pos ≤ q → q ≤ x.n → scanAt x rules q = none := by
  unfold scan at h
  exact firstFrom_none (scanFrom_succ x rules) _ pos h (by omega)

/-- the combined scanner fails at a position exactly when every rule's regex fails there -/
theorem scanAt_none_iff (x : RxCtx) (rules : List (String × Rx)) (q : Nat) :
    scanAt x rules q = none ↔ ∀ p ∈ rules, p.2.matchAt x q = none := by
  induction rules with
  | nil => simp [scanAt]
  | cons p rest ih =>
    obtain ⟨nm, r⟩ := p
    simp only [scanAt, List.mem_cons, forall_eq_or_imp]
    split
    · rename_i mt hm
      simp [hm]
    · rename_i hm
      simp [hm, ih]

/-! ### What one event says about its iteration -/

/-- the event records a genuine iteration that began with the cursor at `prev`, of a loop that moves to
`dflt start` when the handler declines (block loop: the line end, inline loop: one character on) -/
def LoopStep (x : RxCtx) (rules : List (String × Rx)) (h : HandlerRet) (dflt : Nat → Nat) (prev : Nat)
    (e : ScanEvent) : Prop :=
  ∃ mt, scan x rules prev = some (e.rule, mt) ∧ e.start = mt.start ∧ e.stop = mt.stop ∧
    e.ret = h e.rule mt ∧ e.cursor = nextOr (h e.rule mt) (dflt mt.start)

/-- every event of the list is a genuine iteration, each starting where the previous one left the cursor -/
def StepChain (step : Nat → ScanEvent → Prop) : Nat → List ScanEvent → Prop
  | _, [] => True
  | cur, e :: rest => step cur e ∧ StepChain step e.cursor rest

theorem ScanEvent.ret_of_not_accepted (e : ScanEvent) (h : e.accepted = false) : e.ret = none ∨ e.ret = some 0 := by
  unfold ScanEvent.accepted at h
  split at h
  · rename_i r hr
    simp only [bne_eq_false_iff_eq] at h
    subst h
    exact Or.inr hr
  · rename_i hr
    exact Or.inl hr

theorem nextOr_declined (e : ScanEvent) (hacc : e.accepted = false) (d : Nat) : nextOr e.ret d = d := by
  rcases e.ret_of_not_accepted hacc with hr | hr <;> rw [hr] <;> rfl

theorem nextOr_accepted (e : ScanEvent) (hacc : e.accepted = true) (d : Nat) :
    e.ret = some (nextOr e.ret d) ∧ nextOr e.ret d ≠ 0 := by
  unfold ScanEvent.accepted at hacc
  split at hacc
  · rename_i r hr
    have hne : r ≠ 0 := by simpa using hacc
    simp [hr, nextOr, hne]
  · cases hacc

theorem nextOr_le {x : RxCtx} {h : HandlerRet} (hb : HandlersBounded x h) (name : String) (mt : RxMatch) (d : Nat)
    (hstop : mt.stop ≤ x.n) (hd : d ≤ x.n) : nextOr (h name mt) d ≤ x.n := by
  unfold nextOr
  split
  · rename_i e he
    split
    · exact hd
    · exact hb _ _ _ hstop he
  · exact hd

/-! ### A successful run is a chain of genuine iterations -/

/-- Both loops are instances of one fuel-driven loop, given here by its step equation: scan from the cursor;
without a match stop and return `stop cursor`; with one, move to the handler's answer or else to `dflt start`.
A successful run appends to the events a chain of genuine iterations, and ends because the scanner found nothing
more or because the cursor reached the end. -/
theorem loop_run {x : RxCtx} {rules : List (String × Rx)} {h : HandlerRet} {dflt stop : Nat → Nat}
    {loop : Nat → Nat → List ScanEvent → Except PyErr (List ScanEvent × Nat)}
    (hzero : ∀ cur evs, loop 0 cur evs = .error .noProgress)
    (hsucc : ∀ fuel cur evs, loop (fuel + 1) cur evs =
      if cur < x.n then
        match scan x rules cur with
        | none => .ok (evs, stop cur)
        | some (name, mt) =>
          if nextOr (h name mt) (dflt mt.start) ≤ cur then .error .noProgress
          else loop fuel (nextOr (h name mt) (dflt mt.start))
            (evs ++ [{ rule := name, start := mt.start, stop := mt.stop, ret := h name mt,
                       cursor := nextOr (h name mt) (dflt mt.start) }])
      else .ok (evs, cur)) :
    ∀ fuel cur evs0 evsAll fin, loop fuel cur evs0 = .ok (evsAll, fin) →
      ∃ evs, evsAll = evs0 ++ evs ∧ StepChain (LoopStep x rules h dflt) cur evs ∧
        (lastCursor cur evs < x.n → scan x rules (lastCursor cur evs) = none) ∧
        fin = if lastCursor cur evs < x.n then stop (lastCursor cur evs) else lastCursor cur evs := by
  intro fuel
  induction fuel with
  | zero => intro cur evs0 evsAll fin hrun; rw [hzero] at hrun; cases hrun
  | succ fuel ih =>
    intro cur evs0 evsAll fin hrun
    rw [hsucc] at hrun
    split at hrun
    · rename_i hlt
      split at hrun
      · rename_i hs
        cases hrun
        exact ⟨[], by simp, trivial, fun _ => hs, by rw [lastCursor, if_pos hlt]⟩
      · rename_i name mt hs
        split at hrun
        · cases hrun
        · obtain ⟨evs, e1, e2, e3, e4⟩ := ih _ _ _ _ hrun
          exact ⟨{ rule := name, start := mt.start, stop := mt.stop, ret := h name mt,
                   cursor := nextOr (h name mt) (dflt mt.start) } :: evs,
            by rw [e1]; simp, ⟨⟨mt, hs, rfl, rfl, rfl, rfl⟩, e2⟩, e3, e4⟩
    · rename_i hge
      cases hrun
      exact ⟨[], by simp, trivial, fun hlt => absurd hlt hge, by rw [lastCursor, if_neg hge]⟩

/-- what a successful block-loop run (from an empty event list) says about its events -/
theorem blockLoop_run (x : RxCtx) (rules : List (String × Rx)) (h : HandlerRet) (fuel cursor : Nat)
    (evs : List ScanEvent) (fin : Nat) (hrun : blockLoop x rules h fuel cursor [] = .ok (evs, fin)) :
    StepChain (LoopStep x rules h (lineEnd x)) cursor evs ∧
      (lastCursor cursor evs < x.n → scan x rules (lastCursor cursor evs) = none) ∧
      fin = max x.n (lastCursor cursor evs) := by
  obtain ⟨evs', e1, e2, e3, e4⟩ :=
    loop_run (stop := fun _ => x.n) (fun _ _ => rfl) (blockLoop_succ x rules h) fuel cursor [] evs fin hrun
  rw [List.nil_append] at e1
  subst e1
  exact ⟨e2, e3, by rw [e4]; split <;> omega⟩

theorem inlineLoop_run (x : RxCtx) (rules : List (String × Rx)) (h : HandlerRet) (fuel pos : Nat)
    (evs : List ScanEvent) (fin : Nat) (hrun : inlineLoop x rules h fuel pos [] = .ok (evs, fin)) :
    StepChain (LoopStep x rules h (· + 1)) pos evs ∧
      (lastCursor pos evs < x.n → scan x rules (lastCursor pos evs) = none) ∧
      fin = lastCursor pos evs := by
  obtain ⟨evs', e1, e2, e3, e4⟩ :=
    loop_run (stop := id) (fun _ _ => rfl) (inlineLoop_succ x rules h) fuel pos [] evs fin hrun
  rw [List.nil_append] at e1
  subst e1
  exact ⟨e2, e3, by rw [e4]; split <;> rfl⟩

/-! ### From the chain of iterations to the partition -/

theorem LoopStep.facts {x : RxCtx} {rules : List (String × Rx)} {h : HandlerRet} {dflt : Nat → Nat} {prev : Nat}
    {e : ScanEvent} (hc : ProgressContract h) (hr : rulesConsume rules = true)
    (hd : ∀ s, s < x.n → s < dflt s) (hs : LoopStep x rules h dflt prev e) :
    prev ≤ e.start ∧ e.start < e.cursor ∧ e.start < e.stop ∧ e.stop ≤ x.n := by
  obtain ⟨mt, h1, h2, h3, _, h5⟩ := hs
  obtain ⟨s1, _, s3, _, s5⟩ := scan_sound x rules prev e.rule mt h1
  have s5 := s5 hr
  have := nextOr_gt hc e.rule mt _ (hd mt.start (by omega))
  omega

theorem LoopStep.cursor_le {x : RxCtx} {rules : List (String × Rx)} {h : HandlerRet} {dflt : Nat → Nat} {prev : Nat}
    {e : ScanEvent} (hr : rulesConsume rules = true) (hb : HandlersBounded x h)
    (hd : ∀ s, s < x.n → dflt s ≤ x.n) (hs : LoopStep x rules h dflt prev e) : e.cursor ≤ x.n := by
  obtain ⟨mt, h1, _, _, _, h5⟩ := hs
  obtain ⟨_, _, s3, _, s5⟩ := scan_sound x rules prev e.rule mt h1
  have s5 := s5 hr
  rw [h5]
  exact nextOr_le hb e.rule mt _ s3 (hd mt.start (by omega))

/-- what the event of an iteration says about the match and the handler's answer -/
theorem LoopStep.kind {x : RxCtx} {rules : List (String × Rx)} {h : HandlerRet} {dflt : Nat → Nat} {prev : Nat}
    {e : ScanEvent} (hs : LoopStep x rules h dflt prev e) :
    ∃ mt, scanAt x rules e.start = some (e.rule, mt) ∧ mt.start = e.start ∧
      (e.accepted = true → h e.rule mt = some e.cursor ∧ e.cursor ≠ 0) ∧
      (e.accepted = false → (h e.rule mt = none ∨ h e.rule mt = some 0) ∧ e.cursor = dflt e.start) := by
  obtain ⟨mt, h1, h2, _, h4, h5⟩ := hs
  have hat := (scan_leftmost x rules prev e.rule mt h1).1
  rw [← h4] at h5
  refine ⟨mt, h2 ▸ hat, h2.symm, ?_, ?_⟩
  · rw [← h4, h5]
    exact fun hacc => nextOr_accepted e hacc _
  · rw [← h4, h5, h2]
    exact fun hacc => ⟨e.ret_of_not_accepted hacc, nextOr_declined e hacc _⟩

theorem lineEnd_gt (x : RxCtx) (s : Nat) (h : s < x.n) : s < lineEnd x s := (lineEnd_progress x s h).1
theorem lineEnd_le (x : RxCtx) (s : Nat) (h : s < x.n) : lineEnd x s ≤ x.n := (lineEnd_progress x s h).2

theorem StepChain.eventChain {step : Nat → ScanEvent → Prop} {n : Nat}
    (hstep : ∀ prev e, step prev e → prev ≤ e.start ∧ e.start < e.cursor ∧ e.start < e.stop ∧ e.stop ≤ n) :
    ∀ evs cur, StepChain step cur evs → EventChain cur evs
  | [], _, _ => trivial
  | e :: rest, cur, hch => by
    obtain ⟨h1, h2⟩ := hch
    have := hstep cur e h1
    exact ⟨this.1, this.2.1, by omega, StepChain.eventChain hstep rest e.cursor h2⟩

/-- **Tiling, from the event chain alone**: the pieces rebuilt from a chain of events tile the interval from the
start cursor to `max n lastCursor`. -/
theorem tiling_of_eventChain (n : Nat) : ∀ evs cur, EventChain cur evs →
    Tiling cur (piecesFrom n cur evs) (max n (lastCursor cur evs))
  | [], cur, _ => by
    simp only [piecesFrom, lastCursor]
    split
    · exact ⟨rfl, by simpa using ‹cur < n›, by simp only [Tiling]; omega⟩
    · simp only [Tiling]; omega
  | e :: rest, cur, hch => by
    obtain ⟨h1, h2, _, h4⟩ := hch
    have ih := tiling_of_eventChain n rest e.cursor h4
    simp only [piecesFrom, lastCursor]
    refine Tiling.append (b := e.cursor) ?_ ih
    unfold eventPieces
    split
    · exact ⟨rfl, by simpa using ‹cur < e.start›, rfl, h2, rfl⟩
    · exact ⟨by simp only [ScanEvent.piece]; omega, h2, rfl⟩

theorem EventChain.le_lastCursor : ∀ {evs : List ScanEvent} {cur : Nat}, EventChain cur evs → cur ≤ lastCursor cur evs
  | [], _, _ => Nat.le_refl _
  | e :: _, _, hch => by
    have := EventChain.le_lastCursor hch.2.2.2
    have := hch.1
    have := hch.2.1
    simp only [lastCursor]
    omega

/-- **Tiling of a chain of iterations**, for any default step `dflt` that moves forward: the pieces tile the
interval from the start cursor to `max n lastCursor`, and the cursor never moves backwards. -/
theorem StepChain.tiling {x : RxCtx} {rules : List (String × Rx)} {h : HandlerRet} {dflt : Nat → Nat} {cur : Nat}
    {evs : List ScanEvent} (hc : ProgressContract h) (hr : rulesConsume rules = true)
    (hd : ∀ s, s < x.n → s < dflt s) (hch : StepChain (LoopStep x rules h dflt) cur evs) :
    Tiling cur (piecesFrom x.n cur evs) (max x.n (lastCursor cur evs)) ∧ cur ≤ lastCursor cur evs := by
  have hev := StepChain.eventChain (n := x.n) (fun _ _ hs => hs.facts hc hr hd) evs cur hch
  exact ⟨tiling_of_eventChain x.n evs cur hev, hev.le_lastCursor⟩

/-- where a piece comes from -/
theorem mem_piecesFrom (step : Nat → ScanEvent → Prop) (n : Nat) :
    ∀ evs cur, StepChain step cur evs → ∀ p ∈ piecesFrom n cur evs,
      (p = { kind := .tail, lo := lastCursor cur evs, hi := n } ∧ lastCursor cur evs < n) ∨
      ∃ prev e, step prev e ∧ ((p = { kind := .hole, lo := prev, hi := e.start } ∧ prev < e.start) ∨ p = e.piece)
  | [], cur, _, p, hp => by
    simp only [piecesFrom] at hp
    split at hp
    · simp only [List.mem_singleton] at hp
      exact Or.inl ⟨hp, ‹cur < n›⟩
    · simp at hp
  | e :: rest, cur, hch, p, hp => by
    obtain ⟨h1, h2⟩ := hch
    simp only [piecesFrom, List.mem_append] at hp
    rcases hp with hp | hp
    · right
      refine ⟨cur, e, h1, ?_⟩
      unfold eventPieces at hp
      simp only [List.mem_append, List.mem_singleton] at hp
      rcases hp with hp | hp
      · split at hp
        · simp only [List.mem_singleton] at hp
          exact Or.inl ⟨hp, ‹cur < e.start›⟩
        · simp at hp
      · exact Or.inr hp
    · exact mem_piecesFrom step n rest e.cursor h2 p hp

/-- **Plain text is unclaimed text**: in every hole and in the tail -- the text no rule fired on -- the combined
scanner fails at every start position, i.e. every rule's regex fails. -/
theorem holes_unclaimed (x : RxCtx) (rules : List (String × Rx)) (h : HandlerRet) (dflt : Nat → Nat)
    (cur : Nat) (evs : List ScanEvent) (hch : StepChain (LoopStep x rules h dflt) cur evs)
    (hfin : lastCursor cur evs < x.n → scan x rules (lastCursor cur evs) = none) :
    ∀ p ∈ piecesFrom x.n cur evs, p.kind = .hole ∨ p.kind = .tail →
      ∀ q, p.lo ≤ q → q < p.hi → scanAt x rules q = none ∧ ∀ r ∈ rules, r.2.matchAt x q = none := by
  intro p hp hk q h1 h2
  have hnone : scanAt x rules q = none := by
    rcases mem_piecesFrom _ x.n evs cur hch p hp with ⟨rfl, hlt⟩ | ⟨prev, e, hs, ⟨rfl, _⟩ | rfl⟩
    · exact scan_none x rules _ (hfin hlt) q h1 (by simp only at h2; omega)
    · obtain ⟨mt, hscan, hst, _⟩ := hs
      exact (scan_leftmost x rules prev e.rule mt hscan).2 q h1 (by simp only at h2; omega)
    · unfold ScanEvent.piece at hk
      split at hk <;> simp at hk
  exact ⟨hnone, (scanAt_none_iff x rules q).1 hnone⟩

/-- what the kind of a piece means, for a loop whose declined iterations move to `dflt start`; `BlockPieceOK` and
`InlinePieceOK` below are this at `dflt = lineEnd x` and `dflt = (· + 1)`, written out (definitionally equal, which
is how `blockLoop_kinds` and `inlineLoop_kinds` follow from `StepChain.kinds`) -/
def PieceOK (x : RxCtx) (rules : List (String × Rx)) (h : HandlerRet) (dflt : Nat → Nat) (p : Piece) : Prop :=
  match p.kind with
  | .handled name => ∃ mt, scanAt x rules p.lo = some (name, mt) ∧ mt.start = p.lo ∧
      h name mt = some p.hi ∧ p.hi ≠ 0
  | .declined name => ∃ mt, scanAt x rules p.lo = some (name, mt) ∧ mt.start = p.lo ∧
      (h name mt = none ∨ h name mt = some 0) ∧ p.hi = dflt p.lo
  | .hole => True
  | .tail => p.hi = x.n

/-- what the kind of a block-loop piece means -/
def BlockPieceOK (x : RxCtx) (rules : List (String × Rx)) (h : HandlerRet) (p : Piece) : Prop :=
  match p.kind with
  | .handled name => ∃ mt, scanAt x rules p.lo = some (name, mt) ∧ mt.start = p.lo ∧
      h name mt = some p.hi ∧ p.hi ≠ 0
  | .declined name => ∃ mt, scanAt x rules p.lo = some (name, mt) ∧ mt.start = p.lo ∧
      (h name mt = none ∨ h name mt = some 0) ∧ p.hi = lineEnd x p.lo
  | .hole => True
  | .tail => p.hi = x.n

/-- what the kind of an inline-loop piece means -/
def InlinePieceOK (x : RxCtx) (rules : List (String × Rx)) (h : HandlerRet) (p : Piece) : Prop :=
  match p.kind with
  | .handled name => ∃ mt, scanAt x rules p.lo = some (name, mt) ∧ mt.start = p.lo ∧
      h name mt = some p.hi ∧ p.hi ≠ 0
  | .declined name => ∃ mt, scanAt x rules p.lo = some (name, mt) ∧ mt.start = p.lo ∧
      (h name mt = none ∨ h name mt = some 0) ∧ p.hi = p.lo + 1
  | .hole => True
  | .tail => p.hi = x.n

/-- **Kinds are faithful**, for every chain of iterations. -/
theorem StepChain.kinds {x : RxCtx} {rules : List (String × Rx)} {h : HandlerRet} {dflt : Nat → Nat} {cur : Nat}
    {evs : List ScanEvent} (hch : StepChain (LoopStep x rules h dflt) cur evs) :
    ∀ p ∈ piecesFrom x.n cur evs, PieceOK x rules h dflt p := by
  intro p hp
  rcases mem_piecesFrom _ x.n evs cur hch p hp with ⟨rfl, _⟩ | ⟨prev, e, hs, ⟨rfl, _⟩ | rfl⟩
  · simp [PieceOK]
  · simp [PieceOK]
  · obtain ⟨mt, h1, h2, hyes, hno⟩ := hs.kind
    unfold PieceOK ScanEvent.piece
    cases hacc : e.accepted
    · exact ⟨mt, h1, h2, hno hacc⟩
    · exact ⟨mt, h1, h2, hyes hacc⟩

/-- when no iteration moves the cursor beyond `n`, the cursor never leaves `[0, n]` -/
theorem StepChain.lastCursor_le {step : Nat → ScanEvent → Prop} {n : Nat}
    (hstep : ∀ prev e, step prev e → e.cursor ≤ n) :
    ∀ evs cur, cur ≤ n → StepChain step cur evs → lastCursor cur evs ≤ n
  | [], _, hcur, _ => hcur
  | e :: rest, cur, _, hch => StepChain.lastCursor_le hstep rest e.cursor (hstep cur e hch.1) hch.2

/-! ### C03 at loop level: the block loop -/

/-- **C03 tiling (block loop).**  For ANY successful run of the block loop: the pieces rebuilt from its events are
non-empty, consecutive (each starts where the previous one ended), start at the initial cursor and end at the
final cursor `fin`, which is at or beyond the end of the source -- and is exactly the end `x.n` when no handler
returns a position beyond it.  (A handler that returns `e > x.n` ends the loop with `fin = e`: the last
`handled` piece then sticks out of the source; see the counterexample below.) -/
theorem blockLoop_partition (x : RxCtx) (rules : List (String × Rx)) (h : HandlerRet)
    (hc : ProgressContract h) (hr : rulesConsume rules = true) (fuel cursor : Nat)
    (evs : List ScanEvent) (fin : Nat) (hrun : blockLoop x rules h fuel cursor [] = .ok (evs, fin)) :
    Tiling cursor (piecesFrom x.n cursor evs) fin ∧ x.n ≤ fin ∧
      (HandlersBounded x h → cursor ≤ x.n → fin = x.n) := by
  obtain ⟨hch, _, rfl⟩ := blockLoop_run x rules h fuel cursor evs fin hrun
  refine ⟨(hch.tiling hc hr (lineEnd_gt x)).1, Nat.le_max_left _ _, fun hb hcur => Nat.max_eq_left ?_⟩
  exact StepChain.lastCursor_le (fun _ _ hs => hs.cursor_le hr hb (lineEnd_le x)) evs cursor hcur hch

/-- every piece lies inside `[cursor₀, fin]`, has `lo < hi`, and pieces at different positions are disjoint and
in source order -/
theorem blockLoop_partition_disjoint (x : RxCtx) (rules : List (String × Rx)) (h : HandlerRet)
    (hc : ProgressContract h) (hr : rulesConsume rules = true) (fuel cursor : Nat)
    (evs : List ScanEvent) (fin : Nat) (hrun : blockLoop x rules h fuel cursor [] = .ok (evs, fin)) :
    (∀ p ∈ piecesFrom x.n cursor evs, cursor ≤ p.lo ∧ p.lo < p.hi ∧ p.hi ≤ fin) ∧
    ∀ i j (hi : i < (piecesFrom x.n cursor evs).length) (hj : j < (piecesFrom x.n cursor evs).length), i < j →
      ((piecesFrom x.n cursor evs)[i]).hi ≤ ((piecesFrom x.n cursor evs)[j]).lo := by
  have ht := (blockLoop_partition x rules h hc hr fuel cursor evs fin hrun).1
  exact ⟨ht.mem_bounds, ht.ordered⟩

/-- **C03 concatenation (block loop).**  Every character of `[cursor₀, x.n)` is in exactly one piece, in order:
the texts of the pieces concatenate to `src[cursor₀ : n]`.  Needs that the run ends at the end of the text:
either no handler returns a position beyond `x.n`, or `x.n` is the end of the subject array (no `endpos` in
the middle of the string -- the case of every mistune call) so that slicing clamps. -/
theorem blockLoop_partition_concat (x : RxCtx) (rules : List (String × Rx)) (h : HandlerRet)
    (hc : ProgressContract h) (hr : rulesConsume rules = true) (fuel cursor : Nat) (hcur : cursor ≤ x.n)
    (hend : HandlersBounded x h ∨ x.s.size ≤ x.n)
    (evs : List ScanEvent) (fin : Nat) (hrun : blockLoop x rules h fuel cursor [] = .ok (evs, fin)) :
    ((piecesFrom x.n cursor evs).map (fun p => Py.slice x.s p.lo p.hi)).flatten = Py.slice x.s cursor x.n := by
  obtain ⟨t1, t2, t3⟩ := blockLoop_partition x rules h hc hr fuel cursor evs fin hrun
  exact t1.concat_to x.s t2 (hend.imp (fun hb => Nat.le_of_eq (t3 hb hcur)) id)

/-- **C03 holes are unclaimed (block loop).**  The holes and the tail are the text that becomes a paragraph. -/
theorem blockLoop_holes_unclaimed (x : RxCtx) (rules : List (String × Rx)) (h : HandlerRet) (fuel cursor : Nat)
    (evs : List ScanEvent) (fin : Nat) (hrun : blockLoop x rules h fuel cursor [] = .ok (evs, fin)) :
    ∀ p ∈ piecesFrom x.n cursor evs, p.kind = .hole ∨ p.kind = .tail →
      ∀ q, p.lo ≤ q → q < p.hi → scanAt x rules q = none ∧ ∀ r ∈ rules, r.2.matchAt x q = none := by
  obtain ⟨hch, hfin, _⟩ := blockLoop_run x rules h fuel cursor evs fin hrun
  exact holes_unclaimed x rules h _ cursor evs hch hfin

/-- **C03 kinds are faithful (block loop).**  A `handled r` piece starts at a match of rule `r` (the scanner's
answer at that position) and ends where the handler said; a `declined r` piece starts at a match of rule `r`
whose handler returned `None`/`0` and ends at the line end (`find_line_end`); the tail ends at `x.n`. -/
theorem blockLoop_kinds (x : RxCtx) (rules : List (String × Rx)) (h : HandlerRet) (fuel cursor : Nat)
    (evs : List ScanEvent) (fin : Nat) (hrun : blockLoop x rules h fuel cursor [] = .ok (evs, fin)) :
    ∀ p ∈ piecesFrom x.n cursor evs, BlockPieceOK x rules h p :=
  (blockLoop_run x rules h fuel cursor evs fin hrun).1.kinds

/-- **C03 (block loop), with totality**: under the hypotheses of `blockLoop_total` the run exists and its pieces
partition the source. -/
theorem blockLoop_partition_total (x : RxCtx) (rules : List (String × Rx)) (h : HandlerRet)
    (hc : ProgressContract h) (hr : rulesConsume rules = true) (cursor : Nat) (hcur : cursor ≤ x.n) :
    ∃ evs fin, blockLoop x rules h (x.n + 1 - cursor) cursor [] = .ok (evs, fin) ∧
      Tiling cursor (piecesFrom x.n cursor evs) fin ∧ x.n ≤ fin ∧ (HandlersBounded x h → fin = x.n) ∧
      ((piecesFrom x.n cursor evs).map (fun p => Py.slice x.s p.lo p.hi)).flatten = Py.slice x.s cursor fin ∧
      (HandlersBounded x h ∨ x.s.size ≤ x.n →
        ((piecesFrom x.n cursor evs).map (fun p => Py.slice x.s p.lo p.hi)).flatten = Py.slice x.s cursor x.n) ∧
      (∀ p ∈ piecesFrom x.n cursor evs, p.kind = .hole ∨ p.kind = .tail →
        ∀ q, p.lo ≤ q → q < p.hi → scanAt x rules q = none ∧ ∀ r ∈ rules, r.2.matchAt x q = none) ∧
      (∀ p ∈ piecesFrom x.n cursor evs, BlockPieceOK x rules h p) := by
  obtain ⟨evs, fin, hrun, _, _⟩ := blockLoop_total x rules h hc hr cursor hcur
  obtain ⟨t1, t2, t3⟩ := blockLoop_partition x rules h hc hr _ cursor evs fin hrun
  exact ⟨evs, fin, hrun, t1, t2, fun hb => t3 hb hcur, t1.concat x.s,
    fun hend => blockLoop_partition_concat x rules h hc hr _ cursor hcur hend evs fin hrun,
    blockLoop_holes_unclaimed x rules h _ cursor evs fin hrun,
    blockLoop_kinds x rules h _ cursor evs fin hrun⟩

/-! ### C03 at loop level: the inline loop -/

/-- **C03 tiling (inline loop).**  For ANY successful run of the inline loop (which returns the final position
`fin`, possibly before the end when the scanner found nothing more): the pieces -- including the tail
`[fin, x.n)` that `process_text(src[pos:])` emits -- are non-empty, consecutive, start at the initial position and
end at `max x.n fin`, which is `x.n` when no handler returns a position beyond it. -/
theorem inlineLoop_partition (x : RxCtx) (rules : List (String × Rx)) (h : HandlerRet)
    (hc : ProgressContract h) (hr : rulesConsume rules = true) (fuel pos : Nat)
    (evs : List ScanEvent) (fin : Nat) (hrun : inlineLoop x rules h fuel pos [] = .ok (evs, fin)) :
    Tiling pos (piecesFrom x.n pos evs) (max x.n fin) ∧ pos ≤ fin ∧
      (HandlersBounded x h → pos ≤ x.n → fin ≤ x.n) := by
  obtain ⟨hch, _, rfl⟩ := inlineLoop_run x rules h fuel pos evs fin hrun
  obtain ⟨ht, hle⟩ := hch.tiling hc hr (fun s _ => Nat.lt_succ_self s)
  exact ⟨ht, hle, fun hb hpos =>
    StepChain.lastCursor_le (fun _ _ hs => hs.cursor_le hr hb (fun _ hs => hs)) evs pos hpos hch⟩

theorem inlineLoop_partition_disjoint (x : RxCtx) (rules : List (String × Rx)) (h : HandlerRet)
    (hc : ProgressContract h) (hr : rulesConsume rules = true) (fuel pos : Nat)
    (evs : List ScanEvent) (fin : Nat) (hrun : inlineLoop x rules h fuel pos [] = .ok (evs, fin)) :
    (∀ p ∈ piecesFrom x.n pos evs, pos ≤ p.lo ∧ p.lo < p.hi ∧ p.hi ≤ max x.n fin) ∧
    ∀ i j (hi : i < (piecesFrom x.n pos evs).length) (hj : j < (piecesFrom x.n pos evs).length), i < j →
      ((piecesFrom x.n pos evs)[i]).hi ≤ ((piecesFrom x.n pos evs)[j]).lo := by
  have ht := (inlineLoop_partition x rules h hc hr fuel pos evs fin hrun).1
  exact ⟨ht.mem_bounds, ht.ordered⟩

/-- **C03 concatenation (inline loop).**  The texts of the pieces concatenate to `src[pos₀ : n]`. -/
theorem inlineLoop_partition_concat (x : RxCtx) (rules : List (String × Rx)) (h : HandlerRet)
    (hc : ProgressContract h) (hr : rulesConsume rules = true) (fuel pos : Nat) (hpos : pos ≤ x.n)
    (hend : HandlersBounded x h ∨ x.s.size ≤ x.n)
    (evs : List ScanEvent) (fin : Nat) (hrun : inlineLoop x rules h fuel pos [] = .ok (evs, fin)) :
    ((piecesFrom x.n pos evs).map (fun p => Py.slice x.s p.lo p.hi)).flatten = Py.slice x.s pos x.n := by
  obtain ⟨t1, _, t3⟩ := inlineLoop_partition x rules h hc hr fuel pos evs fin hrun
  exact t1.concat_to x.s (Nat.le_max_left _ _)
    (hend.imp (fun hb => Nat.max_le.2 ⟨Nat.le_refl _, t3 hb hpos⟩) id)

/-- **C03 holes are unclaimed (inline loop).** -/
theorem inlineLoop_holes_unclaimed (x : RxCtx) (rules : List (String × Rx)) (h : HandlerRet) (fuel pos : Nat)
    (evs : List ScanEvent) (fin : Nat) (hrun : inlineLoop x rules h fuel pos [] = .ok (evs, fin)) :
    ∀ p ∈ piecesFrom x.n pos evs, p.kind = .hole ∨ p.kind = .tail →
      ∀ q, p.lo ≤ q → q < p.hi → scanAt x rules q = none ∧ ∀ r ∈ rules, r.2.matchAt x q = none := by
  obtain ⟨hch, hfin, _⟩ := inlineLoop_run x rules h fuel pos evs fin hrun
  exact holes_unclaimed x rules h _ pos evs hch hfin

/-- **C03 kinds are faithful (inline loop).**  A `declined r` piece is exactly one character long. -/
theorem inlineLoop_kinds (x : RxCtx) (rules : List (String × Rx)) (h : HandlerRet) (fuel pos : Nat)
    (evs : List ScanEvent) (fin : Nat) (hrun : inlineLoop x rules h fuel pos [] = .ok (evs, fin)) :
    ∀ p ∈ piecesFrom x.n pos evs, InlinePieceOK x rules h p :=
  (inlineLoop_run x rules h fuel pos evs fin hrun).1.kinds

/-- **C03 (inline loop), with totality.** -/
theorem inlineLoop_partition_total (x : RxCtx) (rules : List (String × Rx)) (h : HandlerRet)
    (hc : ProgressContract h) (hr : rulesConsume rules = true) (pos : Nat) (hpos : pos ≤ x.n) :
    ∃ evs fin, inlineLoop x rules h (x.n + 1 - pos) pos [] = .ok (evs, fin) ∧
      Tiling pos (piecesFrom x.n pos evs) (max x.n fin) ∧ pos ≤ fin ∧ (HandlersBounded x h → fin ≤ x.n) ∧
      ((piecesFrom x.n pos evs).map (fun p => Py.slice x.s p.lo p.hi)).flatten
        = Py.slice x.s pos (max x.n fin) ∧
      (HandlersBounded x h ∨ x.s.size ≤ x.n →
        ((piecesFrom x.n pos evs).map (fun p => Py.slice x.s p.lo p.hi)).flatten = Py.slice x.s pos x.n) ∧
      (∀ p ∈ piecesFrom x.n pos evs, p.kind = .hole ∨ p.kind = .tail →
        ∀ q, p.lo ≤ q → q < p.hi → scanAt x rules q = none ∧ ∀ r ∈ rules, r.2.matchAt x q = none) ∧
      (∀ p ∈ piecesFrom x.n pos evs, InlinePieceOK x rules h p) := by
  obtain ⟨evs, fin, hrun, _, _⟩ := inlineLoop_total x rules h hc hr pos hpos
  obtain ⟨t1, t2, t3⟩ := inlineLoop_partition x rules h hc hr _ pos evs fin hrun
  exact ⟨evs, fin, hrun, t1, t2, fun hb => t3 hb hpos, t1.concat x.s,
    fun hend => inlineLoop_partition_concat x rules h hc hr _ pos hpos hend evs fin hrun,
    inlineLoop_holes_unclaimed x rules h _ pos evs fin hrun,
    inlineLoop_kinds x rules h _ pos evs fin hrun⟩

/-! ### Concrete runs -/

namespace C03Example

/-- two one-character rules: `*` and `_` -/
def rules : List (String × Rx) := [("star", .cls false [.chr 42]), ("us", .cls false [.chr 95])]
/-- the `star` handler accepts its match and returns the position `far` characters after its start, every
other handler declines -/
def handlers (far : Nat) : HandlerRet := fun name mt => if name = "star" then some (mt.start + far) else none
def subject : RxCtx := Py.ctxOf "a_b\nc*d".toList

theorem rules_consume : rulesConsume rules = true := by decide +kernel
theorem handlers_contract (far : Nat) (hfar : 0 < far) : ProgressContract (handlers far) := by
  intro name mt e he _
  unfold handlers at he
  split at he
  · cases he; omega
  · cases he

/-- block loop on `a_b\nc*d`: the declined `_` takes the rest of its line, `*` is handled -/
example : blockLoop subject rules (handlers 1) 8 0 [] =
    .ok ([⟨"us", 1, 2, none, 4⟩, ⟨"star", 5, 6, some 6, 6⟩], 7) := by rfl
example : piecesFrom subject.n 0 [⟨"us", 1, 2, none, 4⟩, ⟨"star", 5, 6, some 6, 6⟩] =
    [⟨.hole, 0, 1⟩, ⟨.declined "us", 1, 4⟩, ⟨.hole, 4, 5⟩, ⟨.handled "star", 5, 6⟩, ⟨.tail, 6, 7⟩] := by decide +kernel
example : pieceTexts subject.s (piecesFrom subject.n 0 [⟨"us", 1, 2, none, 4⟩, ⟨"star", 5, 6, some 6, 6⟩]) =
    ["a".toList, "_b\n".toList, "c".toList, "*".toList, "d".toList] := by decide +kernel

/-- inline loop on the same subject: the declined `_` is a one-character piece, the loop stops at 6 and the
tail `[6, 7)` is emitted after it -/
example : inlineLoop subject rules (handlers 1) 8 0 [] =
    .ok ([⟨"us", 1, 2, none, 2⟩, ⟨"star", 5, 6, some 6, 6⟩], 6) := by rfl
example : piecesFrom subject.n 0 [⟨"us", 1, 2, none, 2⟩, ⟨"star", 5, 6, some 6, 6⟩] =
    [⟨.hole, 0, 1⟩, ⟨.declined "us", 1, 2⟩, ⟨.hole, 2, 5⟩, ⟨.handled "star", 5, 6⟩, ⟨.tail, 6, 7⟩] := by decide +kernel
example : pieceTexts subject.s (piecesFrom subject.n 0 [⟨"us", 1, 2, none, 2⟩, ⟨"star", 5, 6, some 6, 6⟩]) =
    ["a".toList, "_".toList, "b\nc".toList, "*".toList, "d".toList] := by decide +kernel

/-- the generic theorem instantiated on the concrete tables -/
example : ∃ evs fin, blockLoop subject rules (handlers 1) (subject.n + 1 - 0) 0 [] = .ok (evs, fin) ∧
    Tiling 0 (piecesFrom subject.n 0 evs) fin ∧
    ((piecesFrom subject.n 0 evs).map (fun p => Py.slice subject.s p.lo p.hi)).flatten
      = Py.slice subject.s 0 subject.n := by
  obtain ⟨evs, fin, h1, h2, _, _, _, h6, _⟩ :=
    blockLoop_partition_total subject rules (handlers 1) (handlers_contract 1 (by omega)) rules_consume 0
      (Nat.zero_le _)
  exact ⟨evs, fin, h1, h2, h6 (Or.inr (by decide))⟩

/-! #### Counterexamples: why `HandlersBounded` / `x.s.size ≤ x.n` are needed

A handler may return a position beyond `x.n` (the progress contract only bounds it from below).  The loop then
exits with that cursor, the last `handled` piece sticks out of `[cursor₀, x.n)`:

* "the last piece ends at `x.n`" is false (subject `ab*c`, `n = 4`, handler returns `start + 100`): the run ends
  at 102.  The concatenation is still `src[0:4]` because slicing clamps at the end of the string.
* with `endpos` in the middle of the string (subject `ab*cdef`, `n = 4`, handler returns `start + 4 = 6`) even the
  concatenation `= src[0:n]` is false: the pieces spell `ab*cde`, not `ab*c`. -/

def short : RxCtx := Py.ctxOf "ab*c".toList
example : handlers 100 "star" ⟨2, 3, []⟩ = some 102 := by rfl   -- not bounded by `short.n = 4`
example : blockLoop short rules (handlers 100) 5 0 [] = .ok ([⟨"star", 2, 3, some 102, 102⟩], 102) := by rfl
example : piecesFrom short.n 0 [⟨"star", 2, 3, some 102, 102⟩] = [⟨.hole, 0, 2⟩, ⟨.handled "star", 2, 102⟩] := by
  decide +kernel
example : (pieceTexts short.s (piecesFrom short.n 0 [⟨"star", 2, 3, some 102, 102⟩])).flatten = "ab*c".toList := by
  decide +kernel

def cut : RxCtx := mkCtx "ab*cdef".toList 4
example : cut.n = 4 ∧ cut.s.size = 7 := by decide +kernel
example : blockLoop cut rules (handlers 4) 5 0 [] = .ok ([⟨"star", 2, 3, some 6, 6⟩], 6) := by rfl
example : inlineLoop cut rules (handlers 4) 5 0 [] = .ok ([⟨"star", 2, 3, some 6, 6⟩], 6) := by rfl
example : (pieceTexts cut.s (piecesFrom cut.n 0 [⟨"star", 2, 3, some 6, 6⟩])).flatten = "ab*cde".toList ∧
    Py.slice cut.s 0 cut.n = "ab*c".toList := by decide +kernel

/-! `rulesConsume` is needed as well: with a rule that matches the empty string only at the end (`$`), declined,
the block loop makes an EMPTY piece `[4, 4)` (so pieces are no longer non-empty) and the inline loop makes the
piece `[4, 5)` beyond the end of the source and ends at 5 (Python: `src[4:5] = ''`, harmless there). -/
def endRule : List (String × Rx) := [("end", .eos)]
example : rulesConsume endRule = false := by decide +kernel
example : blockLoop short endRule (handlers 1) 5 0 [] = .ok ([⟨"end", 4, 4, none, 4⟩], 4) := by rfl
example : inlineLoop short endRule (handlers 1) 5 0 [] = .ok ([⟨"end", 4, 4, none, 5⟩], 5) := by rfl
example : piecesFrom short.n 0 [⟨"end", 4, 4, none, 5⟩] = [⟨.hole, 0, 4⟩, ⟨.declined "end", 4, 5⟩] := by decide +kernel

end C03Example

end Mistune

