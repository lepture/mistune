/-
C04 (ATX headings): the text computation of `parse_atx_heading` (`Model.Blk.atxText`): `m.group("atx_2").strip()`
followed by `_ATX_HEADING_TRIM.sub("", text)` with `_ATX_HEADING_TRIM = (\s+|^)#+\s*$` (no flags: `^` is `\A`, `$` is
"end, or before a final newline").

On a stripped non-empty text `t` the regex is evaluated exactly on the engine:
* `$` can only hold at `len(t)` (the last character of `t` is not white space, hence not a newline) and `\s*` matches
  nothing there, so every match ends at `len(t)` and has the shape `ws ++ hashes` (`ws` white space, non-empty unless the
  match starts at `0`; `hashes` a non-empty run of `#`);
* `hashes` is then the *maximal* trailing run of `#` of `t` and `ws` reaches back over the whole white space before it
  (the leftmost match wins), so there is at most one match and it cannot start before the last run.
-/
import Mistune.Model.Block
import MistuneProofs.Engine.LineSub
namespace Mistune
open Mistune.Model Mistune.Model.Blk Mistune.Generated

/-! ### the regex, as expected; kernel-decided against the regenerated table -/

/-- `re.compile(r"(\s+|^)#+\s*$")` -/
def atxTrimRxExpected : Rx :=
  .seq (.grp 1 (.alt (.rep (.cls false [.cat false .space]) 1 none true) .bos))
    (.seq (.rep (.cls false [.chr 35]) 1 none true)
      (.seq (.rep (.cls false [.cat false .space]) 0 none true) .eos))

/-- **Obligation:** the regenerated `mistune.block_parser._ATX_HEADING_TRIM` is the expected term. -/
theorem atxTrimRx_lookup :
    namedRx.lookup "mistune.block_parser._ATX_HEADING_TRIM" = some atxTrimRxExpected := by
  decide +kernel

/-! ### the specification -/

theorem rstrip_eq (s : Str) : Py.rstrip s = rdropWhile isSpace s := rfl

def isHash (ch : Char) : Bool := ch == '#'

/-- The heading text: `t = g2.strip()`; `b` is `t` without its trailing run of `#`; `body` is `b` without the white
space at its end.
* `b` empty (`t` consists of `#`s only: a closing sequence alone, or `t` is empty): the result is empty;
* the run of `#` is non-empty and there is white space before it: the result is `body`;
* otherwise (no `#` at the end, or a `#` run that is glued to the text, as in `foo#` or `foo \#`): `t`. -/
def atxSpec (g2 : Str) : Str :=
  let t := Py.strip g2
  let b := rdropWhile isHash t
  let body := Py.rstrip b
  if b.isEmpty then []
  else if b.length < t.length && body.length < b.length then body
  else t

/-! ### the two character classes -/

theorem clsTest_space (ch : Char) : clsTest pyCats false [.cat false .space] ch.toNat = isSpace ch := by
  simp [clsTest, ClsItem.test, pyCats, isSpace]

theorem clsTest_hash (ch : Char) : clsTest pyCats false [.chr 35] ch.toNat = isHash ch :=
  clsTest_chr1 pyCats '#' ch

theorem isHash_false {ch : Char} (h : ch ≠ '#') : isHash ch = false := by simpa [isHash] using h

theorem not_space_of_hash {ch : Char} (h : isHash ch = true) : isSpace ch = false := by
  have : ch = '#' := by simpa [isHash] using h
  rw [this]; decide

/-- a text that ends with a non-empty white-space run does not end with `#` -/
theorem last_ws_not_hash (u : Str) {ws : Str} (hws : ∀ ch ∈ ws, isSpace ch = true) (hw : ws ≠ []) (ch : Char)
    (h : (u ++ ws).getLast? = some ch) : isHash ch = false := by
  rw [getLast?_append_ne_nil u hw] at h
  have hx := hws ch (List.mem_of_getLast? h)
  cases hh : isHash ch with
  | false => rfl
  | true => rw [not_space_of_hash hh] at hx; cases hx

/-- … and a text that ends with a non-empty run of `#` does not end with white space -/
theorem last_hash_not_space (u : Str) {hs : Str} (hhs : ∀ ch ∈ hs, isHash ch = true) (hh : hs ≠ []) (ch : Char)
    (h : (u ++ hs).getLast? = some ch) : isSpace ch = false := by
  rw [getLast?_append_ne_nil u hh] at h
  exact not_space_of_hash (hhs ch (List.mem_of_getLast? h))

/-! ### `(\s+|^)#+\s*$`: success -/

/-- `(\s+|^)#+\s*$` matches where a white-space run (non-empty, unless at the start of the text) is followed by a run of
`#` up to the end: `\s+` takes the white space (without any, `\s+` fails and `^` holds), `#+` the run, `\s*` nothing -/
theorem atxTrim_matchAt_hit (a ws hs : Str) (hws : ∀ ch ∈ ws, isSpace ch = true) (hhs : ∀ ch ∈ hs, isHash ch = true)
    (hne : hs ≠ []) (h0 : ws ≠ [] ∨ a = []) :
    atxTrimRxExpected.matchAt (Py.ctxOf (a ++ ws ++ hs)) a.length =
      some { start := a.length, stop := (a ++ ws ++ hs).length, caps := [(1, (a.length, a.length + ws.length))] } := by
  -- `[] ++ []`: the empty run of `\s*` and the empty rest, so that `drop_append` steps through all three runs
  have hd0 : (a ++ ws ++ hs).drop a.length = ws ++ (hs ++ ([] ++ [])) := by simp
  have hlen : a.length + ws.length + hs.length = (a ++ ws ++ hs).length := by simp [Nat.add_assoc]
  generalize a ++ ws ++ hs = S at hd0 hlen
  have hd1 := drop_append hd0
  have hd2 := drop_append hd1
  have hhead : ∀ ch, (hs ++ ([] ++ [])).head? = some ch → isSpace ch = false := by
    obtain ⟨h, hs', rfl⟩ := List.exists_cons_of_ne_nil hne
    intro ch hch
    simp only [List.cons_append, List.head?_cons, Option.some.injEq] at hch
    exact hch ▸ not_space_of_hash (hhs h (by simp))
  have hgrp : Reaches (Py.ctxOf S) (.alt (.rep (.cls false [.cat false .space]) 1 none true) .bos) a.length []
      (a.length + ws.length) [] := by
    by_cases hw : ws = []
    · subst hw
      obtain rfl : a = [] := h0.resolve_left (fun h => h rfl)
      exact reaches_alt_right (run_fails clsTest_space 0 none true [] hd0 hhead) (reaches_bos [])
    · exact reaches_alt_left _ (reaches_run clsTest_space 1 none [] hd0 (by omega) hws (Or.inr hhead)
        (by intro m hm; cases hm) (List.length_pos_iff.mpr hw))
  rw [← hlen]
  exact (reaches_seq (reaches_grp 1 hgrp)
    (reaches_seq (reaches_run clsTest_hash 1 none _ hd1 (by omega) hhs (Or.inr (by intro ch h; cases h))
        (by intro m hm; cases hm) (List.length_pos_iff.mpr hne))
      (reaches_seq (reaches_run clsTest_space 0 none _ hd2 (by omega) (by simp) (Or.inr (by intro ch h; cases h))
          (by intro m hm; cases hm) (Nat.le_refl _))
        (reaches_eos _ (by rw [ctxOf_n]; simp; omega))))).matchAt

/-! ### `(\s+|^)#+\s*$`: what a match looks like (from soundness) -/

/-- On a text whose last character is not white space, a match consists of white space (non-empty unless the match starts
at `0`) and a non-empty run of `#` that reaches the end of the text: `$` holds at the end or before a final newline, so
the white space `\s*` takes and what follows it would be a white-space end of the text. -/
theorem atxTrim_matchAt_sound (t : Str) (q : Nat) (mt : RxMatch)
    (hlast : ∀ ch, t.getLast? = some ch → isSpace ch = false)
    (h : atxTrimRxExpected.matchAt (Py.ctxOf t) q = some mt) :
    ∃ ws hs, t.drop q = ws ++ hs ∧ (∀ ch ∈ ws, isSpace ch = true) ∧ (∀ ch ∈ hs, isHash ch = true) ∧ hs ≠ [] ∧
      (ws ≠ [] ∨ q = 0) := by
  obtain ⟨_, hs⟩ := matchAt_sound _ _ _ _ h
  unfold atxTrimRxExpected at hs
  obtain ⟨i1, c1, hg, hs⟩ := spec_seq.mp hs
  obtain ⟨c0, halt, _⟩ := spec_grp.mp hg
  obtain ⟨i2, c2, hh, hs⟩ := spec_seq.mp hs
  obtain ⟨i3, c3, hsp, he⟩ := spec_seq.mp hs
  obtain ⟨hs', hd2, rfl, _, hlo, _, hhs⟩ := spec_run clsTest_hash hh
  obtain ⟨sp, hd3, rfl, _, _, _, hsp⟩ := spec_run clsTest_space hsp
  obtain ⟨_, _, hend⟩ := spec_eos he
  have hne : hs' ≠ [] := List.ne_nil_of_length_pos hlo
  -- nothing follows the run of `#`: it would be white space at the end of the text
  have hall : ∀ ch ∈ sp ++ t.drop (i1 + hs'.length + sp.length), isSpace ch = true := by
    intro ch hch
    rcases List.mem_append.mp hch with hm | hm
    · exact hsp ch hm
    · rcases hend with e | e
      · rw [e] at hm; cases hm
      · rw [e, List.mem_singleton] at hm; rw [hm]; decide
  have hnil : sp ++ t.drop (i1 + hs'.length + sp.length) = [] := by
    rcases List.eq_nil_or_concat (sp ++ t.drop (i1 + hs'.length + sp.length)) with h | ⟨w, x, hv⟩
    · exact h
    · rw [List.concat_eq_append] at hv
      have ht : t = t.take i1 ++ hs' ++ (w ++ [x]) := by
        rw [List.append_assoc, ← hv, ← hd3, ← hd2, List.take_append_drop]
      have := hlast x (by rw [ht]; simp)
      rw [hall x (by rw [hv]; simp)] at this
      cases this
  rw [hd3, hnil, List.append_nil] at hd2
  rcases spec_alt.mp halt with hrep | hbos
  · obtain ⟨ws, hd1, rfl, _, hlo1, _, hws⟩ := spec_run clsTest_space hrep
    exact ⟨ws, hs', by rw [hd1, hd2], hws, hhs, hne, Or.inl (List.ne_nil_of_length_pos hlo1)⟩
  · obtain ⟨rfl, rfl, _⟩ := spec_bos.mp hbos
    exact ⟨[], hs', hd2, by simp, hhs, hne, Or.inr rfl⟩

/-! ### the positions where `(\s+|^)#+\s*$` matches, in terms of the trailing runs -/

/-- the core of the specification, on the stripped text -/
def atxCore (t : Str) : Str :=
  let b := rdropWhile isHash t
  let body := rdropWhile isSpace b
  if b.isEmpty then []
  else if b.length < t.length && body.length < b.length then body
  else t

theorem atxSpec_eq_core (g2 : Str) : atxSpec g2 = atxCore (Py.strip g2) := rfl

/-- a match at `i` on `u ++ hs`, `hs` the trailing run of `#`: the run is not empty, the match covers it and before it
only white space (some, unless `i = 0`) up to the end of `u` -/
theorem atx_match_shape (u hs : Str) (i : Nat) (mt : RxMatch) (hhs : ∀ ch ∈ hs, isHash ch = true)
    (hu : ∀ ch, u.getLast? = some ch → isHash ch = false)
    (hlast : ∀ ch, (u ++ hs).getLast? = some ch → isSpace ch = false)
    (h : atxTrimRxExpected.matchAt (Py.ctxOf (u ++ hs)) i = some mt) :
    hs ≠ [] ∧ ∃ ws, (u ++ hs).take i ++ ws = u ∧ (∀ ch ∈ ws, isSpace ch = true) ∧ (ws ≠ [] ∨ i = 0) := by
  obtain ⟨ws, hs', hd, hws, hhs', hne, h0⟩ := atxTrim_matchAt_sound _ i mt hlast h
  have ht : ((u ++ hs).take i ++ ws) ++ hs' = u ++ hs := by rw [List.append_assoc, ← hd, List.take_append_drop]
  have hu' : ∀ ch, ((u ++ hs).take i ++ ws).getLast? = some ch → isHash ch = false := by
    intro ch hch
    by_cases hw : ws = []
    · obtain rfl : i = 0 := h0.resolve_left (fun h => h hw)
      subst hw
      simp at hch
    · exact last_ws_not_hash _ hws hw ch hch
  obtain ⟨e1, e2⟩ := run_split_unique isHash _ hs' u hs ht hhs' hhs hu' hu
  exact ⟨e2 ▸ hne, ws, e1, hws, h0⟩

/-- the three shapes of a text whose last character is not white space, by its trailing run of `#` and the white space
before that run: `#`s only; white space and a non-empty run of `#` after `body`; a run of `#` (possibly empty) glued to
a character that is neither -/
theorem atx_shapes (t : Str) (hl : ∀ ch, t.getLast? = some ch → isSpace ch = false) :
    (∀ ch ∈ t, isHash ch = true) ∨
    (∃ body ws hs, t = body ++ ws ++ hs ∧ (∀ ch, body.getLast? = some ch → isSpace ch = false) ∧
      (∀ ch ∈ ws, isSpace ch = true) ∧ ws ≠ [] ∧ (∀ ch ∈ hs, isHash ch = true) ∧ hs ≠ []) ∨
    (∃ u hs, t = u ++ hs ∧ u ≠ [] ∧ (∀ ch, u.getLast? = some ch → isHash ch = false ∧ isSpace ch = false) ∧
      (∀ ch ∈ hs, isHash ch = true)) := by
  have htb := rdrop_append_rtake isHash t
  have hbw := rdrop_append_rtake isSpace (rdropWhile isHash t)
  by_cases hb : rdropWhile isHash t = []
  · left
    rw [hb, List.nil_append] at htb
    rw [← htb]
    exact rtake_all _ _
  · right
    by_cases hc : rtakeWhile isHash t ≠ [] ∧ rtakeWhile isSpace (rdropWhile isHash t) ≠ []
    · left
      exact ⟨_, _, _, by rw [hbw, htb], rdrop_last _ _, rtake_all _ _, hc.2, rtake_all _ _, hc.1⟩
    · right
      refine ⟨_, _, htb.symm, hb, fun ch hch => ⟨rdrop_last _ _ ch hch, ?_⟩, rtake_all _ _⟩
      by_cases hH : rtakeWhile isHash t = []
      · rw [hH, List.append_nil] at htb
        exact hl ch (by rw [← htb]; exact hch)
      · have hW : rtakeWhile isSpace (rdropWhile isHash t) = [] := Classical.byContradiction fun h => hc ⟨hH, h⟩
        rw [hW, List.append_nil] at hbw
        exact rdrop_last isSpace (rdropWhile isHash t) ch (by rw [hbw]; exact hch)

/-! ### the three cases of the specification -/

/-- a closing sequence alone -/
theorem atxCore_hashes (hs : Str) (hhs : ∀ ch ∈ hs, isHash ch = true) : atxCore hs = [] := by
  have := (rdrop_of_split isHash [] hs hhs (by simp)).1
  rw [List.nil_append] at this
  simp [atxCore, this]

/-- white space and a closing sequence after `body` -/
theorem atxCore_closing (body ws hs : Str) (hb : ∀ ch, body.getLast? = some ch → isSpace ch = false)
    (hws : ∀ ch ∈ ws, isSpace ch = true) (hw : ws ≠ []) (hhs : ∀ ch ∈ hs, isHash ch = true) (hh : hs ≠ []) :
    atxCore (body ++ ws ++ hs) = body := by
  have e1 : rdropWhile isHash (body ++ ws ++ hs) = body ++ ws :=
    (rdrop_of_split isHash (body ++ ws) hs hhs (last_ws_not_hash body hws hw)).1
  have e2 : rdropWhile isSpace (body ++ ws) = body := (rdrop_of_split isSpace body ws hws hb).1
  have l1 : 0 < ws.length := List.length_pos_iff.mpr hw
  have l2 : 0 < hs.length := List.length_pos_iff.mpr hh
  unfold atxCore
  simp only [e1, e2]
  rw [if_neg (by
    cases ws with
    | nil => exact absurd rfl hw
    | cons a r => simp), if_pos (by simp only [List.length_append, Bool.and_eq_true, decide_eq_true_eq]; omega)]

/-- no closing sequence, or one that is glued to the text (`foo#`, `foo \#`): nothing is removed -/
theorem atxCore_glued (u hs : Str) (hu : u ≠ [])
    (hlast : ∀ ch, u.getLast? = some ch → isHash ch = false ∧ isSpace ch = false)
    (hhs : ∀ ch ∈ hs, isHash ch = true) : atxCore (u ++ hs) = u ++ hs := by
  have e1 : rdropWhile isHash (u ++ hs) = u := (rdrop_of_split isHash u hs hhs (fun ch h => (hlast ch h).1)).1
  have e2 : rdropWhile isSpace u = u := by
    have := (rdrop_of_split isSpace u [] (by simp) (fun ch h => (hlast ch h).2)).1
    rwa [List.append_nil] at this
  unfold atxCore
  simp only [e1, e2]
  rw [if_neg (by
    cases u with
    | nil => exact absurd rfl hu
    | cons a r => simp), if_neg (by simp)]

/-- **the three cases are exhaustive**: the stripped text is a closing sequence alone (result empty), or ends with
white space and a closing sequence (both removed, whatever `body` is — it may itself end with `#`), or is kept. -/
theorem atxSpec_cases (g2 : Str) :
    ((∀ ch ∈ Py.strip g2, isHash ch = true) ∧ atxSpec g2 = []) ∨
    (∃ body ws hs, Py.strip g2 = body ++ ws ++ hs ∧ body ≠ [] ∧ (∀ ch, body.getLast? = some ch → isSpace ch = false) ∧
      (∀ ch ∈ ws, isSpace ch = true) ∧ ws ≠ [] ∧ (∀ ch ∈ hs, isHash ch = true) ∧ hs ≠ [] ∧ atxSpec g2 = body) ∨
    (∃ u hs, Py.strip g2 = u ++ hs ∧ u ≠ [] ∧ (∀ ch, u.getLast? = some ch → isHash ch = false ∧ isSpace ch = false) ∧
      (∀ ch ∈ hs, isHash ch = true) ∧ atxSpec g2 = Py.strip g2) := by
  rw [atxSpec_eq_core]
  rcases atx_shapes (Py.strip g2) (strip_last isSpace g2) with hall | ⟨body, ws, hs, ht, hb, hws, hw, hhs, hh⟩ |
    ⟨u, hs, ht, hu, hlast, hhs⟩
  · exact Or.inl ⟨hall, atxCore_hashes _ hall⟩
  · refine Or.inr (Or.inl ⟨body, ws, hs, ht, ?_, hb, hws, hw, hhs, hh, by
      rw [ht]; exact atxCore_closing body ws hs hb hws hw hhs hh⟩)
    -- the stripped text does not start with white space
    rintro rfl
    obtain ⟨a, r, rfl⟩ := List.exists_cons_of_ne_nil hw
    have := strip_head isSpace g2 a (congrArg List.head? ht)
    rw [hws a (by simp)] at this
    cases this
  · exact Or.inr (Or.inr ⟨u, hs, ht, hu, hlast, hhs, by rw [ht]; exact atxCore_glued u hs hu hlast hhs⟩)

/-! ### `_ATX_HEADING_TRIM.sub("", t)` -/

/-- **`_ATX_HEADING_TRIM.sub("", t)`** for a non-empty text whose last character is not white space: in each of the three
shapes, where the one match is (or that there is none) -/
theorem reSub_atxTrim (t : Str) (hne : t ≠ []) (hlast : ∀ ch, t.getLast? = some ch → isSpace ch = false) :
    Py.reSub atxTrimRxExpected (fun _ _ => []) t = atxCore t := by
  have hend : atxTrimRxExpected.matchAt (Py.ctxOf t) t.length = none := by
    refine Option.eq_none_iff_forall_ne_some.mpr fun mt hm => ?_
    obtain ⟨ws, hs, hd, _, _, hn, _⟩ := atxTrim_matchAt_sound t _ mt hlast hm
    rw [List.drop_length] at hd
    exact hn (List.append_eq_nil_iff.mp hd.symm).2
  rcases atx_shapes t hlast with hall | ⟨body, ws, hs, rfl, hb, hws, hw, hhs, hh⟩ | ⟨u, hs, rfl, hu, hul, hhs⟩
  · -- only `#`s: the match at `0`
    have hm := atxTrim_matchAt_hit [] [] t (by simp) hall hne (Or.inr rfl)
    simp only [List.nil_append, List.length_nil] at hm
    rw [atxCore_hashes t hall,
      reSub_single _ t 0 _ (List.length_pos_iff.mpr hne) (fun i hi => by omega) hm rfl rfl hend]
    rfl
  · -- the match at the end of `body`; an earlier one would reach back over the last character of `body`
    have hm := atxTrim_matchAt_hit body ws hs hws hhs hh (Or.inl hw)
    have hpos := List.length_pos_iff.mpr hh
    rw [atxCore_closing body ws hs hb hws hw hhs hh, reSub_single _ _ body.length _
      (by simp only [List.length_append]; omega) (fun i hi => ?_) hm rfl rfl hend, List.append_assoc, List.take_left]
    refine Option.eq_none_iff_forall_ne_some.mpr fun mt' hmi => ?_
    obtain ⟨_, ws', e, hws', _⟩ := atx_match_shape (body ++ ws) hs i mt' hhs (last_ws_not_hash body hws hw) hlast hmi
    obtain ⟨w, hw1, _⟩ := suffix_run isSpace _ ws' body ws e hws' hb
    have := congrArg List.length hw1
    rw [List.length_append, List.length_take] at this
    omega
  · -- no match: white space before the run, or a text of `#`s only, is excluded
    rw [atxCore_glued u hs hu hul hhs]
    apply reSub_no_match
    refine fun i _ => Option.eq_none_iff_forall_ne_some.mpr fun mt' hmi => ?_
    obtain ⟨_, ws', e, hws', h0⟩ := atx_match_shape u hs i mt' hhs (fun ch h => (hul ch h).1) hlast hmi
    rcases List.eq_nil_or_concat ws' with rfl | ⟨w0, x, rfl⟩
    · obtain rfl : i = 0 := h0.resolve_left (fun h => h rfl)
      exact hu (by simpa using e.symm)
    · have := (hul x (by rw [← e]; simp)).2
      rw [hws' x (by simp)] at this
      cases this

/-! ### `str.strip()` -/

/-- white space around a text that neither starts nor ends with white space is what `strip()` removes -/
theorem pyStrip_pad (pad1 text pad2 : Str) (h1 : ∀ ch ∈ pad1, isSpace ch = true) (h2 : ∀ ch ∈ pad2, isSpace ch = true)
    (hh : ∀ ch, text.head? = some ch → isSpace ch = false) (hl : ∀ ch, text.getLast? = some ch → isSpace ch = false) :
    Py.strip (pad1 ++ text ++ pad2) = text :=
  strip_pad isSpace pad1 text pad2 h1 h2 hh hl

/-! ### `atxText` is the specification -/

/-- `atxText` is the two text steps of `parse_atx_heading`: `strip()`, then the trim unless the text is empty -/
theorem atxText_def (cfg : MdCfg) (g2 : Str) :
    atxText cfg g2 = if !(Py.strip g2).isEmpty then
      Py.reSub (cfg.rx "mistune.block_parser._ATX_HEADING_TRIM") (fun _ _ => []) (Py.strip g2) else Py.strip g2 := rfl

/-- **`atxText` is `atxSpec`**, for every configuration whose `_ATX_HEADING_TRIM` is the expected regex -/
theorem atxText_eq_of_lookup (cfg : MdCfg)
    (h : cfg.named.lookup "mistune.block_parser._ATX_HEADING_TRIM" = some atxTrimRxExpected) (g2 : Str) :
    atxText cfg g2 = atxSpec g2 := by
  rw [atxText_def, atxSpec_eq_core, rx_of_lookup cfg _ _ h]
  by_cases he : Py.strip g2 = []
  · rw [he]; rfl
  · rw [if_pos (by simpa using he)]
    exact reSub_atxTrim _ he (strip_last isSpace g2)

/-- **…in particular for every regenerated configuration** (closed: the obligation is kernel-decided above) -/
theorem atxText_eq (cfg : MdCfg) (hcfg : cfg.named = Generated.namedRx) (g2 : Str) : atxText cfg g2 = atxSpec g2 :=
  atxText_eq_of_lookup cfg (by rw [hcfg]; exact atxTrimRx_lookup) g2

/-- every configuration the model is run with (`ofRuleCfg`) -/
theorem atxText_eq_ofRuleCfg (c : RuleCfg) (g2 : Str) : atxText (ofRuleCfg c) g2 = atxSpec g2 :=
  atxText_eq (ofRuleCfg c) rfl g2

/-! ### the properties -/

/-- **a heading text without closing sequence comes out verbatim**: `text` non-empty, without white space at its ends,
not ending with `#`; the padding is any white space (newlines included: `\s` and `strip()` use the same class). -/
theorem atx_plain_verbatim (cfg : MdCfg) (hcfg : cfg.named = Generated.namedRx) (pad1 text pad2 : Str)
    (hne : text ≠ []) (hstrip : Py.strip text = text) (hlast : text.getLast? ≠ some '#')
    (h1 : ∀ ch ∈ pad1, isSpace ch = true) (h2 : ∀ ch ∈ pad2, isSpace ch = true) :
    atxText cfg (pad1 ++ text ++ pad2) = text := by
  obtain ⟨hh, hl⟩ := (strip_eq_self_iff isSpace text).mp hstrip
  rw [atxText_eq cfg hcfg, atxSpec_eq_core, pyStrip_pad pad1 text pad2 h1 h2 hh hl]
  have := atxCore_glued text [] hne (fun ch hch => ⟨isHash_false (fun e => hlast (e ▸ hch)), hl ch hch⟩) (by simp)
  rwa [List.append_nil] at this

/-- **a closing sequence is removed together with the white space before it**: `text` is any text without white space
at its ends — it may be empty (`# ##`) and it may itself end with `#` (`# a # #` gives `a #`, `# foo# #` gives `foo#`):
only the last run of `#` goes. -/
theorem atx_closing_removed (cfg : MdCfg) (hcfg : cfg.named = Generated.namedRx) (pad1 text sp hashes pad2 : Str)
    (hstrip : Py.strip text = text)
    (hsp : ∀ ch ∈ sp, isSpace ch = true) (hspne : sp ≠ [])
    (hhs : ∀ ch ∈ hashes, ch = '#') (hhne : hashes ≠ [])
    (h1 : ∀ ch ∈ pad1, isSpace ch = true) (h2 : ∀ ch ∈ pad2, isSpace ch = true) :
    atxText cfg (pad1 ++ text ++ sp ++ hashes ++ pad2) = text := by
  obtain ⟨hh, hl⟩ := (strip_eq_self_iff isSpace text).mp hstrip
  have hhs' : ∀ ch ∈ hashes, isHash ch = true := fun ch hch => by simp [isHash, hhs ch hch]
  rw [atxText_eq cfg hcfg, atxSpec_eq_core]
  cases text with
  | nil =>
    -- a closing sequence alone
    have := pyStrip_pad (pad1 ++ sp) hashes pad2 (fun ch hch => (List.mem_append.mp hch).elim (h1 ch) (hsp ch)) h2
      (fun ch hch => not_space_of_hash (hhs' ch (List.mem_of_head? hch))) (last_hash_not_space [] hhs' hhne)
    rw [show pad1 ++ [] ++ sp ++ hashes ++ pad2 = pad1 ++ sp ++ hashes ++ pad2 by simp, this]
    exact atxCore_hashes _ hhs'
  | cons a r =>
    have := pyStrip_pad pad1 (a :: r ++ sp ++ hashes) pad2 h1 h2 (fun ch hch => hh ch (by simpa using hch))
      (last_hash_not_space _ hhs' hhne)
    rw [show pad1 ++ a :: r ++ sp ++ hashes ++ pad2 = pad1 ++ (a :: r ++ sp ++ hashes) ++ pad2 by simp, this]
    exact atxCore_closing (a :: r) sp hashes hl hsp hspne hhs' hhne

/-- a run of `#` that is glued to the text is kept (`# foo#`, `# foo \#`) -/
theorem atx_glued_kept (cfg : MdCfg) (hcfg : cfg.named = Generated.namedRx) (pad1 u hashes pad2 : Str)
    (hu : u ≠ []) (hhead : ∀ ch, u.head? = some ch → isSpace ch = false)
    (hlast : ∀ ch, u.getLast? = some ch → ch ≠ '#' ∧ isSpace ch = false)
    (hhs : ∀ ch ∈ hashes, ch = '#')
    (h1 : ∀ ch ∈ pad1, isSpace ch = true) (h2 : ∀ ch ∈ pad2, isSpace ch = true) :
    atxText cfg (pad1 ++ (u ++ hashes) ++ pad2) = u ++ hashes := by
  have hhs' : ∀ ch ∈ hashes, isHash ch = true := fun ch hch => by simp [isHash, hhs ch hch]
  rw [atxText_eq cfg hcfg, atxSpec_eq_core, pyStrip_pad pad1 (u ++ hashes) pad2 h1 h2 (by
    intro ch hch
    obtain ⟨a, r, rfl⟩ := List.exists_cons_of_ne_nil hu
    exact hhead ch (by simpa using hch)) (by
    intro ch hch
    by_cases hn : hashes = []
    · subst hn
      exact (hlast ch (by simpa using hch)).2
    · exact last_hash_not_space u hhs' hn ch hch)]
  exact atxCore_glued u hashes hu (fun ch hch => ⟨isHash_false (hlast ch hch).1, (hlast ch hch).2⟩) hhs'

/-! ### the handler -/

/-- the token `parse_atx_heading` appends -/
def atxToken (text : Str) (level : Nat) : Json :=
  tok "heading" [("text", .str text), ("attrs", .obj [("level", .num level)]), ("style", Json.s "atx")]

/-- **`parse_atx_heading`**: never raises, never declines; appends one `heading` token whose text is
`atxText cfg (m.group("atx_2"))` and whose level is `len(m.group("atx_1"))`, and returns `m.end() + 1`. -/
theorem parseAtxHeading_eq (cfg : MdCfg) (mt : RxMatch) (st : BlockState) :
    parseAtxHeading cfg mt st =
      .ok (some (mt.stop + 1), st.appendToken
        (atxToken (atxText cfg (grp cfg st mt "atx_2")) (grp cfg st mt "atx_1").length)) := rfl

theorem atxToken_fields (text : Str) (level : Nat) :
    (atxToken text level).type = "heading" ∧ (atxToken text level).getStr? "text" = some text ∧
    ((atxToken text level).get? "attrs").bind (fun a => a.getInt? "level") = some (level : Int) ∧
    (atxToken text level).getStr? "style" = some "atx".toList := by
  exact ⟨rfl, rfl, rfl, rfl⟩

/-- the handler with the text computation replaced by its specification -/
theorem parseAtxHeading_spec (cfg : MdCfg) (hcfg : cfg.named = Generated.namedRx) (mt : RxMatch) (st : BlockState) :
    parseAtxHeading cfg mt st =
      .ok (some (mt.stop + 1), st.appendToken
        (atxToken (atxSpec (grp cfg st mt "atx_2")) (grp cfg st mt "atx_1").length)) := by
  rw [parseAtxHeading_eq, atxText_eq cfg hcfg]

/-- `parse_thematic_break` (no text computation): one `thematic_break` token, returns `m.end() + 1` -/
theorem parseThematicBreak_eq (mt : RxMatch) (st : BlockState) :
    parseThematicBreak mt st = .ok (some (mt.stop + 1), st.appendToken (tok "thematic_break" [])) := rfl

/-! ### instances -/

section AtxExamples

/-- the configuration the examples run with (any `ofRuleCfg c` has `named = namedRx` by definition) -/
abbrev atxCfg : MdCfg := ofRuleCfg cfg_core

/-- the closing sequence, the blanks before it and the blanks after it go: the model (by `atxText_eq`), then the specification -/
example : atxText atxCfg "foo ## ".toList = "foo".toList := by rw [atxText_eq_ofRuleCfg]; decide
example : atxSpec "foo ## ".toList = "foo".toList := by decide

/-- a closing sequence alone: the `^` branch of `(\s+|^)` -/
example : atxText atxCfg "#".toList = [] := by rw [atxText_eq_ofRuleCfg]; decide
example : atxSpec "#".toList = [] := by decide

/-- only the LAST run goes: the leftmost match of `(\s+|^)#+\s*$` cannot start at the first ` #` (after `#+\s*` the
engine is at `b`, not at the end) -/
example : atxText atxCfg "a # b #".toList = "a # b".toList := by rw [atxText_eq_ofRuleCfg]; decide
example : atxSpec "a # b #".toList = "a # b".toList := by decide

/-- … also when only white space separates the two runs: `\s*$` after the first `#` fails at the second `#` -/
example : atxText atxCfg "a # #".toList = "a #".toList := by rw [atxText_eq_ofRuleCfg]; decide
example : atxSpec "a # #".toList = "a #".toList := by decide

/-- a glued `#` is not a closing sequence -/
example : atxText atxCfg "foo#".toList = "foo#".toList := by rw [atxText_eq_ofRuleCfg]; decide
example : atxSpec "foo#".toList = "foo#".toList := by decide

/-- an escaped `#` is kept — not because of the backslash as such: `\` is not white space, so the run is glued -/
example : atxText atxCfg "foo \\#".toList = "foo \\#".toList := by rw [atxText_eq_ofRuleCfg]; decide
example : atxSpec "foo \\#".toList = "foo \\#".toList := by decide

/-- `body` may consist of `#`s: `# # #` (group `atx_2` = `"# #"`) is the heading `#` -/
example : atxText atxCfg "# #".toList = "#".toList := by rw [atxText_eq_ofRuleCfg]; decide

/-- white space is the Unicode class, newlines included (`atx_2` cannot contain one, but the theorems do not need that) -/
example : atxText atxCfg "a\t\n #\n".toList = "a".toList := by rw [atxText_eq_ofRuleCfg]; decide
example : atxText atxCfg "a\u00a0#".toList = "a".toList := by rw [atxText_eq_ofRuleCfg]; decide

/-- `atxText_eq` / `atx_closing_removed` / `atx_plain_verbatim` instantiated -/
example : atxText atxCfg " a # #  ## \n".toList = atxSpec " a # #  ## \n".toList := atxText_eq atxCfg rfl _

example : atxText atxCfg " a # #  ## \n".toList = "a # #".toList :=
  atx_closing_removed atxCfg rfl " ".toList "a # #".toList "  ".toList "##".toList " \n".toList
    (by decide) (by decide) (by decide) (by decide) (by decide) (by decide) (by decide)

example : atxText atxCfg "  foo # bar\t".toList = "foo # bar".toList :=
  atx_plain_verbatim atxCfg rfl "  ".toList "foo # bar".toList "\t".toList (by decide) (by decide) (by decide)
    (by decide) (by decide)

/-- `foo \#` ends with `#`: `atx_plain_verbatim` does not apply, `atx_glued_kept` does (`u = "foo \"`) -/
example : atxText atxCfg "  foo \\#\t".toList = "foo \\#".toList :=
  atx_glued_kept atxCfg rfl "  ".toList "foo \\".toList "#".toList "\t".toList (by decide) (by decide) (by decide)
    (by decide) (by decide) (by decide)

/-- the handler on the root state of `"# foo ##\n"`, match `[0, 8)`, `atx_1 = [0, 1)`, `atx_2 = [1, 8)` -/
def exSt : BlockState := BlockState.root "# foo ##\n".toList
def exMt : RxMatch := { start := 0, stop := 8, caps := [(2, (1, 8)), (1, (0, 1))] }

example : parseAtxHeading atxCfg exMt exSt =
    .ok (some 9, exSt.appendToken
      (atxToken (atxText atxCfg (grp atxCfg exSt exMt "atx_2")) (grp atxCfg exSt exMt "atx_1").length)) :=
  parseAtxHeading_eq _ _ _

example : grp atxCfg exSt exMt "atx_2" = " foo ##".toList ∧
    atxText atxCfg (grp atxCfg exSt exMt "atx_2") = "foo".toList ∧ (grp atxCfg exSt exMt "atx_1").length = 1 := by
  have h : grp atxCfg exSt exMt "atx_2" = " foo ##".toList := by decide +kernel
  exact ⟨h, by rw [h, atxText_eq_ofRuleCfg]; decide, by decide +kernel⟩

end AtxExamples

end Mistune
