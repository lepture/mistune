/-
C04 / C13 (ATX headings, thematic breaks): **rule firing**.  `MistuneProofs.C04Atx` proves what the handler
`parse_atx_heading` does with a match; this file proves WHEN the rule regexes of `block.specification` match and what
the match is (`…_matchAt_hit` on a line of the right shape, `…_matchAt_sound` for the shape of any match,
`…_matchAt_iff`, for the ATX rule with the decidable shape test `atxLineOk`), composes the two (`atx_line_token`,
`break_line_token`), and proves the round trip through `MarkdownRenderer.heading` / `MarkdownRenderer.thematic_break`
(`Mistune.MdBlocks`).  The last part is one iteration of `BlockParser.parse` on such a line (`atx_line_step`,
`break_line_step`): the rules tried earlier (`fenced_code`, `indent_code`, `setex_heading`) do not match there, with
the lemmas on the scanner and on `parseLoop` that `C04LeafDoc` and `C13Quote` use as well.

```python
ATX_HEADING    = r"^ {0,3}(?P<atx_1>#{1,6})(?!#+)(?P<atx_2>[ \t]*|[ \t]+.*?)$"          (re.M)
THEMATIC_BREAK = r"^ {0,3}((?:-[ \t]*){3,}|(?:_[ \t]*){3,}|(?:\*[ \t]*){3,})$"          (re.M)
```

How CPython's priority order resolves `atx_2`: after the (greedy, maximal) run of `#`, the first alternative `[ \t]*`
takes the maximal run of blanks/tabs and `$` is tested; when the rest of the line is blank this succeeds (`atx_2` is the
whole blank rest).  Otherwise every shorter run is followed by a blank, `$` fails, and the second alternative takes the
maximal run of blanks (non-empty) and the lazy `.*?` is extended one character at a time until `$` holds, which (no
`'\n'` inside a line) happens at the end of the line first.  In both cases `atx_2` is the whole rest of the line.
The look-ahead `(?!#+)` is redundant: what follows the run of `#` must be a blank, a tab or the end of the line anyway.
-/
import Mistune
import MistuneProofs.C04Atx
import MistuneProofs.C11Fence
import Mistune.MdBlocks
namespace Mistune
open Mistune.Model Mistune.Model.Blk Mistune.Generated

deriving instance DecidableEq for RxMatch

/-! ### the two rule regexes, as expected; kernel-decided against the regenerated tables -/

/-- `^ {0,3}(?P<atx_1>#{1,6})(?!#+)(?P<atx_2>[ \t]*|[ \t]+.*?)$` with `re.M` -/
def atxRuleRx : Rx :=
  .seq .bol (.seq (.rep (.cls false [.chr 32]) 0 (some 3) true)
    (.seq (.grp 1 (.rep (.cls false [.chr 35]) 1 (some 6) true))
      (.seq (.look true true 0 (.rep (.cls false [.chr 35]) 1 none true))
        (.seq (.grp 2 (.alt (.rep (.cls false [.chr 32, .chr 9]) 0 none true)
            (.seq (.rep (.cls false [.chr 32, .chr 9]) 1 none true) (.rep (.any false) 0 none false))))
          .eol))))

/-- one family of `THEMATIC_BREAK`: `(?:c[ \t]*){3,}` -/
def breakFamily (c : Nat) : Rx :=
  .rep (.seq (.cls false [.chr c]) (.rep (.cls false [.chr 32, .chr 9]) 0 none true)) 3 none true

/-- `^ {0,3}((?:-[ \t]*){3,}|(?:_[ \t]*){3,}|(?:\*[ \t]*){3,})$` with `re.M` -/
def thematicRuleRx : Rx :=
  .seq .bol (.seq (.rep (.cls false [.chr 32]) 0 (some 3) true)
    (.seq (.grp 1 (.alt (breakFamily 45) (.alt (breakFamily 95) (breakFamily 42)))) .eol))

/-- **Obligation:** in every regenerated configuration `block.specification["atx_heading"]` is the expected term. -/
theorem atxRule_lookup : ∀ c ∈ allCfgs, c.blockSpec.lookup "atx_heading" = some atxRuleRx := by
  decide +kernel

/-- **Obligation:** in every regenerated configuration `block.specification["thematic_break"]` is the expected term. -/
theorem thematicRule_lookup : ∀ c ∈ allCfgs, c.blockSpec.lookup "thematic_break" = some thematicRuleRx := by
  decide +kernel

/-- **Obligation:** the named groups `atx_1`, `atx_2` are groups 1 and 2. -/
theorem atxGroups_lookup : groupIndex.lookup "atx_1" = some 1 ∧ groupIndex.lookup "atx_2" = some 2 := by
  decide +kernel

theorem allCfgs_length : allCfgs.length = 30 := rfl

theorem isBlank_ne_nl {ch : Char} (h : isBlank ch = true) : ch ≠ '\n' := by
  intro e; subst e; revert h; decide

/-- what follows a line starts with the newline -/
theorem rest_head {rest : Str} (h : rest = [] ∨ ∃ r', rest = '\n' :: r') (ch : Char) (hch : rest.head? = some ch) :
    ch = '\n' := by
  rcases h with rfl | ⟨r', rfl⟩
  · cases hch
  · cases hch; rfl

/-- the subject `pre ++ line` at the start of `line` -/
theorem at_line_start (pre line : Str) (hbol : pre = [] ∨ pre.getLast? = some '\n') :
    bolAt (pre ++ line) pre.length ∧ (pre ++ line).drop pre.length = line ∧ pre.length ≤ (pre ++ line).length :=
  ⟨(bolAt_append_length _ _).mpr hbol, List.drop_left, by simp⟩

/-! ### `(?P<atx_2>[ \t]*|[ \t]+.*?)$` on the rest of a heading line -/

/-- the rest of the line after the run of `#` -/
structure AtxTail (tail rest : Str) : Prop where
  /-- empty, or it starts with a blank or a tab -/
  head : tail = [] ∨ ∃ b t', tail = b :: t' ∧ isBlank b = true
  /-- it lies within one line -/
  no_nl : '\n' ∉ tail
  /-- and reaches to the end of that line -/
  rest : rest = [] ∨ ∃ r', rest = '\n' :: r'

/-- **group `atx_2` and `$`**: started right after the run of `#`, `(?P<atx_2>[ \t]*|[ \t]+.*?)$` records the whole rest
of the line as group 2 and continues at the end of the line. -/
theorem atxTail_reaches {s tail rest : Str} {i : Nat} (hd : s.drop i = tail ++ rest) (hi : i ≤ s.length)
    (h : AtxTail tail rest) (c : Caps) :
    Reaches (Py.ctxOf s) (.seq (.grp 2 (.alt (.rep (.cls false [.chr 32, .chr 9]) 0 none true)
        (.seq (.rep (.cls false [.chr 32, .chr 9]) 1 none true) (.rep (.any false) 0 none false)))) .eol)
      i c (i + tail.length) ((2, (i, i + tail.length)) :: c) := by
  obtain ⟨hhead, hnl, hrest⟩ := h
  have hlen := drop_length_le hd hi
  rw [List.length_append] at hlen
  have heol := reaches_eol_drop ((2, (i, i + tail.length)) :: c) (drop_append hd) (by omega) hrest
  -- split the tail into its leading blanks and the body
  obtain ⟨bl, body, rfl, hblank, hbody⟩ : ∃ bl body, tail = bl ++ body ∧ (∀ ch ∈ bl, isBlank ch = true) ∧
      ∀ b, body.head? = some b → isBlank b = false :=
    ⟨_, _, List.takeWhile_append_dropWhile.symm, fun ch hch => mem_takeWhile_pos hch, head?_dropWhile_ne isBlank tail⟩
  cases body with
  | nil =>
    -- a blank rest: the first alternative, `[ \t]*` takes it all
    rw [List.append_nil] at hd heol ⊢
    exact reaches_seq (reaches_grp 2 (reaches_alt_left _ (reaches_run clsTest_blank 0 none c hd hi hblank
      (Or.inr fun ch hch => by rw [rest_head hrest ch hch]; rfl) (by intro m hm; cases hm) (Nat.zero_le _)))) heol
  | cons b body' =>
    have hb : isBlank b = false := hbody b rfl
    have hblne : bl ≠ [] := by
      rintro rfl
      rcases hhead with h | ⟨b1, t', h, hb1⟩
      · cases h
      · injection h with e1 _
        rw [e1, hb1] at hb; cases hb
    have hd' : s.drop i = bl ++ b :: (body' ++ rest) := by rw [hd]; simp
    have e : i + (bl ++ b :: body').length = i + bl.length + (b :: body').length := by
      rw [List.length_append, Nat.add_assoc]
    rw [e] at heol ⊢
    -- `$` does not hold inside the line: the first alternative (any run of blanks) fails, the second takes the blanks
    -- and extends `.*?` up to the end of the line
    refine reaches_seq_past (F := fun j => ∃ t, t < (bl ++ b :: body').length ∧ j = i + t)
      (reachesPast_grp 2 (reachesPast_alt_right ?_ (reachesPast_seq
        (reaches_run clsTest_blank 1 none c hd' hi hblank (Or.inr (fun ch hch => by cases hch; exact hb))
          (by intro m hm; cases hm) (List.length_pos_iff.mpr hblne))
        (reachesPast_lazy_run c (drop_append hd') (by rw [List.length_append] at hlen; omega)
          (Or.inr fun e => hnl (List.mem_append_right _ e))
          (fun t ht => ⟨bl.length + t, by rw [List.length_append]; omega, by omega⟩))))) ?_ heol
    · intro j0 c0 hs
      obtain ⟨run, hdr, rfl, _, _, _, hrun⟩ := spec_run clsTest_blank hs
      have := run_le_of_stop (hdr.symm.trans hd') hrun hb
      exact ⟨run.length, by rw [List.length_append, List.length_cons]; omega, rfl⟩
    · rintro j0 ⟨t, ht, rfl⟩ c0 R k
      refine eol_fails (ch := (bl ++ b :: body')[t]) ?_ (fun e => hnl (e ▸ List.getElem_mem ht)) c0 k
      rw [drop_getElem? hd t, List.getElem?_append_left ht, List.getElem?_eq_getElem ht]

/-! ### the ATX rule: success on a heading line -/

/-- a heading line: `ind ++ hashes ++ tail`, followed by `rest` -/
structure AtxLine (ind hashes tail rest : Str) : Prop where
  /-- at most three blanks -/
  ind_blank : ∀ ch ∈ ind, ch = ' '
  ind_le : ind.length ≤ 3
  /-- one to six `#` -/
  hashes_hash : ∀ ch ∈ hashes, ch = '#'
  hashes_pos : 1 ≤ hashes.length
  hashes_le : hashes.length ≤ 6
  /-- then the end of the line, or a blank / a tab and anything up to the end of the line -/
  tail : AtxTail tail rest

/-- the match of the ATX rule on a heading line that starts at `p` -/
def atxMatch (p : Nat) (ind hashes tail : Str) : RxMatch :=
  { start := p, stop := p + ind.length + hashes.length + tail.length,
    caps := [(2, (p + ind.length + hashes.length, p + ind.length + hashes.length + tail.length)),
             (1, (p + ind.length, p + ind.length + hashes.length))] }

/-- what follows the run of `#` is not a `#` -/
theorem AtxTail.head_not_hash {tail rest : Str} (h : AtxTail tail rest) (ch : Char)
    (hch : (tail ++ rest).head? = some ch) : isHash ch = false := by
  rcases h.head with rfl | ⟨b, t', rfl, hb⟩
  · rw [rest_head h.rest ch hch]; rfl
  · cases hch
    exact isHash_false (by rintro rfl; revert hb; decide)

theorem AtxLine.hashes_cons {ind hashes tail rest : Str} (h : AtxLine ind hashes tail rest) :
    ∃ hs', hashes = '#' :: hs' := by
  obtain ⟨x, hs', rfl⟩ := List.exists_cons_of_ne_nil (List.ne_nil_of_length_pos h.hashes_pos)
  exact ⟨hs', by rw [h.hashes_hash x (by simp)]⟩

/-- **The ATX rule fires on every heading line.**
At a line start, on `ind ++ hashes ++ tail` followed by the end of the subject or a newline, `ATX_HEADING.match` succeeds,
ends at the end of the line, `atx_1` is the run of `#` and `atx_2` the whole rest of the line. -/
theorem atxRule_matchAt_hit (pre ind hashes tail rest : Str) (hbol : pre = [] ∨ pre.getLast? = some '\n')
    (h : AtxLine ind hashes tail rest) :
    atxRuleRx.matchAt (Py.ctxOf (pre ++ ind ++ hashes ++ tail ++ rest)) pre.length =
      some (atxMatch pre.length ind hashes tail) := by
  rw [List.append_assoc, List.append_assoc, List.append_assoc]
  obtain ⟨hb, hd0, hle⟩ := at_line_start pre (ind ++ (hashes ++ (tail ++ rest))) hbol
  generalize pre ++ (ind ++ (hashes ++ (tail ++ rest))) = S at hb hd0 hle ⊢
  have hd1 := drop_append hd0
  have hd2 := drop_append hd1
  have hlen := drop_length_le hd0 hle
  simp only [List.length_append] at hlen
  obtain ⟨hs', hxs⟩ := h.hashes_cons
  unfold atxRuleRx
  -- `^`, ` {0,3}`, `#{1,6}` in group 1, `(?!#+)` (what follows the run is not a `#`), group 2 and `$`
  exact (reaches_seq (reaches_bol [] hb)
    (reaches_seq (reaches_run (clsTest_chr1 pyCats ' ') 0 (some 3) [] hd0 hle (fun ch hch => by simp [h.ind_blank ch hch])
        (Or.inr (fun ch hch => by rw [hxs] at hch; cases hch; rfl)) (fun m hm => by cases hm; exact h.ind_le)
        (Nat.zero_le _))
      (reaches_seq (reaches_grp 1 (reaches_run clsTest_hash 1 (some 6) [] hd1 (by omega)
          (fun ch hch => by simp [isHash, h.hashes_hash ch hch]) (Or.inr h.tail.head_not_hash)
          (fun m hm => by cases hm; exact h.hashes_le) h.hashes_pos))
        (reaches_seq (reaches_look_neg 0 _ (run_fails clsTest_hash 0 none true _ hd2 h.tail.head_not_hash))
          (atxTail_reaches hd2 (by omega) h.tail _))))).matchAt

/-! ### the ATX rule: what a match looks like -/

/-- **Only heading lines fire the ATX rule**: a match of `ATX_HEADING` at `q` starts at a line start, and the subject
from `q` on is a heading line (at most three blanks, one to six `#`, then the end of the line or a blank / tab and
anything up to the end of the line). -/
theorem atxRule_matchAt_sound (s : Str) (q : Nat) (mt : RxMatch)
    (h : atxRuleRx.matchAt (Py.ctxOf s) q = some mt) :
    bolAt s q ∧ ∃ ind hashes tail rest, s.drop q = ind ++ hashes ++ tail ++ rest ∧ AtxLine ind hashes tail rest := by
  obtain ⟨_, hs⟩ := matchAt_sound _ _ _ _ h
  unfold atxRuleRx at hs
  obtain ⟨i0, c0, hbol, hs⟩ := spec_seq.mp hs
  obtain ⟨hb, rfl, rfl⟩ := spec_bol hbol
  obtain ⟨i1, c1, h1, hs⟩ := spec_seq.mp hs
  obtain ⟨i2, c2, hg1, hs⟩ := spec_seq.mp hs
  obtain ⟨i3, c3, hlook, hs⟩ := spec_seq.mp hs
  obtain ⟨i4, c4, hg2, heol⟩ := spec_seq.mp hs
  obtain ⟨ind, hd1, rfl, rfl, _, hind3, hind⟩ := spec_run (clsTest_chr1 pyCats ' ') h1
  obtain ⟨c1', h2, _⟩ := spec_grp.mp hg1
  obtain ⟨hashes, hd2, rfl, _, hh1, hh6, hhs⟩ := spec_run clsTest_hash h2
  obtain ⟨rfl, _⟩ := spec_look_neg.mp hlook
  obtain ⟨c2', halt, _⟩ := spec_grp.mp hg2
  obtain ⟨_, _, hrest⟩ := spec_eol heol
  refine ⟨hb, ?_⟩
  -- both alternatives: a run of blanks, then (only after a non-empty run) characters other than newlines
  have key : ∃ bl u, s.drop (i0 + ind.length + hashes.length) = bl ++ u ++ s.drop i4 ∧
      (∀ ch ∈ bl, isBlank ch = true) ∧ (bl = [] → u = []) ∧ '\n' ∉ u := by
    rcases spec_alt.mp halt with hA | hB
    · obtain ⟨bl, hd3, rfl, _, _, _, hbl⟩ := spec_run clsTest_blank hA
      exact ⟨bl, [], by rw [hd3, List.append_nil], hbl, fun _ => rfl, by simp⟩
    · obtain ⟨i5, c5, hB1, hB2⟩ := spec_seq.mp hB
      obtain ⟨bl, hd3, rfl, _, hlo, _, hbl⟩ := spec_run clsTest_blank hB1
      obtain ⟨u, hd4, rfl, _, _, _, hu⟩ := spec_run_any hB2
      exact ⟨bl, u, by rw [hd3, hd4, List.append_assoc], hbl, (fun e => by rw [e] at hlo; cases hlo),
        (fun e => by simpa using hu _ e)⟩
  obtain ⟨bl, u, hd3, hbl, h34, hu⟩ := key
  refine ⟨ind, hashes, bl ++ u, s.drop i4, by rw [hd1, hd2, hd3]; simp, ?_⟩
  refine ⟨fun ch hch => by simpa using hind ch hch, hind3 3 rfl, fun ch hch => by simpa [isHash] using hhs ch hch,
    hh1, hh6 6 rfl, ?_, ?_, hrest⟩
  · cases bl with
    | nil => left; rw [h34 rfl]; rfl
    | cons b bl' => exact Or.inr ⟨b, bl' ++ u, rfl, hbl b (by simp)⟩
  · intro hmem
    rcases List.mem_append.mp hmem with hm | hm
    · exact isBlank_ne_nl (hbl _ hm) rfl
    · exact hu hm

/-! ### rule firing composed with the handler -/

/-- the groups of the match, as texts -/
theorem atxMatch_groups (cfg : MdCfg) (hgroups : cfg.groups = groupIndex) (st : BlockState)
    (pre ind hashes tail rest : Str) (hx : st.x = Py.ctxOf (pre ++ ind ++ hashes ++ tail ++ rest)) :
    grp cfg st (atxMatch pre.length ind hashes tail) "atx_1" = hashes ∧
    grp cfg st (atxMatch pre.length ind hashes tail) "atx_2" = tail := by
  unfold grp groupNamed
  rw [hgroups, atxGroups_lookup.1, atxGroups_lookup.2, hx]
  constructor
  · show (some (Py.slice _ (pre.length + ind.length) (pre.length + ind.length + hashes.length))).getD [] = hashes
    rw [Option.getD_some, show pre ++ ind ++ hashes ++ tail ++ rest = (pre ++ ind) ++ hashes ++ (tail ++ rest) by simp]
    exact slice_mid _ _ _ _ _ (by simp) (by simp)
  · show (some (Py.slice _ (pre.length + ind.length + hashes.length)
      (pre.length + ind.length + hashes.length + tail.length))).getD [] = tail
    rw [Option.getD_some]
    exact slice_mid _ _ _ _ _ (by simp; omega) (by simp; omega)

/-- **An ATX heading line produces its heading token.**  With the subject `pre ++ line ++ rest`, `pre` empty or ending
with a newline, `line = ind ++ hashes ++ tail` a heading line and `rest` empty or starting with a newline: the rule
regex of `block.specification` matches at the start of the line, and `parse_atx_heading` on that match appends one
`heading` token with `level = len(hashes)` and `text = atxSpec tail` (strip, then remove a closing sequence), and returns
the position after the line's newline (`m.end() + 1`, also when the subject ends without newline). -/
theorem atx_line_token (cfg : MdCfg) (hnamed : cfg.named = namedRx) (hgroups : cfg.groups = groupIndex)
    (st : BlockState) (pre ind hashes tail rest : Str)
    (hx : st.x = Py.ctxOf (pre ++ ind ++ hashes ++ tail ++ rest))
    (hbol : pre = [] ∨ pre.getLast? = some '\n') (h : AtxLine ind hashes tail rest) :
    Py.matchAt atxRuleRx st.x pre.length = some (atxMatch pre.length ind hashes tail) ∧
    parseAtxHeading cfg (atxMatch pre.length ind hashes tail) st =
      .ok (some (pre.length + ind.length + hashes.length + tail.length + 1),
        st.appendToken (atxToken (atxSpec tail) hashes.length)) := by
  constructor
  · rw [hx, pyMatchAt_eq _ _ _ (by simp only [List.length_append]; omega)]
    exact atxRule_matchAt_hit pre ind hashes tail rest hbol h
  · obtain ⟨h1, h2⟩ := atxMatch_groups cfg hgroups st pre ind hashes tail rest hx
    rw [parseAtxHeading_spec cfg hnamed, h1, h2]
    rfl

/-- the same through the dispatcher `Parser.parse_method`, for every regenerated configuration: the rule name is
`atx_heading`, its regex is looked up in `block.specification` -/
theorem atx_line_token_cfg (c : RuleCfg) (hc : c ∈ allCfgs) (fuel : Nat) (st : BlockState)
    (pre ind hashes tail rest : Str) (hx : st.x = Py.ctxOf (pre ++ ind ++ hashes ++ tail ++ rest))
    (hbol : pre = [] ∨ pre.getLast? = some '\n') (h : AtxLine ind hashes tail rest) :
    ∃ rx mt, (ofRuleCfg c).blockSpec.lookup "atx_heading" = some rx ∧
      scMatch st.x [("atx_heading", rx)] pre.length = some ("atx_heading", mt) ∧
      mt.start = pre.length ∧ mt.stop = pre.length + ind.length + hashes.length + tail.length ∧
      parseMethod (ofRuleCfg c) (fuel + 1) "atx_heading" mt st =
        .ok (some (mt.stop + 1), st.appendToken (atxToken (atxSpec tail) hashes.length)) := by
  obtain ⟨h1, h2⟩ := atx_line_token (ofRuleCfg c) rfl rfl st pre ind hashes tail rest hx hbol h
  refine ⟨atxRuleRx, atxMatch pre.length ind hashes tail, atxRule_lookup c hc, ?_, rfl, rfl, h2⟩
  unfold scMatch scanAt
  unfold Py.matchAt at h1
  rw [h1]

/-! ### the thematic-break rule: success on every line of the three families -/

/-- the characters of a break line after the indentation: `c`, blanks/tabs, `c`, blanks/tabs, … (`units` are the runs of
blanks/tabs after each `c`) -/
def breakBody (c : Char) (units : List Str) : Str := (units.map (fun bl => c :: bl)).flatten

theorem breakBody_cons (c : Char) (bl : Str) (us : List Str) :
    breakBody c (bl :: us) = c :: bl ++ breakBody c us := rfl

/-- a thematic-break line: `ind ++ breakBody c units`, followed by `rest` -/
structure BreakLine (ind : Str) (units : List Str) (rest : Str) : Prop where
  ind_blank : ∀ ch ∈ ind, ch = ' '
  ind_le : ind.length ≤ 3
  units_blank : ∀ bl ∈ units, ∀ ch ∈ bl, isBlank ch = true
  three : 3 ≤ units.length
  rest : rest = [] ∨ ∃ r', rest = '\n' :: r'

theorem BreakLine.body_cons {ind : Str} {units : List Str} {rest : Str} (h : BreakLine ind units rest) (c : Char) :
    ∃ more, breakBody c units = c :: more := by
  obtain ⟨b, us, rfl⟩ := List.exists_cons_of_ne_nil (List.ne_nil_of_length_pos (Nat.lt_of_lt_of_le (by decide) h.three))
  exact ⟨b ++ breakBody c us, rfl⟩

/-- the three break characters are none of the characters the classes and the rules around them look for -/
theorem breakChar_ne {c : Char} (hc : c = '-' ∨ c = '_' ∨ c = '*') :
    isBlank c = false ∧ c ≠ '\n' ∧ c ≠ ' ' ∧ c ≠ '\t' ∧ c ≠ '`' ∧ c ≠ '~' ∧ c ≠ '#' := by
  rcases hc with rfl | rfl | rfl <;> decide

/-- **the greedy path of `(?:c[ \t]*){3,}`**: every iteration takes one `c` and the maximal run of blanks/tabs after it
(up to the next `c`, or to what follows the line) -/
theorem breakUnits_iter {s : Str} (c : Char) (hc1 : isBlank c = false) (rest : Str)
    (hrest : ∀ ch, rest.head? = some ch → isBlank ch = false) (caps : Caps) :
    ∀ (units : List Str) (i : Nat), s.drop i = breakBody c units ++ rest → i ≤ s.length →
      (∀ bl ∈ units, ∀ ch ∈ bl, isBlank ch = true) →
      Iter (fun i c0 j c' => Reaches (Py.ctxOf s)
          (.seq (.cls false [.chr c.toNat]) (.rep (.cls false [.chr 32, .chr 9]) 0 none true)) i c0 j c' ∧ i < j)
        units.length i caps (i + (breakBody c units).length) caps := by
  intro units
  induction units with
  | nil => intro i _ _ _; exact Iter.zero i caps
  | cons bl us ih =>
    intro i hd hi hbl
    have hd0 : s.drop i = [c] ++ (bl ++ (breakBody c us ++ rest)) := by rw [hd, breakBody_cons]; simp
    have hd1 : s.drop (i + 1) = bl ++ (breakBody c us ++ rest) := drop_append hd0
    have hd2 := drop_append hd1
    have hlen := drop_length_le hd0 hi
    simp only [List.length_append, List.length_cons, List.length_nil] at hlen
    have hnext : ∀ ch, (breakBody c us ++ rest).head? = some ch → isBlank ch = false := by
      cases us with
      | nil => exact hrest
      | cons b us' => intro ch hch; cases hch; exact hc1
    rw [show i + (breakBody c (bl :: us)).length = i + 1 + bl.length + (breakBody c us).length by
      rw [breakBody_cons]; simp only [List.length_append, List.length_cons]; omega]
    exact Iter.succ
      ⟨reaches_seq (reaches_chr (clsTest_chr1 pyCats c) caps hd0 (by simp))
        (reaches_run clsTest_blank 0 none caps hd1 (by omega) (hbl bl (by simp)) (Or.inr hnext)
          (by intro m hm; cases hm) (Nat.zero_le _)), by omega⟩
      (ih _ hd2 (by omega) (fun b hb => hbl b (by simp [hb])))

/-- the match of the thematic-break rule on a break line that starts at `p` -/
def breakMatch (p : Nat) (ind body : Str) : RxMatch :=
  { start := p, stop := p + ind.length + body.length,
    caps := [(1, (p + ind.length, p + ind.length + body.length))] }

/-- a family fails where the text goes on with another character -/
theorem breakFamily_other {s more : Str} {i : Nat} {c : Char} (d : Char) (hd : s.drop i = c :: more) (hcd : c ≠ d)
    (caps : Caps) {R : Type} (k : Nat → Caps → Option R) : (breakFamily d.toNat).m (Py.ctxOf s) i caps k = none := by
  refine fails_of_spec (fun j c' hs => ?_) k
  obtain ⟨_, _, h1⟩ := spec_rep_first hs
  obtain ⟨_, _, h2, _⟩ := spec_seq.mp h1
  obtain ⟨ch, hd', _, _, hch⟩ := spec_chr (clsTest_chr1 pyCats d) h2
  rw [hd] at hd'
  injection hd' with e
  exact hcd (by rw [e]; simpa using hch)

/-- **The thematic-break rule fires on every break line** of the three families: at a line start, at most three
blanks, then at least three times the same character `-`, `_` or `*`, each followed by any number of blanks/tabs, then
the end of the line.  The match ends at the end of the line. -/
theorem thematicRule_matchAt_hit (c : Char) (hc : c = '-' ∨ c = '_' ∨ c = '*') (pre ind : Str) (units : List Str)
    (rest : Str) (hbol : pre = [] ∨ pre.getLast? = some '\n') (h : BreakLine ind units rest) :
    thematicRuleRx.matchAt (Py.ctxOf (pre ++ ind ++ breakBody c units ++ rest)) pre.length =
      some (breakMatch pre.length ind (breakBody c units)) := by
  obtain ⟨hc1, hc2, hc3, _⟩ := breakChar_ne hc
  obtain ⟨bm, hbm⟩ := h.body_cons c
  rw [List.append_assoc, List.append_assoc]
  obtain ⟨hb, hd0, hle⟩ := at_line_start pre (ind ++ (breakBody c units ++ rest)) hbol
  generalize pre ++ (ind ++ (breakBody c units ++ rest)) = S at hb hd0 hle ⊢
  have hd1 := drop_append hd0
  have hd2 := drop_append hd1
  have hlen := drop_length_le hd0 hle
  simp only [List.length_append] at hlen
  have hrest := rest_head h.rest
  -- the family of the line, greedily to the end of the line: after the last unit there is no further `c`
  have hfam : Reaches (Py.ctxOf S) (breakFamily c.toNat) (pre.length + ind.length) []
      (pre.length + ind.length + (breakBody c units).length) [] :=
    reaches_rep_iter
      (breakUnits_iter c hc1 rest (fun ch hch => by rw [hrest ch hch]; rfl) [] units _ hd1 (by omega) h.units_blank)
      (Or.inr (seq_fails _ (chr_fails (clsTest_chr1 pyCats c) [] hd2 fun ch hch => by
        rw [hrest ch hch]; simpa using hc2.symm)))
      h.three (by intro m hm; cases hm) (by rw [ctxOf_n]; omega)
  have hgrp : Reaches (Py.ctxOf S) (.alt (breakFamily 45) (.alt (breakFamily 95) (breakFamily 42)))
      (pre.length + ind.length) [] (pre.length + ind.length + (breakBody c units).length) [] := by
    rw [hbm] at hd1
    rcases hc with rfl | rfl | rfl
    · exact reaches_alt_left _ hfam
    · exact reaches_alt_right (breakFamily_other '-' hd1 (by decide) []) (reaches_alt_left _ hfam)
    · exact reaches_alt_right (breakFamily_other '-' hd1 (by decide) [])
        (reaches_alt_right (breakFamily_other '_' hd1 (by decide) []) hfam)
  unfold thematicRuleRx
  exact (reaches_seq (reaches_bol [] hb)
    (reaches_seq (reaches_run (clsTest_chr1 pyCats ' ') 0 (some 3) [] hd0 hle (fun ch hch => by simp [h.ind_blank ch hch])
        (Or.inr (fun ch hch => by rw [hbm] at hch; cases hch; simpa using hc3))
        (fun m hm => by cases hm; exact h.ind_le) (Nat.zero_le _))
      (reaches_seq (reaches_grp 1 hgrp) (reaches_eol_drop _ hd2 (by omega) h.rest)))).matchAt

/-- `parse_thematic_break` on that match: one `thematic_break` token; the cursor goes after the line's newline -/
theorem break_line_token (c : Char) (hc : c = '-' ∨ c = '_' ∨ c = '*') (st : BlockState) (pre ind : Str)
    (units : List Str) (rest : Str) (hx : st.x = Py.ctxOf (pre ++ ind ++ breakBody c units ++ rest))
    (hbol : pre = [] ∨ pre.getLast? = some '\n') (h : BreakLine ind units rest) :
    Py.matchAt thematicRuleRx st.x pre.length = some (breakMatch pre.length ind (breakBody c units)) ∧
    parseThematicBreak (breakMatch pre.length ind (breakBody c units)) st =
      .ok (some (pre.length + ind.length + (breakBody c units).length + 1),
        st.appendToken (tok "thematic_break" [])) := by
  refine ⟨?_, rfl⟩
  rw [hx, pyMatchAt_eq _ _ _ (by simp only [List.length_append]; omega)]
  exact thematicRule_matchAt_hit c hc pre ind units rest hbol h

/-! ### the thematic-break rule: what a match looks like -/

/-- the iterations of `(?:c[ \t]*)` cut the text into units -/
theorem iter_break (s : Str) (c : Char) {cnt i : Nat} {caps : Caps} {j : Nat} {caps' : Caps}
    (h : Iter (Spec (Py.ctxOf s) (.seq (.cls false [.chr c.toNat]) (.rep (.cls false [.chr 32, .chr 9]) 0 none true)))
      cnt i caps j caps') :
    ∃ units : List Str, units.length = cnt ∧ (∀ bl ∈ units, ∀ ch ∈ bl, isBlank ch = true) ∧
      s.drop i = breakBody c units ++ s.drop j := by
  induction h with
  | zero i c0 => exact ⟨[], rfl, by simp, by simp [breakBody]⟩
  | succ hs _ ih =>
    obtain ⟨units, hu1, hu2, hu3⟩ := ih
    obtain ⟨i1, c1', hcls, hrep⟩ := spec_seq.mp hs
    obtain ⟨ch, hd, rfl, _, hch⟩ := spec_chr (clsTest_chr1 pyCats c) hcls
    obtain ⟨bl, hd', rfl, _, _, _, hbl⟩ := spec_run clsTest_blank hrep
    refine ⟨bl :: units, by simp [hu1], List.forall_mem_cons.mpr ⟨hbl, hu2⟩, ?_⟩
    rw [hd, hd', hu3, breakBody_cons, show ch = c by simpa using hch]
    simp

/-- **Only break lines fire the thematic-break rule.** -/
theorem thematicRule_matchAt_sound (s : Str) (q : Nat) (mt : RxMatch)
    (h : thematicRuleRx.matchAt (Py.ctxOf s) q = some mt) :
    bolAt s q ∧ ∃ c ind units rest, (c = '-' ∨ c = '_' ∨ c = '*') ∧ s.drop q = ind ++ breakBody c units ++ rest ∧
      BreakLine ind units rest := by
  obtain ⟨_, hs⟩ := matchAt_sound _ _ _ _ h
  unfold thematicRuleRx at hs
  obtain ⟨i0, c0, hbol, hs⟩ := spec_seq.mp hs
  obtain ⟨hb, rfl, rfl⟩ := spec_bol hbol
  obtain ⟨i1, c1, h1, hs⟩ := spec_seq.mp hs
  obtain ⟨i2, c2, hg, heol⟩ := spec_seq.mp hs
  obtain ⟨ind, hd1, rfl, rfl, _, hind3, hind⟩ := spec_run (clsTest_chr1 pyCats ' ') h1
  obtain ⟨c1', halt, _⟩ := spec_grp.mp hg
  obtain ⟨_, _, hrest⟩ := spec_eol heol
  refine ⟨hb, ?_⟩
  have fam : ∀ (c : Char) (ca cb : Caps), Spec (Py.ctxOf s) (breakFamily c.toNat) (i0 + ind.length) ca i2 cb →
      ∃ units, s.drop i0 = ind ++ breakBody c units ++ s.drop i2 ∧ BreakLine ind units (s.drop i2) := by
    intro c ca cb hf
    obtain ⟨cnt, hcnt, _, hit⟩ := spec_rep.mp hf
    obtain ⟨units, hu1, hu2, hu3⟩ := iter_break s c hit
    exact ⟨units, by rw [hd1, hu3, List.append_assoc],
      ⟨fun ch hch => by simpa using hind ch hch, hind3 3 rfl, hu2, by omega, hrest⟩⟩
  rcases spec_alt.mp halt with h45 | h2
  · obtain ⟨units, e, hl⟩ := fam '-' _ _ h45
    exact ⟨'-', ind, units, _, Or.inl rfl, e, hl⟩
  · rcases spec_alt.mp h2 with h95 | h42
    · obtain ⟨units, e, hl⟩ := fam '_' _ _ h95
      exact ⟨'_', ind, units, _, Or.inr (Or.inl rfl), e, hl⟩
    · obtain ⟨units, e, hl⟩ := fam '*' _ _ h42
      exact ⟨'*', ind, units, _, Or.inr (Or.inr rfl), e, hl⟩

/-- a subject cut at a line start before its end -/
theorem cut_at_bol (s : Str) (q : Nat) (hb : bolAt s q) (hne : s.drop q ≠ []) :
    (s.take q).length = q ∧ (s.take q = [] ∨ (s.take q).getLast? = some '\n') := by
  have hq : q ≤ s.length := by
    rcases Nat.lt_or_ge s.length q with h | h
    · exact absurd (List.drop_eq_nil_of_le (by omega)) hne
    · exact h
  have hlen : (s.take q).length = q := by simp [hq]
  refine ⟨hlen, (bolAt_append_length _ (s.drop q)).mp ?_⟩
  rw [List.take_append_drop, hlen]
  exact hb

/-- **The thematic-break rule, sound and complete**: `THEMATIC_BREAK.match(s, q)` succeeds iff `q` is a line start and
the text from `q` on starts with a break line of one of the three families. -/
theorem thematicRule_matchAt_iff (s : Str) (q : Nat) :
    (∃ mt, thematicRuleRx.matchAt (Py.ctxOf s) q = some mt) ↔
      bolAt s q ∧ ∃ c ind units rest, (c = '-' ∨ c = '_' ∨ c = '*') ∧ s.drop q = ind ++ breakBody c units ++ rest ∧
        BreakLine ind units rest := by
  constructor
  · rintro ⟨mt, h⟩
    exact thematicRule_matchAt_sound s q mt h
  · rintro ⟨hb, c, ind, units, rest, hc, hd, hl⟩
    obtain ⟨bm, hbm⟩ := hl.body_cons c
    obtain ⟨hlen, hbol⟩ := cut_at_bol s q hb (by rw [hd, hbm]; simp)
    have := thematicRule_matchAt_hit c hc (s.take q) ind units rest hbol hl
    rw [List.append_assoc, List.append_assoc, ← List.append_assoc ind, ← hd, List.take_append_drop, hlen] at this
    exact ⟨_, this⟩

/-! ### C13: the round trip through `MarkdownRenderer.heading` / `thematic_break` -/

/-- the heading texts that survive `# text`: not a run of `#` only, and a final run of `#` is glued to the text (no white
space before it).  (`b` is the text without its final run of `#`.) -/
def headingTextOk (text : Str) : Bool :=
  let b := rdropWhile isHash text
  !b.isEmpty && !(decide (b.length < text.length) && decide ((rdropWhile isSpace b).length < b.length))

/-- **characterisation**: `_ATX_HEADING_TRIM.sub("", t)` leaves a non-empty `t` alone exactly when `headingTextOk t` -/
theorem atxCore_fixed_iff (t : Str) (hne : t ≠ []) : atxCore t = t ↔ headingTextOk t = true := by
  unfold atxCore headingTextOk
  simp only
  split
  · next hb => simpa [hb] using Ne.symm hne
  · next hb =>
    split
    · next hc =>
      -- `body` is shorter than `t`
      simp only [hb, hc, Bool.not_false, Bool.not_true, Bool.and_false, Bool.false_eq_true, iff_false]
      intro h
      simp only [Bool.and_eq_true, decide_eq_true_eq] at hc
      have := congrArg List.length h
      omega
    · next hc => simp [hb, hc]

/-- a text without white space at its ends, written after `"# "`: the handler's text computation is `atxCore text` -/
theorem atxSpec_blank (text : Str) (hstrip : Py.strip text = text) : atxSpec (' ' :: text) = atxCore text := by
  obtain ⟨hh, hl⟩ := (strip_eq_self_iff isSpace text).mp hstrip
  have := pyStrip_pad [' '] text [] (by decide) (by simp) hh hl
  rw [atxSpec_eq_core]
  simp only [List.append_nil, List.singleton_append] at this
  rw [this]

/-- **which heading texts come back**: for a non-empty text without white space at its ends (`text.strip() == text`,
Unicode white space), `parse_atx_heading` recovers `text` from `"# " + text` iff `headingTextOk text` -/
theorem atxSpec_blank_fixed_iff (text : Str) (hne : text ≠ []) (hstrip : Py.strip text = text) :
    atxSpec (' ' :: text) = text ↔ headingTextOk text = true := by
  rw [atxSpec_blank text hstrip]
  exact atxCore_fixed_iff text hne

/-- in particular every such text that does not end with `#` -/
theorem headingTextOk_of_last (text : Str) (hne : text ≠ []) (hstrip : Py.strip text = text)
    (hlast : text.getLast? ≠ some '#') : headingTextOk text = true := by
  rw [← atxSpec_blank_fixed_iff text hne hstrip, ← atxText_eq atxCfg rfl]
  have := atx_plain_verbatim atxCfg rfl [' '] text [] hne hstrip hlast (by decide) (by simp)
  simpa using this

/-- behind a line and its newline: the rest of the subject, at a line start -/
theorem drop_after_line (A post : Str) (n : Nat) (hn : n = A.length + 1) :
    (A ++ '\n' :: post).drop n = post ∧ bolAt (A ++ '\n' :: post) n := by
  have e : A ++ '\n' :: post = (A ++ ['\n']) ++ post := by simp
  have hl : (A ++ ['\n']).length = n := by rw [hn]; simp
  rw [e, ← hl]
  exact ⟨List.drop_left, (bolAt_append_length _ _).mpr (Or.inr (by simp))⟩

theorem mdHeading_eq (level : Nat) (text : Str) :
    mdHeading level text = [] ++ List.replicate level '#' ++ (' ' :: text) ++ '\n' :: ['\n'] := by
  simp [mdHeading]

/-- what `MarkdownRenderer.heading` writes is a heading line -/
theorem mdHeading_line (level : Nat) (text rest : Str) (h1 : 1 ≤ level) (h6 : level ≤ 6) (hnl : '\n' ∉ text)
    (hrest : rest = [] ∨ ∃ r', rest = '\n' :: r') : AtxLine [] (List.replicate level '#') (' ' :: text) rest where
  ind_blank := by simp
  ind_le := by simp
  hashes_hash := fun ch hch => List.eq_of_mem_replicate hch
  hashes_pos := by simpa using h1
  hashes_le := by simpa using h6
  tail := ⟨Or.inr ⟨' ', text, rfl, rfl⟩, by
    intro h
    rcases List.mem_cons.mp h with h | h
    · cases h
    · exact hnl h, hrest⟩

/-- **Round trip of a heading.**  For every level `1..6` and every text that is non-empty, lies within one line, has no
(Unicode) white space at its ends and satisfies `headingTextOk` (see `atxSpec_blank_fixed_iff`: this is necessary): in a
subject in which the text written by `MarkdownRenderer.heading` starts at a line start, the ATX rule matches at its start,
`parse_atx_heading` appends a `heading` token with exactly that level and that text, and the returned cursor is the
start of the blank line the renderer wrote (whatever follows). -/
theorem md_heading_roundtrip (cfg : MdCfg) (hnamed : cfg.named = namedRx) (hgroups : cfg.groups = groupIndex)
    (st : BlockState) (pre post text : Str) (level : Nat)
    (hx : st.x = Py.ctxOf (pre ++ mdHeading level text ++ post))
    (hbol : pre = [] ∨ pre.getLast? = some '\n') (h1 : 1 ≤ level) (h6 : level ≤ 6)
    (hne : text ≠ []) (hnl : '\n' ∉ text) (hstrip : Py.strip text = text) (hok : headingTextOk text = true) :
    ∃ mt cursor, Py.matchAt atxRuleRx st.x pre.length = some mt ∧
      parseAtxHeading cfg mt st = .ok (some cursor, st.appendToken (atxToken text level)) ∧
      cursor = pre.length + level + 1 + text.length + 1 ∧
      (pre ++ mdHeading level text ++ post).drop cursor = '\n' :: post ∧
      bolAt (pre ++ mdHeading level text ++ post) cursor := by
  have hS : pre ++ mdHeading level text ++ post =
      pre ++ [] ++ List.replicate level '#' ++ (' ' :: text) ++ ('\n' :: '\n' :: post) := by
    rw [mdHeading_eq]; simp
  obtain ⟨hm, hp⟩ := atx_line_token cfg hnamed hgroups st pre [] (List.replicate level '#') (' ' :: text)
    ('\n' :: '\n' :: post) (by rw [hx, hS]) hbol (mdHeading_line level text _ h1 h6 hnl (Or.inr ⟨_, rfl⟩))
  rw [(atxSpec_blank_fixed_iff text hne hstrip).mpr hok] at hp
  simp only [List.length_nil, List.length_replicate, List.length_cons, Nat.add_zero] at hp
  have e : pre ++ mdHeading level text ++ post =
      (pre ++ List.replicate level '#' ++ ' ' :: text) ++ '\n' :: ('\n' :: post) := by rw [hS]; simp
  have hl : pre.length + level + (text.length + 1) + 1 = (pre ++ List.replicate level '#' ++ ' ' :: text).length + 1 := by
    simp only [List.length_append, List.length_replicate, List.length_cons]
  rw [e]
  exact ⟨_, _, hm, hp, by omega, drop_after_line _ _ _ hl⟩

theorem mdThematicBreak_eq : mdThematicBreak = [] ++ breakBody '*' [[], [], []] ++ '\n' :: ['\n'] := rfl

/-- **Round trip of a thematic break.**  In a subject in which the text written by `MarkdownRenderer.thematic_break`
starts at a line start, the thematic-break rule matches at its start, `parse_thematic_break` appends a `thematic_break`
token, and the returned cursor is the start of the blank line the renderer wrote. -/
theorem md_thematic_break_roundtrip (st : BlockState) (pre post : Str)
    (hx : st.x = Py.ctxOf (pre ++ mdThematicBreak ++ post)) (hbol : pre = [] ∨ pre.getLast? = some '\n') :
    ∃ mt cursor, Py.matchAt thematicRuleRx st.x pre.length = some mt ∧
      parseThematicBreak mt st = .ok (some cursor, st.appendToken (tok "thematic_break" [])) ∧
      cursor = pre.length + 4 ∧
      (pre ++ mdThematicBreak ++ post).drop cursor = '\n' :: post ∧ bolAt (pre ++ mdThematicBreak ++ post) cursor := by
  have hS : pre ++ mdThematicBreak ++ post = pre ++ [] ++ breakBody '*' [[], [], []] ++ ('\n' :: '\n' :: post) := by
    rw [mdThematicBreak_eq]; simp
  obtain ⟨hm, hp⟩ := break_line_token '*' (Or.inr (Or.inr rfl)) st pre [] [[], [], []] ('\n' :: '\n' :: post)
    (by rw [hx, hS]) hbol ⟨by simp, by simp, by simp, by simp, Or.inr ⟨_, rfl⟩⟩
  have e : pre ++ mdThematicBreak ++ post = (pre ++ ['*', '*', '*']) ++ '\n' :: ('\n' :: post) := by
    simp [mdThematicBreak]
  rw [e]
  exact ⟨_, _, hm, hp, rfl, drop_after_line _ _ _ (by simp [breakBody])⟩

/-! ### the ATX rule, decided: a match exists iff the line passes `atxLineOk` -/

/-- the shape test on the text from the line start on: the maximal run of blanks has at most three characters, the
maximal run of `#` after it one to six, and what follows is the end of the text, a newline, a blank or a tab -/
def atxTailOk : Str → Bool
  | [] => true
  | ch :: _ => isBlank ch || ch == '\n'

def atxLineOk (l : Str) : Bool :=
  let ind := l.takeWhile (· == ' ')
  let r1 := l.dropWhile (· == ' ')
  let hs := r1.takeWhile isHash
  let r2 := r1.dropWhile isHash
  decide (ind.length ≤ 3) && decide (1 ≤ hs.length) && decide (hs.length ≤ 6) && atxTailOk r2

/-- the runs computed by `atxLineOk` on `ind ++ hashes ++ more`, when `more` does not start with `#` -/
theorem atxLineOk_runs (ind hashes more : Str) (hind : ∀ ch ∈ ind, ch = ' ') (hhs : ∀ ch ∈ hashes, ch = '#')
    (hmore : ∀ ch r, more = ch :: r → isHash ch = false) (hsp : hashes = [] → ∀ ch r, more = ch :: r → ch ≠ ' ') :
    atxLineOk (ind ++ hashes ++ more) =
      (decide (ind.length ≤ 3) && decide (1 ≤ hashes.length) && decide (hashes.length ≤ 6) && atxTailOk more) := by
  have hind' : ∀ ch ∈ ind, (ch == ' ') = true := fun ch hch => by simp [hind ch hch]
  have hhs' : ∀ ch ∈ hashes, isHash ch = true := fun ch hch => by simp [isHash, hhs ch hch]
  have hnext : ∀ ch r, hashes ++ more = ch :: r → (ch == ' ') = false := by
    intro ch r e
    cases hashes with
    | nil => simpa using hsp rfl ch r e
    | cons x hs' =>
      simp only [List.cons_append, List.cons.injEq] at e
      rw [← e.1, hhs x (by simp)]; decide
  have h1 : (ind ++ hashes ++ more).takeWhile (· == ' ') = ind := by
    rw [List.append_assoc, List.takeWhile_append_of_pos hind', takeWhile_nil_of_head hnext, List.append_nil]
  have h2 : (ind ++ hashes ++ more).dropWhile (· == ' ') = hashes ++ more := by
    rw [List.append_assoc, List.dropWhile_append_of_pos hind', dropWhile_id_of_head hnext]
  have h3 : (hashes ++ more).takeWhile isHash = hashes := by
    rw [List.takeWhile_append_of_pos hhs', takeWhile_nil_of_head hmore, List.append_nil]
  have h4 : (hashes ++ more).dropWhile isHash = more := by
    rw [List.dropWhile_append_of_pos hhs', dropWhile_id_of_head hmore]
  simp only [atxLineOk, h1, h2, h3, h4]

theorem atxLineOk_of_line (ind hashes tail rest : Str) (h : AtxLine ind hashes tail rest) :
    atxLineOk (ind ++ hashes ++ tail ++ rest) = true := by
  obtain ⟨hs', hxs⟩ := h.hashes_cons
  rw [List.append_assoc, atxLineOk_runs ind hashes (tail ++ rest) h.ind_blank h.hashes_hash (by
    intro ch r e
    exact h.tail.head_not_hash ch (by rw [e]; rfl)) (fun e => by rw [hxs] at e; cases e)]
  simp only [h.ind_le, h.hashes_pos, h.hashes_le, decide_true, Bool.true_and]
  rcases h.tail.head with rfl | ⟨b, t', rfl, hb⟩
  · rcases h.tail.rest with rfl | ⟨r', rfl⟩
    · rfl
    · rfl
  · simp [atxTailOk, hb]

theorem line_of_atxLineOk (l : Str) (h : atxLineOk l = true) :
    ∃ ind hashes tail rest, l = ind ++ hashes ++ tail ++ rest ∧ AtxLine ind hashes tail rest := by
  simp only [atxLineOk, Bool.and_eq_true, decide_eq_true_eq] at h
  obtain ⟨⟨⟨h1, h2⟩, h3⟩, h4⟩ := h
  obtain ⟨tl, htl, htl'⟩ := firstLine_spec ((l.dropWhile (· == ' ')).dropWhile isHash)
  refine ⟨l.takeWhile (· == ' '), (l.dropWhile (· == ' ')).takeWhile isHash,
    firstLine ((l.dropWhile (· == ' ')).dropWhile isHash), tl, ?_, ?_⟩
  · rw [List.append_assoc, ← htl, List.append_assoc, List.takeWhile_append_dropWhile,
      List.takeWhile_append_dropWhile]
  · refine ⟨fun ch hch => by simpa using mem_takeWhile_pos hch, h1,
      fun ch hch => by simpa [isHash] using mem_takeWhile_pos hch, h2, h3, ?_, firstLine_no_nl _, htl'⟩
    generalize (l.dropWhile (· == ' ')).dropWhile isHash = r2 at h4
    cases r2 with
    | nil => left; rfl
    | cons ch r' =>
      simp only [atxTailOk, Bool.or_eq_true, beq_iff_eq] at h4
      rcases h4 with h4 | h4
      · right
        exact ⟨ch, firstLine r', firstLine_cons ch r' (isBlank_ne_nl h4), h4⟩
      · left; rw [h4]; exact firstLine_nl r'

/-- **The ATX rule, sound and complete**: `ATX_HEADING.match(s, q)` succeeds iff `q` is a line start and the text from
`q` on passes the shape test (what the match is: `atxRule_matchAt_hit`). -/
theorem atxRule_matchAt_iff (s : Str) (q : Nat) :
    (∃ mt, atxRuleRx.matchAt (Py.ctxOf s) q = some mt) ↔ bolAt s q ∧ atxLineOk (s.drop q) = true := by
  constructor
  · rintro ⟨mt, h⟩
    obtain ⟨hb, ind, hashes, tail, rest, hd, hl⟩ := atxRule_matchAt_sound s q mt h
    exact ⟨hb, by rw [hd]; exact atxLineOk_of_line ind hashes tail rest hl⟩
  · rintro ⟨hb, hok⟩
    obtain ⟨ind, hashes, tail, rest, hd, hl⟩ := line_of_atxLineOk _ hok
    obtain ⟨hs', hxs⟩ := hl.hashes_cons
    obtain ⟨hlen, hbol⟩ := cut_at_bol s q hb (by rw [hd, hxs]; simp)
    have hs : s = s.take q ++ ind ++ hashes ++ tail ++ rest := by
      conv => lhs; rw [← List.take_append_drop q s, hd]
      simp
    have := atxRule_matchAt_hit (s.take q) ind hashes tail rest hbol hl
    rw [← hs, hlen] at this
    exact ⟨_, this⟩

theorem atxRule_matchAt_none (s : Str) (q : Nat) (h : atxLineOk (s.drop q) = false) :
    atxRuleRx.matchAt (Py.ctxOf s) q = none := by
  refine Option.eq_none_iff_forall_ne_some.mpr fun mt hm => ?_
  rw [((atxRule_matchAt_iff s q).mp ⟨mt, hm⟩).2] at h
  cases h

/-- **no heading with seven or more `#`** (whatever follows) -/
theorem atxRule_none_seven (pre ind hashes more : Str) (hind : ∀ ch ∈ ind, ch = ' ') (hhs : ∀ ch ∈ hashes, ch = '#')
    (h7 : 7 ≤ hashes.length) : atxRuleRx.matchAt (Py.ctxOf (pre ++ ind ++ hashes ++ more)) pre.length = none := by
  apply atxRule_matchAt_none
  rw [List.append_assoc, List.append_assoc, List.drop_left]
  -- move the `#`s at the start of `more` into the run
  have hsplit : more.takeWhile isHash ++ more.dropWhile isHash = more := List.takeWhile_append_dropWhile
  rw [← hsplit, ← List.append_assoc hashes, ← List.append_assoc ind,
    atxLineOk_runs ind (hashes ++ more.takeWhile isHash) (more.dropWhile isHash) hind
      (by
        intro ch hch
        rcases List.mem_append.mp hch with h | h
        · exact hhs ch h
        · simpa [isHash] using mem_takeWhile_pos h)
      (fun ch r e => head?_dropWhile_ne isHash more ch (by rw [e]; rfl))
      (by
        intro e
        have := congrArg List.length e
        simp only [List.length_append, List.length_nil] at this
        omega)]
  have : ¬ (hashes ++ more.takeWhile isHash).length ≤ 6 := by simp only [List.length_append]; omega
  rw [decide_eq_false this]
  simp

/-- **no heading when the run of `#` is glued to the text**: the character after the `#`s is neither a blank, a tab, a
newline (nor a further `#`) -/
theorem atxRule_none_glued (pre ind hashes : Str) (ch : Char) (more : Str) (hind : ∀ ch ∈ ind, ch = ' ')
    (hhs : ∀ ch ∈ hashes, ch = '#') (h1 : isBlank ch = false) (h2 : ch ≠ '\n') (h3 : ch ≠ '#') :
    atxRuleRx.matchAt (Py.ctxOf (pre ++ ind ++ hashes ++ ch :: more)) pre.length = none := by
  apply atxRule_matchAt_none
  rw [List.append_assoc, List.append_assoc, List.drop_left, ← List.append_assoc,
    atxLineOk_runs ind hashes (ch :: more) hind hhs
      (by intro c r e; injection e with e1 _; rw [← e1]; exact isHash_false h3)
      (by
        intro _ c r e; injection e with e1 _; rw [← e1]
        intro e2; rw [e2] at h1; revert h1; decide)]
  have : (ch == '\n') = false := by simpa using h2
  simp [atxTailOk, h1, this]

example : atxRuleRx.matchAt (Py.ctxOf ("a\n".toList ++ " ".toList ++ "#######".toList ++ " x".toList)) 2 = none :=
  atxRule_none_seven "a\n".toList " ".toList "#######".toList " x".toList (by decide) (by decide) (by decide)

example : atxRuleRx.matchAt (Py.ctxOf ("a\n".toList ++ [] ++ "##".toList ++ 'x' :: " y".toList)) 2 = none :=
  atxRule_none_glued "a\n".toList [] "##".toList 'x' " y".toList (by decide) (by decide) (by decide) (by decide)
    (by decide)

example : atxLineOk "## foo\nbar".toList = true ∧ atxLineOk "#foo".toList = false ∧ atxLineOk "    # foo".toList = false ∧
    atxLineOk "####### foo".toList = false ∧ atxLineOk "#".toList = true ∧ atxLineOk "#\t".toList = true := by decide +kernel

/-! ### the rules tried before `atx_heading` and `thematic_break`

The rules tried before `atx_heading` (`fenced_code`, `indent_code`) and before `thematic_break` (those, `atx_heading`,
`setex_heading`) do not match at the start of such a line, so the combined scanner reports the rule at the cursor and
the loop of `BlockParser.parse` calls the handler and moves the cursor behind the line. -/

/-- `^( {0,3})(`{3,}|~{3,})[ \t]*(.*?)$` with `re.M` (named groups `fenced_1..3`) -/
def fencedRuleRx : Rx :=
  .seq .bol (.seq (.grp 1 (.rep (.cls false [.chr 32]) 0 (some 3) true))
    (.seq (.grp 2 (.alt (.rep (.cls false [.chr 96]) 3 none true) (.rep (.cls false [.chr 126]) 3 none true)))
      (.seq (.rep (.cls false [.chr 32, .chr 9]) 0 none true) (.seq (.grp 3 (.rep (.any false) 0 none false)) .eol))))

/-- the start of `INDENT_CODE`: `^(?: {4}| *\t)`; the rest of the pattern is irrelevant here -/
def indentRuleHead : Rx :=
  .alt (.rep (.cls false [.chr 32]) 4 (some 4) true) (.seq (.rep (.cls false [.chr 32]) 0 none true) (.cls false [.chr 9]))

/-- `^ {0,3}(=|-)+[ \t]*$` with `re.M` -/
def setexRuleRx : Rx :=
  .seq .bol (.seq (.rep (.cls false [.chr 32]) 0 (some 3) true)
    (.seq (.rep (.grp 1 (.cls false [.chr 61, .chr 45])) 1 none true)
      (.seq (.rep (.cls false [.chr 32, .chr 9]) 0 none true) .eol)))

/-- `re.compile` output for `INDENT_CODE` begins with `^` and the head above -/
def indentRuleOk (r : Rx) : Bool :=
  match r with
  | .seq .bol (.seq h _) => h == indentRuleHead
  | _ => false

/-- **Obligations** on the regenerated `block.specification` of every configuration. -/
theorem fencedRule_lookup : ∀ c ∈ allCfgs, c.blockSpec.lookup "fenced_code" = some fencedRuleRx := by decide +kernel

theorem setexRule_lookup : ∀ c ∈ allCfgs, c.blockSpec.lookup "setex_heading" = some setexRuleRx := by decide +kernel

theorem indentRule_lookup : ∀ c ∈ allCfgs, (c.blockSpec.lookup "indent_code").any indentRuleOk = true := by
  decide +kernel

/-- on `ind ++ g :: more` (`ind` blanks, `g` not a blank) a run of blanks from the start stays within `ind`, so the
character after it is a blank or `g`: a class that contains neither does not match after the run -/
theorem cls_after_blanks {s ind more : Str} {q : Nat} {g : Char} (hd0 : s.drop q = ind ++ g :: more)
    (hind : ∀ ch ∈ ind, ch = ' ') (hg : g ≠ ' ') {lo : Nat} {hi : Option Nat} {gr : Bool} {c0 c1 : Caps} {i1 : Nat}
    (hb : Spec (Py.ctxOf s) (.rep (.cls false [.chr 32]) lo hi gr) q c0 i1 c1)
    {neg : Bool} {items : List ClsItem} {p : Char → Bool}
    (hp : ∀ ch : Char, clsTest pyCats neg items ch.toNat = p ch) (h1 : p ' ' = false) (h2 : p g = false)
    {c : Caps} {j : Nat} {c' : Caps} (hs : Spec (Py.ctxOf s) (.cls neg items) i1 c j c') : False := by
  obtain ⟨sp, hd1, rfl, _, _, _, hsp⟩ := spec_run (clsTest_chr1 pyCats ' ') hb
  obtain ⟨ch, hdc, _, _, hch⟩ := spec_chr hp hs
  have hle := run_le_of_stop (hd1.symm.trans hd0) hsp (by simpa using hg)
  have hhead : ((ind ++ g :: more).drop sp.length).head? = some ch := by rw [← hd0, List.drop_drop, hdc]; rfl
  rcases Nat.lt_or_ge sp.length ind.length with hlt | hge
  · rw [List.drop_append_of_le_length (Nat.le_of_lt hlt), List.drop_eq_getElem_cons hlt] at hhead
    cases hhead
    rw [hind _ (List.getElem_mem hlt), h1] at hch
    cases hch
  · rw [show sp.length = ind.length by omega, List.drop_left] at hhead
    cases hhead
    rw [h2] at hch
    cases hch

/-- `fenced_code` does not match where the first non-blank character is neither a back-tick nor a tilde -/
theorem fencedRule_none (pre ind : Str) (g : Char) (more : Str) (hind : ∀ ch ∈ ind, ch = ' ')
    (hg : g ≠ ' ') (hg1 : g ≠ '`') (hg2 : g ≠ '~') :
    fencedRuleRx.matchAt (Py.ctxOf (pre ++ ind ++ g :: more)) pre.length = none := by
  have hd0 : (pre ++ ind ++ g :: more).drop pre.length = ind ++ g :: more := by simp
  refine matchAt_none fun j c' hs => ?_
  unfold fencedRuleRx at hs
  obtain ⟨i0, c0, hbol, hs⟩ := spec_seq.mp hs
  obtain ⟨_, rfl, rfl⟩ := spec_bol hbol
  obtain ⟨i1, c1, hg1', hs⟩ := spec_seq.mp hs
  obtain ⟨i2, c2, hg2', _⟩ := spec_seq.mp hs
  obtain ⟨_, h1, _⟩ := spec_grp.mp hg1'
  obtain ⟨_, halt, _⟩ := spec_grp.mp hg2'
  -- neither run of fence characters can start after the blanks
  rcases spec_alt.mp halt with h | h
  · obtain ⟨_, _, hd⟩ := spec_rep_first h
    exact cls_after_blanks hd0 hind hg h1 (clsTest_chr1 pyCats '`') (by decide) (by simpa using hg1) hd
  · obtain ⟨_, _, hd⟩ := spec_rep_first h
    exact cls_after_blanks hd0 hind hg h1 (clsTest_chr1 pyCats '~') (by decide) (by simpa using hg2) hd

/-- `indent_code` does not match at a line with at most three blanks before a character that is neither blank nor tab -/
theorem indentRule_none (r : Rx) (hr : indentRuleOk r = true) (pre ind : Str) (g : Char) (more : Str)
    (hind : ∀ ch ∈ ind, ch = ' ') (hind3 : ind.length ≤ 3) (hg : g ≠ ' ') (hg1 : g ≠ '\t') :
    r.matchAt (Py.ctxOf (pre ++ ind ++ g :: more)) pre.length = none := by
  have hd0 : (pre ++ ind ++ g :: more).drop pre.length = ind ++ g :: more := by simp
  refine matchAt_none fun j c' hs => ?_
  obtain ⟨hd, tl, rfl, hhd⟩ : ∃ hd tl, r = .seq .bol (.seq hd tl) ∧ hd = indentRuleHead := by
    unfold indentRuleOk at hr
    split at hr
    · exact ⟨_, _, rfl, by simpa using hr⟩
    · cases hr
  subst hhd
  obtain ⟨i0, c0, hbol, hs⟩ := spec_seq.mp hs
  obtain ⟨_, rfl, rfl⟩ := spec_bol hbol
  obtain ⟨i1, c1, hh, _⟩ := spec_seq.mp hs
  unfold indentRuleHead at hh
  rcases spec_alt.mp hh with hA | hB
  · -- four blanks
    obtain ⟨sp, hd1, _, _, h4, _, hsp⟩ := spec_run (clsTest_chr1 pyCats ' ') hA
    have := run_le_of_stop (hd1.symm.trans hd0) hsp (by simpa using hg)
    omega
  · -- blanks, then a tab
    obtain ⟨i2, c2, hB1, hB2⟩ := spec_seq.mp hB
    exact cls_after_blanks hd0 hind hg hB1 (clsTest_chr1 pyCats '\t') (by decide) (by simpa using hg1) hB2

/-- `setex_heading` does not match where the first non-blank character is neither `=` nor `-` -/
theorem setexRule_none (pre ind : Str) (g : Char) (more : Str) (hind : ∀ ch ∈ ind, ch = ' ')
    (hg : g ≠ ' ') (hg1 : g ≠ '=') (hg2 : g ≠ '-') :
    setexRuleRx.matchAt (Py.ctxOf (pre ++ ind ++ g :: more)) pre.length = none := by
  have hd0 : (pre ++ ind ++ g :: more).drop pre.length = ind ++ g :: more := by simp
  refine matchAt_none fun j c' hs => ?_
  unfold setexRuleRx at hs
  obtain ⟨i0, c0, hbol, hs⟩ := spec_seq.mp hs
  obtain ⟨_, rfl, rfl⟩ := spec_bol hbol
  obtain ⟨i1, c1, h1, hs⟩ := spec_seq.mp hs
  obtain ⟨i2, c2, h2, _⟩ := spec_seq.mp hs
  obtain ⟨_, _, hs1⟩ := spec_rep_first h2
  obtain ⟨_, hcls, _⟩ := spec_grp.mp hs1
  exact cls_after_blanks hd0 hind hg h1 (clsTest_chr2 pyCats '=' '-') (by decide) (by simpa using ⟨hg1, hg2⟩) hcls

/-! ### the scanner at the cursor, and the loop of `BlockParser.parse` -/

theorem scan_of_scanAt (x : RxCtx) (rules : List (String × Rx)) (pos : Nat) (r : String × RxMatch) (hp : pos ≤ x.n)
    (h : scanAt x rules pos = some r) : scan x rules pos = some r := by
  unfold scan
  obtain ⟨k, hk⟩ : ∃ k, x.n + 2 - pos = k + 1 := ⟨x.n + 1 - pos, by omega⟩
  rw [hk, scanFrom, if_neg (by omega), h]

/-- a rule whose first character cannot be the character at the cursor does not match -/
theorem firstOk_none (r : Rx) (S : Str) (i : Nat) (a : Char) (ha : S[i]? = some a) (hmin : 1 ≤ r.minLen)
    (hf : r.firstOk pyCats a.toNat = false) : r.matchAt (Py.ctxOf S) i = none := by
  have hi : i < S.length := by
    rcases Nat.lt_or_ge i S.length with h | h
    · exact h
    · rw [List.getElem?_eq_none h] at ha; cases ha
  rw [List.getElem?_eq_getElem hi, Option.some.injEq] at ha
  exact fails_first r [] (List.drop_eq_getElem_cons hi) (Nat.le_of_lt hi) hmin
    (fun b hb => by cases hb; rw [ha]; exact hf) _

/-- no rule of a list whose rules cannot start with `a` fires where the subject has `a` -/
theorem scanAt_skip (before rules : List (String × Rx)) (S : Str) (i : Nat) (a : Char) (ha : S[i]? = some a)
    (hb : before.all (fun p => decide (1 ≤ p.2.minLen) && !p.2.firstOk pyCats a.toNat) = true) :
    scanAt (Py.ctxOf S) (before ++ rules) i = scanAt (Py.ctxOf S) rules i := by
  induction before with
  | nil => rfl
  | cons p ps ih =>
    simp only [List.all_cons, Bool.and_eq_true, decide_eq_true_eq, Bool.not_eq_true'] at hb
    obtain ⟨⟨h1, h2⟩, h3⟩ := hb
    obtain ⟨name, r⟩ := p
    simp only [List.cons_append, scanAt, firstOk_none r S i a ha h1 h2]
    exact ih (by simpa using h3)

/-- one iteration of the `while` loop of `BlockParser.parse` in which the scanner reports a rule AT the cursor and the
handler returns a non-zero position -/
theorem parseLoop_step (cfg : MdCfg) (pm : ParseMethod) (sc : List (String × Rx)) (fuel : Nat) (st : BlockState)
    (name : String) (m : RxMatch) (e : Nat) (st' : BlockState)
    (hcur : st.cursor < st.cursorMax) (hscan : scan st.x sc st.cursor = some (name, m)) (hstart : m.start = st.cursor)
    (hpm : pm name m st = .ok (some (e + 1), st')) :
    parseLoop cfg pm sc (fuel + 1) st = parseLoop cfg pm sc fuel { st' with cursor := e + 1 } := by
  rw [parseLoop, if_pos hcur, hscan]
  simp only [hstart, Nat.lt_irrefl, if_false]
  simp [hpm, truthyPos, bind, Except.bind, pure, Except.pure]

/-- the same for a state on the list-level subject `S` with the cursor at `p`: the rule list is evaluated at `p` -/
theorem parseLoop_step_at (cfg : MdCfg) (pm : ParseMethod) (sc : List (String × Rx)) (fuel : Nat) (st : BlockState)
    (S : Str) (p : Nat) (name : String) (m : RxMatch) (e : Nat) (st' : BlockState)
    (hx : st.x = Py.ctxOf S) (hcur : st.cursor = p) (hmax : st.cursorMax = S.length) (hp : p < S.length)
    (hscan : scanAt (Py.ctxOf S) sc p = some (name, m)) (hstart : m.start = p)
    (hpm : pm name m st = .ok (some (e + 1), st')) :
    parseLoop cfg pm sc (fuel + 1) st = parseLoop cfg pm sc fuel { st' with cursor := e + 1 } := by
  refine parseLoop_step cfg pm sc fuel st name m e st' (by omega) ?_ (by omega) hpm
  rw [hcur, hx]
  exact scan_of_scanAt _ _ _ _ (by rw [ctxOf_n]; omega) hscan

theorem parseLoop_done (cfg : MdCfg) (pm : ParseMethod) (sc : List (String × Rx)) (fuel : Nat) (st : BlockState)
    (h : ¬ st.cursor < st.cursorMax) : parseLoop cfg pm sc fuel st = .ok st := by
  cases fuel with
  | zero => rw [parseLoop, if_neg h]
  | succ f => rw [parseLoop, if_neg h]

/-! ### `BlockParser.parse` on a heading line, on a break line -/

/-- the rules tried before `atx_heading` -/
def IsAtxPrefix (sc : List (String × Rx)) : Prop :=
  ∃ rIndent more, indentRuleOk rIndent = true ∧
    sc = ("fenced_code", fencedRuleRx) :: ("indent_code", rIndent) :: ("atx_heading", atxRuleRx) :: more

/-- the rules tried before `thematic_break` -/
def IsBreakPrefix (sc : List (String × Rx)) : Prop :=
  ∃ rIndent more, indentRuleOk rIndent = true ∧
    sc = ("fenced_code", fencedRuleRx) :: ("indent_code", rIndent) :: ("atx_heading", atxRuleRx) ::
      ("setex_heading", setexRuleRx) :: ("thematic_break", thematicRuleRx) :: more

/-- the compiled rule list of `BlockParser.parse(state)` (`rules = None`) starts with these five rules -/
def scPrefixOk (c : RuleCfg) : Bool :=
  match compileSc (ofRuleCfg c) (ofRuleCfg c).blockRules with
  | .ok (("fenced_code", r1) :: ("indent_code", r2) :: ("atx_heading", r3) :: ("setex_heading", r4) ::
      ("thematic_break", r5) :: _) =>
    r1 == fencedRuleRx && indentRuleOk r2 && r3 == atxRuleRx && r4 == setexRuleRx && r5 == thematicRuleRx
  | _ => false

/-- **Obligation:** in every regenerated configuration except `all-fenced-colon` (where `fenced_directive` comes first)
the block rules start with `fenced_code, indent_code, atx_heading, setex_heading, thematic_break`. -/
theorem blockRules_prefix : ∀ c ∈ allCfgs, c.name = "all-fenced-colon" ∨ scPrefixOk c = true := by decide +kernel

/-- the rule lists of the regenerated configurations qualify for the step theorems -/
theorem blockRules_prefixes (c : RuleCfg) (hc : c ∈ allCfgs) (hn : c.name ≠ "all-fenced-colon") :
    ∃ sc, compileSc (ofRuleCfg c) (ofRuleCfg c).blockRules = .ok sc ∧ IsAtxPrefix sc ∧ IsBreakPrefix sc := by
  have h := (blockRules_prefix c hc).resolve_left hn
  unfold scPrefixOk at h
  split at h
  · rename_i r1 r2 r3 r4 r5 more heq
    simp only [Bool.and_eq_true, beq_iff_eq] at h
    obtain ⟨⟨⟨⟨rfl, h2⟩, rfl⟩, rfl⟩, rfl⟩ := h
    exact ⟨_, heq, ⟨r2, _, h2, rfl⟩, ⟨r2, _, h2, rfl⟩⟩
  · cases h

/-- `fenced_code` and `indent_code` do not claim a line whose first non-blank character, after at most three blanks, is
none of tab, back-tick and tilde -/
theorem scanAt_skip_code (rIndent : Rx) (hri : indentRuleOk rIndent = true) (rules : List (String × Rx))
    (pre ind : Str) (g : Char) (more : Str) (hind : ∀ ch ∈ ind, ch = ' ') (hind3 : ind.length ≤ 3)
    (hg : g ≠ ' ') (hg1 : g ≠ '\t') (hg2 : g ≠ '`') (hg3 : g ≠ '~') :
    scanAt (Py.ctxOf (pre ++ ind ++ g :: more)) (("fenced_code", fencedRuleRx) :: ("indent_code", rIndent) :: rules)
      pre.length = scanAt (Py.ctxOf (pre ++ ind ++ g :: more)) rules pre.length := by
  simp only [scanAt, fencedRule_none pre ind g more hind hg hg2 hg3,
    indentRule_none rIndent hri pre ind g more hind hind3 hg hg1]

/-- **`BlockParser.parse` on a heading line.**  With the cursor at the start of a heading line, one iteration of the
loop appends the `heading` token (`level = len(hashes)`, `text = atxSpec tail`) and moves the cursor behind the line's
newline. -/
theorem atx_line_step (cfg : MdCfg) (hnamed : cfg.named = namedRx) (hgroups : cfg.groups = groupIndex)
    (sc : List (String × Rx)) (hsc : IsAtxPrefix sc) (pmFuel fuel : Nat) (st : BlockState)
    (pre ind hashes tail rest : Str) (hx : st.x = Py.ctxOf (pre ++ ind ++ hashes ++ tail ++ rest))
    (hcur : st.cursor = pre.length) (hmax : st.cursorMax = (pre ++ ind ++ hashes ++ tail ++ rest).length)
    (hbol : pre = [] ∨ pre.getLast? = some '\n') (h : AtxLine ind hashes tail rest) :
    parseLoop cfg (parseMethod cfg (pmFuel + 1)) sc (fuel + 1) st =
      parseLoop cfg (parseMethod cfg (pmFuel + 1)) sc fuel
        { st.appendToken (atxToken (atxSpec tail) hashes.length) with
          cursor := pre.length + ind.length + hashes.length + tail.length + 1 } := by
  obtain ⟨rIndent, more, hri, rfl⟩ := hsc
  obtain ⟨hs', hxs⟩ := h.hashes_cons
  have hS : pre ++ ind ++ hashes ++ tail ++ rest = pre ++ ind ++ '#' :: (hs' ++ tail ++ rest) := by rw [hxs]; simp
  refine parseLoop_step_at cfg _ _ fuel st _ pre.length "atx_heading" (atxMatch pre.length ind hashes tail) _ _ hx hcur
    hmax (by rw [hS]; simp only [List.length_append, List.length_cons]; omega) ?_ rfl
    (atx_line_token cfg hnamed hgroups st pre ind hashes tail rest hx hbol h).2
  rw [hS, scanAt_skip_code rIndent hri _ pre ind '#' _ h.ind_blank h.ind_le (by decide) (by decide) (by decide)
    (by decide), ← hS]
  simp only [scanAt, atxRule_matchAt_hit pre ind hashes tail rest hbol h]

/-- on a break line the scanner gets past `fenced_code`, `indent_code` and `atx_heading` (the character after the
indentation is glued to an empty run of `#`) -/
theorem scanAt_break_line (c : Char) (hc : c = '-' ∨ c = '_' ∨ c = '*') (rIndent : Rx) (hri : indentRuleOk rIndent = true)
    (rules : List (String × Rx)) (pre ind : Str) (units : List Str) (rest : Str) (h : BreakLine ind units rest) :
    scanAt (Py.ctxOf (pre ++ ind ++ breakBody c units ++ rest))
      (("fenced_code", fencedRuleRx) :: ("indent_code", rIndent) :: ("atx_heading", atxRuleRx) :: rules) pre.length =
      scanAt (Py.ctxOf (pre ++ ind ++ breakBody c units ++ rest)) rules pre.length := by
  obtain ⟨bm, hbm⟩ := h.body_cons c
  have hS : pre ++ ind ++ breakBody c units ++ rest = pre ++ ind ++ c :: (bm ++ rest) := by rw [hbm]; simp
  obtain ⟨hc1, hc2, hc3, hc4, hc5, hc6, hc7⟩ := breakChar_ne hc
  have h3 := atxRule_none_glued pre ind [] c (bm ++ rest) h.ind_blank (by simp) hc1 hc2 hc7
  rw [List.append_nil] at h3
  rw [hS, scanAt_skip_code rIndent hri _ pre ind c _ h.ind_blank h.ind_le hc3 hc4 hc5 hc6]
  simp only [scanAt, h3]

/-- **`BlockParser.parse` on a break line of `*` or `_`.**  (A line of `-` is first claimed by `setex_heading`, whose
handler decides between a heading underline and a thematic break: not covered here.) -/
theorem break_line_step (cfg : MdCfg) (c : Char) (hc : c = '_' ∨ c = '*')
    (sc : List (String × Rx)) (hsc : IsBreakPrefix sc) (pmFuel fuel : Nat) (st : BlockState)
    (pre ind : Str) (units : List Str) (rest : Str)
    (hx : st.x = Py.ctxOf (pre ++ ind ++ breakBody c units ++ rest))
    (hcur : st.cursor = pre.length) (hmax : st.cursorMax = (pre ++ ind ++ breakBody c units ++ rest).length)
    (hbol : pre = [] ∨ pre.getLast? = some '\n') (h : BreakLine ind units rest) :
    parseLoop cfg (parseMethod cfg (pmFuel + 1)) sc (fuel + 1) st =
      parseLoop cfg (parseMethod cfg (pmFuel + 1)) sc fuel
        { st.appendToken (tok "thematic_break" []) with
          cursor := pre.length + ind.length + (breakBody c units).length + 1 } := by
  obtain ⟨rIndent, more, hri, rfl⟩ := hsc
  have hc' : c = '-' ∨ c = '_' ∨ c = '*' := Or.inr hc
  obtain ⟨bm, hbm⟩ := h.body_cons c
  have hS : pre ++ ind ++ breakBody c units ++ rest = pre ++ ind ++ c :: (bm ++ rest) := by rw [hbm]; simp
  have hne : c ≠ ' ' ∧ c ≠ '=' ∧ c ≠ '-' := by rcases hc with rfl | rfl <;> decide
  refine parseLoop_step_at cfg _ _ fuel st _ pre.length "thematic_break" (breakMatch pre.length ind (breakBody c units))
    _ _ hx hcur hmax (by rw [hS]; simp only [List.length_append, List.length_cons]; omega) ?_ rfl
    (break_line_token c hc' st pre ind units rest hx hbol h).2
  rw [scanAt_break_line c hc' rIndent hri _ pre ind units rest h]
  have h4 : setexRuleRx.matchAt (Py.ctxOf (pre ++ ind ++ breakBody c units ++ rest)) pre.length = none := by
    rw [hS]; exact setexRule_none pre ind c _ h.ind_blank hne.1 hne.2.1 hne.2.2
  simp only [scanAt, h4, thematicRule_matchAt_hit c hc' pre ind units rest hbol h]

/-! ### instances (non-vacuity) and kernel-checked counterexamples -/

section FireExamples

/-- the engine on a heading line, directly … -/
example : atxRuleRx.matchAt (Py.ctxOf "## foo bar\nx".toList) 0 =
    some { start := 0, stop := 10, caps := [(2, (2, 10)), (1, (0, 2))] } := by decide +kernel

/-- … and through the theorem (`pre = "p\n"`, `ind = " "`, `hashes = "##"`, `tail = " foo bar"`, `rest = "\nx"`) -/
example : atxRuleRx.matchAt (Py.ctxOf ("p\n".toList ++ " ".toList ++ "##".toList ++ " foo bar".toList ++ "\nx".toList)) 2 =
    some (atxMatch 2 " ".toList "##".toList " foo bar".toList) :=
  atxRule_matchAt_hit "p\n".toList " ".toList "##".toList " foo bar".toList "\nx".toList (Or.inr (by decide))
    ⟨by decide, by decide, by decide, by decide, by decide, Or.inr ⟨' ', _, rfl, rfl⟩, by decide, Or.inr ⟨_, rfl⟩⟩

/-- a blank rest of the line: the FIRST alternative `[ \t]*` matches and `atx_2` is the blank rest (`"# \t"`: `[1, 3)`) -/
example : atxRuleRx.matchAt (Py.ctxOf "# \t\nx".toList) 0 =
    some { start := 0, stop := 3, caps := [(2, (1, 3)), (1, (0, 1))] } := by decide +kernel

/-- no rest at all, at the end of the subject -/
example : atxRuleRx.matchAt (Py.ctxOf "###".toList) 0 =
    some { start := 0, stop := 3, caps := [(2, (3, 3)), (1, (0, 3))] } := by decide +kernel

/-- the closing sequence is part of `atx_2` (the handler removes it) -/
example : atxRuleRx.matchAt (Py.ctxOf "# foo ##\n".toList) 0 = some exMt := by decide +kernel

/-- the rule does not fire: seven `#`; a glued text; four blanks of indentation; not at a line start -/
example : atxRuleRx.matchAt (Py.ctxOf "####### x\n".toList) 0 = none := by decide +kernel
example : atxRuleRx.matchAt (Py.ctxOf "#foo\n".toList) 0 = none := by decide +kernel
example : atxRuleRx.matchAt (Py.ctxOf "    # foo\n".toList) 0 = none := by decide +kernel
example : atxRuleRx.matchAt (Py.ctxOf "a# foo\n".toList) 1 = none := by decide +kernel

/-- the handler on a heading line (`atx_line_token` instantiated): level 2, text `foo bar`, cursor after the newline -/
example : parseAtxHeading atxCfg (atxMatch 0 [] "##".toList " foo bar ##".toList) (BlockState.root "## foo bar ##\nx".toList) =
    .ok (some 14, (BlockState.root "## foo bar ##\nx".toList).appendToken (atxToken (atxSpec " foo bar ##".toList) 2)) :=
  (atx_line_token atxCfg rfl rfl (BlockState.root "## foo bar ##\nx".toList) [] [] "##".toList " foo bar ##".toList
    "\nx".toList rfl (Or.inl rfl)
    ⟨by decide, by decide, by decide, by decide, by decide, Or.inr ⟨' ', _, rfl, rfl⟩, by decide, Or.inr ⟨_, rfl⟩⟩).2

example : atxSpec " foo bar ##".toList = "foo bar".toList := by decide +kernel

/-- every family of the thematic-break rule, directly and through the theorem -/
example : thematicRuleRx.matchAt (Py.ctxOf "***\n\n".toList) 0 = some { start := 0, stop := 3, caps := [(1, (0, 3))] } := by
  decide +kernel
example : thematicRuleRx.matchAt (Py.ctxOf " - -\t-  \nx".toList) 0 =
    some { start := 0, stop := 8, caps := [(1, (1, 8))] } := by decide +kernel
example : thematicRuleRx.matchAt (Py.ctxOf (([] : Str) ++ " ".toList ++ breakBody '-' [" ".toList, "\t".toList, "  ".toList] ++ "\nx".toList)) 0 =
    some (breakMatch 0 " ".toList (breakBody '-' [" ".toList, "\t".toList, "  ".toList])) :=
  thematicRule_matchAt_hit '-' (Or.inl rfl) [] " ".toList [" ".toList, "\t".toList, "  ".toList] "\nx".toList (Or.inl rfl)
    ⟨by decide, by decide, by decide, by decide, Or.inr ⟨_, rfl⟩⟩
example : thematicRuleRx.matchAt (Py.ctxOf "___".toList) 0 = some { start := 0, stop := 3, caps := [(1, (0, 3))] } := by
  decide +kernel
/-- two characters only; mixed families -/
example : thematicRuleRx.matchAt (Py.ctxOf "**\n".toList) 0 = none := by decide +kernel
example : thematicRuleRx.matchAt (Py.ctxOf "*-*\n".toList) 0 = none := by decide +kernel

/-- the round trip, instantiated: level 2, text `foo bar`; text `a #b` (a `#` inside a word is harmless) -/
example : ∃ mt cursor, Py.matchAt atxRuleRx (BlockState.root (mdHeading 2 "foo bar".toList ++ "next\n".toList)).x 0 = some mt ∧
    parseAtxHeading atxCfg mt (BlockState.root (mdHeading 2 "foo bar".toList ++ "next\n".toList)) =
      .ok (some cursor, (BlockState.root (mdHeading 2 "foo bar".toList ++ "next\n".toList)).appendToken
        (atxToken "foo bar".toList 2)) ∧ cursor = 11 ∧
    (mdHeading 2 "foo bar".toList ++ "next\n".toList).drop cursor = '\n' :: "next\n".toList := by
  obtain ⟨mt, cursor, h1, h2, h3, h4, _⟩ := md_heading_roundtrip atxCfg rfl rfl
    (BlockState.root (mdHeading 2 "foo bar".toList ++ "next\n".toList)) [] "next\n".toList "foo bar".toList 2 rfl
    (Or.inl rfl) (by decide) (by decide) (by decide) (by decide) (by decide) (by decide)
  exact ⟨mt, cursor, h1, h2, h3, h4⟩

example : headingTextOk "a #b".toList = true ∧ Py.strip "a #b".toList = "a #b".toList ∧ '\n' ∉ "a #b".toList := by decide +kernel
example : headingTextOk "foo#".toList = true ∧ headingTextOk "C#".toList = true := by decide +kernel

/-- **the hypothesis `headingTextOk` is necessary** (and `MarkdownRenderer.heading` does not establish it): a text that
ends with white space and `#` loses them, a text of `#`s only becomes empty.  `# foo \#` has the text `foo #`; the
renderer writes `# foo #`, which is the heading `foo`. -/
example : headingTextOk "foo #".toList = false ∧ atxSpec (' ' :: "foo #".toList) = "foo".toList := by decide +kernel
example : headingTextOk "##".toList = false ∧ atxSpec (' ' :: "##".toList) = [] := by decide +kernel
example : headingTextOk "foo #".toList = false ∧ atxSpec (' ' :: "foo #".toList) = "foo".toList := by decide +kernel
example : atxRuleRx.matchAt (Py.ctxOf (mdHeading 1 "foo #".toList)) 0 = some (atxMatch 0 [] "#".toList " foo #".toList) ∧
    atxText atxCfg (grp atxCfg (BlockState.root (mdHeading 1 "foo #".toList)) (atxMatch 0 [] "#".toList " foo #".toList)
      "atx_2") = "foo".toList := by
  refine ⟨by decide +kernel, ?_⟩
  have h : grp atxCfg (BlockState.root (mdHeading 1 "foo #".toList)) (atxMatch 0 [] "#".toList " foo #".toList)
      "atx_2" = " foo #".toList := by decide +kernel
  rw [h, atxText_eq_ofRuleCfg]
  decide +kernel

/-- … and so is `level ≤ 6`: what the renderer writes for level 7 is not a heading -/
example : atxRuleRx.matchAt (Py.ctxOf (mdHeading 7 "x".toList)) 0 = none := by decide +kernel

/-- … and `text.strip() == text`: inner white space at the end is not recovered -/
example : atxSpec (' ' :: "foo ".toList) = "foo".toList := by decide +kernel

example : ∃ mt cursor, Py.matchAt thematicRuleRx (BlockState.root ("a\n".toList ++ mdThematicBreak ++ "b".toList)).x 2 = some mt ∧
    parseThematicBreak mt (BlockState.root ("a\n".toList ++ mdThematicBreak ++ "b".toList)) =
      .ok (some cursor, (BlockState.root ("a\n".toList ++ mdThematicBreak ++ "b".toList)).appendToken
        (tok "thematic_break" [])) ∧ cursor = 6 := by
  obtain ⟨mt, cursor, h1, h2, h3, _⟩ := md_thematic_break_roundtrip
    (BlockState.root ("a\n".toList ++ mdThematicBreak ++ "b".toList)) "a\n".toList "b".toList rfl (Or.inr (by decide))
  exact ⟨mt, cursor, h1, h2, h3⟩

/-- the rule list of the core configuration qualifies for the step theorems -/
example : ∃ sc, compileSc atxCfg atxCfg.blockRules = .ok sc ∧ IsAtxPrefix sc ∧ IsBreakPrefix sc :=
  blockRules_prefixes cfg_core (List.Mem.head _) (by decide)

/-- `atx_line_step` instantiated: the second line of `"p\n ## foo ##\nx"` -/
example (sc : List (String × Rx)) (hsc : IsAtxPrefix sc) (st : BlockState)
    (hx : st.x = Py.ctxOf ("p\n".toList ++ " ".toList ++ "##".toList ++ " foo ##".toList ++ "\nx".toList))
    (hcur : st.cursor = 2) (hmax : st.cursorMax = 14) :
    parseLoop atxCfg (parseMethod atxCfg 1) sc 3 st = parseLoop atxCfg (parseMethod atxCfg 1) sc 2
      { st.appendToken (atxToken (atxSpec " foo ##".toList) 2) with cursor := 13 } :=
  atx_line_step atxCfg rfl rfl sc hsc 0 2 st "p\n".toList " ".toList "##".toList " foo ##".toList "\nx".toList hx hcur hmax
    (Or.inr (by decide))
    ⟨by decide, by decide, by decide, by decide, by decide, Or.inr ⟨' ', _, rfl, rfl⟩, by decide, Or.inr ⟨_, rfl⟩⟩

end FireExamples

end Mistune
