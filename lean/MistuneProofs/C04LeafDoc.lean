/-
C04 / C13, whole documents of leaf lines: ATX heading lines, thematic-break lines of the three families and groups of
blank lines (`leafLines_blockParse`: `BlockParser.parse`, the model's `Blk.parse` run by `blockParse`, returns exactly one
token per item), and as an instance the documents `MarkdownRenderer` writes for headings and thematic breaks
(`leafDoc_blockParse`: `mdHeading level text`, `mdThematicBreak`, each followed by the blank line the renderer adds).

Besides the line steps of `C04AtxFire` this needs the `blank_line` rule `(^[ \t\v\f]*\n)+` evaluated on the engine over a
group of blank lines, a generic refutation of every other rule at a newline (`scanAt_skip` of `C04AtxFire`: first-character
analysis `Rx.firstOk` + `Rx.minLen`, both proved sound for the engine in `Engine/Analyses`; the side condition is
kernel-decided on the regenerated rule tables), the detour of a `-` line through `parse_setex_heading`, and the induction over the lines.
-/
import MistuneProofs.C04AtxFire
namespace Mistune
open Mistune.Model Mistune.Model.Blk Mistune.Generated

/-! ### the `blank_line` rule on a group of blank lines -/

/-- `(^[ \t\v\f]*\n)+` with `re.M` -/
def blankRuleRx : Rx :=
  .rep (.grp 1 (.seq .bol (.seq (.rep (.cls false [.chr 32, .chr 9, .chr 11, .chr 12]) 0 none true)
    (.cls false [.chr 10])))) 1 none true

/-- **Obligation:** `block.specification["blank_line"]` of every regenerated configuration -/
theorem blankRule_lookup : ∀ c ∈ allCfgs, c.blockSpec.lookup "blank_line" = some blankRuleRx := by decide +kernel

def isWs4 (ch : Char) : Bool := ch == ' ' || ch == '\t' || ch == '\x0b' || ch == '\x0c'

theorem clsTest_ws4 (ch : Char) : clsTest pyCats false [.chr 32, .chr 9, .chr 11, .chr 12] ch.toNat = isWs4 ch :=
  (clsTest_chrs pyCats false [' ', '\t', '\x0b', '\x0c'] ch).trans
    (by simp only [List.contains_cons, List.contains_nil, Bool.or_false, Bool.bne_false, isWs4, Bool.or_assoc])

/-- what may follow a single blank line: nothing, or a character that does not start another blank line -/
def BlankStop (post : Str) : Prop := post = [] ∨ ∃ g more, post = g :: more ∧ isWs4 g = false ∧ g ≠ '\n'

/-- what may follow a group of blank lines: blanks that are not followed by a newline (the next line is not blank) -/
def BlankStop2 (post : Str) : Prop :=
  ∃ ws rest, post = ws ++ rest ∧ (∀ ch ∈ ws, isWs4 ch = true) ∧
    (rest = [] ∨ ∃ g more, rest = g :: more ∧ isWs4 g = false ∧ g ≠ '\n')

theorem BlankStop.stop2 {post : Str} (h : BlankStop post) : BlankStop2 post := ⟨[], post, rfl, by simp, h⟩

/-- the body `^[ \t\v\f]*\n` fails on a line that is not blank: a run of blanks of `ws ++ rest` that is followed by a
newline would end both before and after the end of `ws` -/
theorem blankBody_none {s post : Str} {i : Nat} (hd : s.drop i = post) (hpost : BlankStop2 post) (c : Caps) {R : Type}
    (k : Nat → Caps → Option R) :
    (Rx.grp 1 (.seq .bol (.seq (.rep (.cls false [.chr 32, .chr 9, .chr 11, .chr 12]) 0 none true)
      (.cls false [.chr 10])))).m (Py.ctxOf s) i c k = none := by
  refine fails_of_spec (fun j c' hs0 => ?_) k
  obtain ⟨ws, rest, rfl, hws, hrest⟩ := hpost
  obtain ⟨_, hs1, _⟩ := spec_grp.mp hs0
  obtain ⟨i0, c0, hbol, hs2⟩ := spec_seq.mp hs1
  obtain ⟨_, rfl, rfl⟩ := spec_bol hbol
  obtain ⟨i1, c1, h1, h2⟩ := spec_seq.mp hs2
  obtain ⟨run, hd1, rfl, _, _, _, hrun⟩ := spec_run clsTest_ws4 h1
  obtain ⟨ch, hd2, _, _, hch⟩ := spec_chr (clsTest_chr1 pyCats '\n') h2
  have e : run ++ '\n' :: s.drop j = ws ++ rest := by
    rw [← hd, hd1, hd2, show ch = '\n' by simpa using hch]
  have hle := run_le_of_stop e.symm hws (by decide : isWs4 '\n' = false)
  rcases hrest with rfl | ⟨g, more, rfl, hg1, hg2⟩
  · have := congrArg List.length e
    simp only [List.length_append, List.length_cons, List.length_nil] at this
    omega
  · have := List.append_inj e (Nat.le_antisymm (run_le_of_stop e hrun hg1) hle)
    injection this.2 with e1
    exact hg2 e1.symm

/-- the text of a group of blank lines -/
def blanksText (ls : List Str) : Str := (ls.map (· ++ ['\n'])).flatten

theorem blanksText_cons (l : Str) (ls : List Str) : blanksText (l :: ls) = l ++ ['\n'] ++ blanksText ls := by
  simp [blanksText]

/-- the captures after the iterations over the lines `ls` from position `p` on: group 1 is recorded once per line -/
def blankCaps : Nat → List Str → Caps → Caps
  | _, [], caps => caps
  | p, l :: ls, caps => blankCaps (p + l.length + 1) ls ((1, (p, p + l.length + 1)) :: caps)

/-- **the greedy path of `(^[ \t\v\f]*\n)+`** over a group of blank lines: every iteration takes one line -/
theorem blankLines_iter {s : Str} (post : Str) : ∀ (ls : List Str) (i : Nat) (caps : Caps),
    s.drop i = blanksText ls ++ post → i ≤ s.length → bolAt s i → (∀ l ∈ ls, ∀ ch ∈ l, isWs4 ch = true) →
    Iter (fun i c j c' => Reaches (Py.ctxOf s) (.grp 1 (.seq .bol (.seq (.rep (.cls false [.chr 32, .chr 9, .chr 11,
        .chr 12]) 0 none true) (.cls false [.chr 10])))) i c j c' ∧ i < j)
      ls.length i caps (i + (blanksText ls).length) (blankCaps i ls caps) := by
  intro ls
  induction ls with
  | nil => intro i caps _ _ _ _; exact Iter.zero i caps
  | cons l ls ih =>
    intro i caps hd hi hb hws
    have hd0 : s.drop i = l ++ (['\n'] ++ (blanksText ls ++ post)) := by rw [hd, blanksText_cons]; simp
    have hd1 := drop_append hd0
    have hd2 : s.drop (i + l.length + 1) = blanksText ls ++ post := drop_append hd1
    have hlen := drop_length_le hd0 hi
    simp only [List.length_append, List.length_cons, List.length_nil] at hlen
    rw [show i + (blanksText (l :: ls)).length = i + l.length + 1 + (blanksText ls).length by
      rw [blanksText_cons]; simp only [List.length_append, List.length_cons, List.length_nil]; omega]
    -- the blanks of the line, then its newline
    exact Iter.succ
      ⟨reaches_grp 1 (reaches_seq (reaches_bol caps hb)
        (reaches_seq (reaches_run clsTest_ws4 0 none caps hd0 hi (hws l (by simp))
            (Or.inr (fun ch hch => by cases hch; rfl)) (by intro m hm; cases hm) (Nat.zero_le _))
          (reaches_chr (clsTest_chr1 pyCats '\n') caps hd1 rfl))), by omega⟩
      (ih _ _ hd2 (by omega) (Or.inr (by have := drop_getElem? hd1 0; simpa using this))
        (fun l' hl' => hws l' (by simp [hl'])))

/-- **The `blank_line` rule on a group of blank lines** followed by a line that is not blank: one match that covers the
whole group (after the last line the body fails and the loop is left). -/
theorem blankRule_matchAt_group (pre : Str) (ls : List Str) (post : Str) (hbol : pre = [] ∨ pre.getLast? = some '\n')
    (hne : ls ≠ []) (hws : ∀ l ∈ ls, ∀ ch ∈ l, isWs4 ch = true) (hpost : BlankStop2 post) :
    blankRuleRx.matchAt (Py.ctxOf (pre ++ blanksText ls ++ post)) pre.length =
      some { start := pre.length, stop := pre.length + (blanksText ls).length, caps := blankCaps pre.length ls [] } := by
  rw [List.append_assoc]
  obtain ⟨hb, hd0, hle⟩ := at_line_start pre (blanksText ls ++ post) hbol
  generalize pre ++ (blanksText ls ++ post) = S at hb hd0 hle ⊢
  have hlen := drop_length_le hd0 hle
  rw [List.length_append] at hlen
  exact (reaches_rep_iter (blankLines_iter post ls _ [] hd0 hle hb hws)
    (Or.inr fun k => blankBody_none (drop_append hd0) hpost _ k) (List.length_pos_iff.mpr hne)
    (by intro m hm; cases hm) (by rw [ctxOf_n]; omega)).matchAt

/-- the match of the `blank_line` rule on one blank line at `p` -/
def blankMatch (p : Nat) : RxMatch := { start := p, stop := p + 1, caps := [(1, (p, p + 1))] }

/-- **The `blank_line` rule on a single empty line**: at a line start, on `"\n"` followed by the end of the subject or
by a character that cannot start a further blank line, the match is exactly that newline. -/
theorem blankRule_matchAt_hit (pre post : Str) (hbol : pre = [] ∨ pre.getLast? = some '\n') (hpost : BlankStop post) :
    blankRuleRx.matchAt (Py.ctxOf (pre ++ ['\n'] ++ post)) pre.length = some (blankMatch pre.length) :=
  blankRule_matchAt_group pre [[]] post hbol (by simp) (by simp) hpost.stop2

/-- `parse_blank_line` -/
theorem parseBlankLine_eq (mt : RxMatch) (st : BlockState) :
    parseBlankLine mt st = .ok (some mt.stop, st.appendToken (tok "blank_line" [])) := rfl

/-! ### one iteration of `BlockParser.parse` on a group of blank lines -/

/-- the rules tried before `blank_line` cannot start with a newline -/
def blankOk : List (String × Rx) → Bool
  | [] => false
  | (n, r) :: rest =>
    if n == "blank_line" then r == blankRuleRx
    else decide (1 ≤ r.minLen) && !r.firstOk pyCats 10 && blankOk rest

theorem blankOk_split : ∀ (sc : List (String × Rx)), blankOk sc = true →
    ∃ before after, sc = before ++ ("blank_line", blankRuleRx) :: after ∧
      before.all (fun p => decide (1 ≤ p.2.minLen) && !p.2.firstOk pyCats '\n'.toNat) = true := by
  intro sc
  induction sc with
  | nil => intro h; cases h
  | cons p rest ih =>
    obtain ⟨n, r⟩ := p
    intro h
    unfold blankOk at h
    split at h
    · rename_i hn
      refine ⟨[], rest, ?_, rfl⟩
      simp only [beq_iff_eq] at hn h
      rw [hn, h]; rfl
    · simp only [Bool.and_eq_true] at h
      obtain ⟨before, after, e, hb⟩ := ih h.2
      refine ⟨(n, r) :: before, after, by rw [e]; rfl, ?_⟩
      simp only [List.all_cons, Bool.and_eq_true]
      exact ⟨h.1, hb⟩

/-- one loop iteration on a group of blank lines whose first line is empty (a first line of blanks can be claimed by an
earlier rule: five blanks are an `indent_code` line) -/
theorem blank_group_step (cfg : MdCfg) (sc : List (String × Rx)) (hsc : blankOk sc = true) (pmFuel fuel : Nat)
    (st : BlockState) (pre : Str) (ls : List Str) (post : Str)
    (hx : st.x = Py.ctxOf (pre ++ blanksText ([] :: ls) ++ post)) (hcur : st.cursor = pre.length)
    (hmax : st.cursorMax = (pre ++ blanksText ([] :: ls) ++ post).length) (hbol : pre = [] ∨ pre.getLast? = some '\n')
    (hws : ∀ l ∈ ls, ∀ ch ∈ l, isWs4 ch = true) (hpost : BlankStop2 post) :
    parseLoop cfg (parseMethod cfg (pmFuel + 1)) sc (fuel + 1) st =
      parseLoop cfg (parseMethod cfg (pmFuel + 1)) sc fuel
        { st.appendToken (tok "blank_line" []) with cursor := pre.length + (blanksText ([] :: ls)).length } := by
  obtain ⟨before, after, rfl, hb⟩ := blankOk_split sc hsc
  have hm := blankRule_matchAt_group pre ([] :: ls) post hbol (by simp)
    (fun l hl => (List.mem_cons.mp hl).elim (fun e => by simp [e]) (hws l)) hpost
  have hpos : (blanksText ([] :: ls)).length = (blanksText ls).length + 1 := by rw [blanksText_cons]; simp
  have hget : (pre ++ blanksText ([] :: ls) ++ post)[pre.length]? = some '\n' := by
    rw [blanksText_cons]
    simp
  refine parseLoop_step_at cfg _ _ fuel st _ pre.length "blank_line"
    { start := pre.length, stop := pre.length + (blanksText ([] :: ls)).length, caps := blankCaps pre.length ([] :: ls) [] }
    (pre.length + (blanksText ls).length) _ hx hcur hmax (by simp only [List.length_append]; omega) ?_ rfl ?_
  · rw [scanAt_skip before _ _ _ '\n' hget hb]
    simp only [scanAt, hm]
  · show parseBlankLine _ st = _
    rw [parseBlankLine_eq, hpos]
    rfl

/-- **Obligation:** in every regenerated configuration no block rule tried before `blank_line` can start with a
newline (and `blank_line` is the expected regex). -/
theorem blankRules_ok : ∀ c ∈ allCfgs, (match compileSc (ofRuleCfg c) (ofRuleCfg c).blockRules with
    | .ok sc => blankOk sc
    | _ => false) = true := by decide +kernel

/-! ### break lines of `-`: through `parse_setex_heading`

A line of `-` is also matched by the `setex_heading` rule when it has no inner blanks (`---`); that rule is tried first.
Its handler turns the previous paragraph into a heading; when the last token is not a paragraph it tries the scanner of
`thematic_break` and `list` at the cursor and calls that rule's handler.  In a leaf document the last token is never a
paragraph, so either way the line becomes a `thematic_break` token. -/

/-- the last token is not a paragraph (`last_token and last_token["type"] == "paragraph"` is false) -/
def NoPara (st : BlockState) : Prop := st.lastParagraph = .ok none

theorem noPara_root (s : Str) : NoPara (BlockState.root s) := rfl

/-- the last paragraph after appending `t`: for a concrete token that is not a paragraph the right side is `.ok none`
by `rfl`, which gives `NoPara` of the new state -/
theorem lastParagraph_append (st : BlockState) (t : Json) (c : Nat) :
    ({ st.appendToken t with cursor := c } : BlockState).lastParagraph =
      (if t.truthy then (typeOf t).bind (fun ty => if ty == "paragraph" then pure (some t) else pure none)
       else .ok none) := by
  simp [BlockState.lastParagraph, BlockState.lastToken, BlockState.appendToken, bind, Except.bind]

/-- **Obligation:** every regenerated configuration has a `list` rule in `block.specification` -/
theorem listRule_present : ∀ c ∈ allCfgs, (c.blockSpec.lookup "list").isSome = true := by decide +kernel

/-- `parse_setex_heading` at a break line when the last token is not a paragraph: the `thematic_break` handler's result -/
theorem parseSetex_break (cfg : MdCfg) (hspec : cfg.blockSpec.lookup "thematic_break" = some thematicRuleRx)
    (hlist : (cfg.blockSpec.lookup "list").isSome = true) (pmFuel : Nat) (mt : RxMatch) (st : BlockState)
    (hlast : NoPara st) (c : Char) (hc : c = '-' ∨ c = '_' ∨ c = '*') (pre ind : Str) (units : List Str) (rest : Str)
    (hx : st.x = Py.ctxOf (pre ++ ind ++ breakBody c units ++ rest)) (hcur : st.cursor = pre.length)
    (hbol : pre = [] ∨ pre.getLast? = some '\n') (h : BreakLine ind units rest) :
    parseSetexHeading cfg (parseMethod cfg (pmFuel + 1)) mt st =
      .ok (some (pre.length + ind.length + (breakBody c units).length + 1), st.appendToken (tok "thematic_break" [])) := by
  obtain ⟨rl, hrl⟩ : ∃ rl, cfg.blockSpec.lookup "list" = some rl := by
    cases hl : cfg.blockSpec.lookup "list" with
    | none => rw [hl] at hlist; cases hlist
    | some rl => exact ⟨rl, rfl⟩
  obtain ⟨hm, hp⟩ := break_line_token c hc st pre ind units rest hx hbol h
  have hsc : compileSc cfg ["thematic_break", "list"] = .ok [("thematic_break", thematicRuleRx), ("list", rl)] := by
    simp [compileSc, hspec, hrl, List.mapM_cons, bind, Except.bind, pure, Except.pure]
  have hscan : scMatch st.x [("thematic_break", thematicRuleRx), ("list", rl)] st.cursor =
      some ("thematic_break", breakMatch pre.length ind (breakBody c units)) := by
    unfold scMatch scanAt
    unfold Py.matchAt at hm
    rw [hcur, hm]
  unfold parseSetexHeading
  unfold NoPara at hlast
  simp only [hlast, hsc, hscan, bind, Except.bind]
  exact hp

/-- **`BlockParser.parse` on a break line of `-`** (any spacing), when the last token is not a paragraph -/
theorem dash_line_step (cfg : MdCfg) (hspec : cfg.blockSpec.lookup "thematic_break" = some thematicRuleRx)
    (hlist : (cfg.blockSpec.lookup "list").isSome = true)
    (sc : List (String × Rx)) (hsc : IsBreakPrefix sc) (pmFuel fuel : Nat) (st : BlockState) (hlast : NoPara st)
    (pre ind : Str) (units : List Str) (rest : Str)
    (hx : st.x = Py.ctxOf (pre ++ ind ++ breakBody '-' units ++ rest))
    (hcur : st.cursor = pre.length) (hmax : st.cursorMax = (pre ++ ind ++ breakBody '-' units ++ rest).length)
    (hbol : pre = [] ∨ pre.getLast? = some '\n') (h : BreakLine ind units rest) :
    parseLoop cfg (parseMethod cfg (pmFuel + 2)) sc (fuel + 1) st =
      parseLoop cfg (parseMethod cfg (pmFuel + 2)) sc fuel
        { st.appendToken (tok "thematic_break" []) with
          cursor := pre.length + ind.length + (breakBody '-' units).length + 1 } := by
  obtain ⟨rIndent, more, hri, rfl⟩ := hsc
  obtain ⟨bm, hbm⟩ := h.body_cons '-'
  have hlen : pre.length < (pre ++ ind ++ breakBody '-' units ++ rest).length := by
    rw [hbm]; simp only [List.length_append, List.length_cons]; omega
  have hskip := scanAt_break_line '-' (Or.inl rfl) rIndent hri
    (("setex_heading", setexRuleRx) :: ("thematic_break", thematicRuleRx) :: more) pre ind units rest h
  cases h4 : setexRuleRx.matchAt (Py.ctxOf (pre ++ ind ++ breakBody '-' units ++ rest)) pre.length with
  | none =>
    refine parseLoop_step_at cfg _ _ fuel st _ pre.length "thematic_break"
      (breakMatch pre.length ind (breakBody '-' units)) _ _ hx hcur hmax hlen ?_ rfl
      (break_line_token '-' (Or.inl rfl) st pre ind units rest hx hbol h).2
    rw [hskip]
    simp only [scanAt, h4, thematicRule_matchAt_hit '-' (Or.inl rfl) pre ind units rest hbol h]
  | some mts =>
    refine parseLoop_step_at cfg _ _ fuel st _ pre.length "setex_heading" mts _ _ hx hcur hmax hlen ?_
      (matchAt_sound _ _ _ _ h4).1 ?_
    · rw [hskip]
      simp only [scanAt, h4]
    · show parseSetexHeading cfg (parseMethod cfg (pmFuel + 1)) mts st = _
      exact parseSetex_break cfg hspec hlist pmFuel mts st hlast '-' (Or.inl rfl) pre ind units rest hx hcur hbol h

/-! ### general line documents: any heading lines, any break lines, groups of blank lines

The canonical writer of the test harness (`docgen.print_doc`) writes headings as `#…# text` with an optional closing
sequence and rules as `***`, `___`, `*****` …, separated by blank lines; all of these are instances. -/

theorem blanks_last : ∀ (ls : List Str) (A : Str), (A ++ ['\n'] ++ blanksText ls).getLast? = some '\n' := by
  intro ls
  induction ls with
  | nil => intro A; simp [blanksText]
  | cons l ls ih =>
    intro A
    have := ih (A ++ ['\n'] ++ l)
    rw [blanksText_cons]
    simpa using this

/-- a line item of a general leaf document -/
inductive LeafLine where
  /-- a heading line `ind ++ hashes ++ tail` -/
  | heading (ind hashes tail : Str)
  /-- a break line `ind ++ breakBody c units` of `-`, `_` or `*` -/
  | rule (c : Char) (ind : Str) (units : List Str)
  /-- an empty line followed by the lines `ls` of blanks (a maximal group of blank lines) -/
  | blanks (ls : List Str)

namespace LeafLine

/-- the text of the item, with the newline(s) -/
def text : LeafLine → Str
  | heading ind hashes tail => ind ++ hashes ++ tail ++ ['\n']
  | rule c ind units => ind ++ breakBody c units ++ ['\n']
  | blanks ls => blanksText ([] :: ls)

/-- the token `BlockParser.parse` produces -/
def token : LeafLine → Json
  | heading _ hashes tail => atxToken (atxSpec tail) hashes.length
  | rule _ _ _ => tok "thematic_break" []
  | blanks _ => tok "blank_line" []

def isBlanks : LeafLine → Bool
  | blanks _ => true
  | _ => false

/-- the conditions on one item -/
def Ok : LeafLine → Prop
  | heading ind hashes tail => AtxLine ind hashes tail ['\n']
  | rule c ind units => (c = '-' ∨ c = '_' ∨ c = '*') ∧ BreakLine ind units ['\n']
  | blanks ls => ∀ l ∈ ls, ∀ ch ∈ l, isWs4 ch = true

theorem text_last (l : LeafLine) (pre : Str) : (pre ++ l.text).getLast? = some '\n' := by
  cases l with
  | heading ind hashes tail =>
    simp only [text]
    generalize ind ++ hashes ++ tail = A
    simp
  | rule c ind units =>
    simp only [text]
    generalize ind ++ breakBody c units = A
    simp
  | blanks ls =>
    simp only [text, blanksText_cons, List.nil_append]
    rw [← List.append_assoc]
    exact blanks_last ls pre

theorem text_pos (l : LeafLine) : 1 ≤ l.text.length := by
  cases l with
  | heading ind hashes tail => simp [text]; omega
  | rule c ind units => simp [text]; omega
  | blanks ls => simp [text, blanksText_cons]

end LeafLine

/-- the document -/
def linesText (ls : List LeafLine) : Str := (ls.map LeafLine.text).flatten

/-- every item is well formed and a group of blank lines is maximal (not followed by another group) -/
def LinesOk : List LeafLine → Prop
  | [] => True
  | l :: rest => l.Ok ∧ (l.isBlanks = true → ∀ l' ∈ rest.head?, l'.isBlanks = false) ∧ LinesOk rest

theorem atxLine_rest {ind hashes tail rest : Str} (h : AtxLine ind hashes tail rest) (next : Str) :
    AtxLine ind hashes tail ('\n' :: next) :=
  ⟨h.ind_blank, h.ind_le, h.hashes_hash, h.hashes_pos, h.hashes_le, ⟨h.tail.head, h.tail.no_nl, Or.inr ⟨_, rfl⟩⟩⟩

theorem breakLine_rest {ind : Str} {units : List Str} {rest : Str} (h : BreakLine ind units rest) (next : Str) :
    BreakLine ind units ('\n' :: next) :=
  ⟨h.ind_blank, h.ind_le, h.units_blank, h.three, Or.inr ⟨_, rfl⟩⟩

/-- the text after a maximal group of blank lines does not start with a blank line -/
theorem linesText_stop (rest : List LeafLine) (h : LinesOk rest) (hh : ∀ l' ∈ rest.head?, l'.isBlanks = false) :
    BlankStop2 (linesText rest) := by
  cases rest with
  | nil => exact ⟨[], [], rfl, by simp, Or.inl rfl⟩
  | cons l rest =>
    have hl := hh l (by simp)
    obtain ⟨hok, _, _⟩ := h
    cases l with
    | heading ind hashes tail =>
      obtain ⟨hs', rfl⟩ := hok.hashes_cons
      exact ⟨ind, '#' :: (hs' ++ tail ++ ['\n'] ++ linesText rest), by simp [linesText, LeafLine.text],
        fun ch hch => by rw [hok.ind_blank ch hch]; decide, Or.inr ⟨'#', _, rfl, by decide, by decide⟩⟩
    | rule c ind units =>
      obtain ⟨hc, hb⟩ := hok
      obtain ⟨bm, hbm⟩ := hb.body_cons c
      refine ⟨ind, c :: (bm ++ ['\n'] ++ linesText rest), by simp [linesText, LeafLine.text, hbm],
        fun ch hch => by rw [hb.ind_blank ch hch]; decide, Or.inr ⟨c, _, rfl, ?_⟩⟩
      rcases hc with rfl | rfl | rfl <;> exact ⟨by decide, by decide⟩
    | blanks ls => cases hl

/-- the rule tables this fragment needs -/
structure LeafSc (sc : List (String × Rx)) : Prop where
  atx : IsAtxPrefix sc
  brk : IsBreakPrefix sc
  blank : blankOk sc = true

/-- one loop iteration on an item; the last token is not a paragraph before and after -/
theorem line_step (cfg : MdCfg) (hnamed : cfg.named = namedRx) (hgroups : cfg.groups = groupIndex)
    (hspec : cfg.blockSpec.lookup "thematic_break" = some thematicRuleRx)
    (hlist : (cfg.blockSpec.lookup "list").isSome = true)
    (sc : List (String × Rx)) (hsc : LeafSc sc) (pmFuel fuel : Nat) (st : BlockState) (hlast : NoPara st)
    (l : LeafLine) (hl : l.Ok)
    (pre post : Str) (hpost : l.isBlanks = true → BlankStop2 post)
    (hx : st.x = Py.ctxOf (pre ++ l.text ++ post)) (hcur : st.cursor = pre.length)
    (hmax : st.cursorMax = (pre ++ l.text ++ post).length) (hbol : pre = [] ∨ pre.getLast? = some '\n') :
    parseLoop cfg (parseMethod cfg (pmFuel + 2)) sc (fuel + 1) st =
      parseLoop cfg (parseMethod cfg (pmFuel + 2)) sc fuel
        { st.appendToken l.token with cursor := pre.length + l.text.length } ∧
    NoPara { st.appendToken l.token with cursor := pre.length + l.text.length } := by
  cases l with
  | heading ind hashes tail =>
    refine ⟨?_, (lastParagraph_append st _ _).trans rfl⟩
    have hS : pre ++ (LeafLine.heading ind hashes tail).text ++ post = pre ++ ind ++ hashes ++ tail ++ ('\n' :: post) := by
      simp [LeafLine.text]
    rw [atx_line_step cfg hnamed hgroups sc hsc.atx (pmFuel + 1) fuel st pre ind hashes tail ('\n' :: post)
      (by rw [hx, hS]) hcur (by rw [hmax, hS]) hbol (atxLine_rest hl post)]
    have e : pre.length + ind.length + hashes.length + tail.length + 1 =
        pre.length + (LeafLine.heading ind hashes tail).text.length := by
      simp only [LeafLine.text, List.length_append, List.length_cons, List.length_nil]; omega
    rw [e]; rfl
  | rule c ind units =>
    refine ⟨?_, (lastParagraph_append st _ _).trans rfl⟩
    have hS : pre ++ (LeafLine.rule c ind units).text ++ post = pre ++ ind ++ breakBody c units ++ ('\n' :: post) := by
      simp [LeafLine.text]
    have e : pre.length + ind.length + (breakBody c units).length + 1 =
        pre.length + (LeafLine.rule c ind units).text.length := by
      simp only [LeafLine.text, List.length_append, List.length_cons, List.length_nil]; omega
    obtain ⟨hc, hb⟩ := hl
    rcases hc with rfl | hc
    · rw [dash_line_step cfg hspec hlist sc hsc.brk pmFuel fuel st hlast pre ind units ('\n' :: post) (by rw [hx, hS]) hcur
        (by rw [hmax, hS]) hbol (breakLine_rest hb post), e]
      rfl
    · rw [break_line_step cfg c hc sc hsc.brk (pmFuel + 1) fuel st pre ind units ('\n' :: post) (by rw [hx, hS]) hcur
        (by rw [hmax, hS]) hbol (breakLine_rest hb post), e]
      rfl
  | blanks ls =>
    exact ⟨blank_group_step cfg sc hsc.blank (pmFuel + 1) fuel st pre ls post hx hcur hmax hbol hl (hpost rfl),
      (lastParagraph_append st _ _).trans rfl⟩

/-- **The loop of `BlockParser.parse` over a general leaf document.** -/
theorem leafLines_loop (cfg : MdCfg) (hnamed : cfg.named = namedRx) (hgroups : cfg.groups = groupIndex)
    (hspec : cfg.blockSpec.lookup "thematic_break" = some thematicRuleRx)
    (hlist : (cfg.blockSpec.lookup "list").isSome = true)
    (sc : List (String × Rx)) (hsc : LeafSc sc) (pmFuel : Nat) :
    ∀ (ls : List LeafLine) (pre : Str) (st : BlockState) (fuel : Nat), LinesOk ls → NoPara st →
      st.x = Py.ctxOf (pre ++ linesText ls) → st.cursor = pre.length →
      st.cursorMax = (pre ++ linesText ls).length → (pre = [] ∨ pre.getLast? = some '\n') → ls.length ≤ fuel →
      parseLoop cfg (parseMethod cfg (pmFuel + 2)) sc fuel st =
        .ok { st with tokens := st.tokens ++ ls.map LeafLine.token, cursor := st.cursorMax } := by
  intro ls
  induction ls with
  | nil =>
    intro pre st fuel _ _ _ hcur hmax _ _
    have hcm : st.cursor = st.cursorMax := by rw [hcur, hmax]; simp [linesText]
    have hst : ({ st with tokens := st.tokens ++ [].map LeafLine.token, cursor := st.cursorMax } : BlockState) = st := by
      cases st; simp only [List.map_nil, List.append_nil] at *; rw [hcm]
    rw [hst]
    exact parseLoop_done _ _ _ _ _ (by omega)
  | cons l ls ih =>
    intro pre st fuel hok hlast hx hcur hmax hbol hfuel
    obtain ⟨f, rfl⟩ : ∃ f, fuel = f + 1 := ⟨fuel - 1, by simp only [List.length_cons] at hfuel; omega⟩
    obtain ⟨hl, hnext, hrest⟩ := hok
    have hS : pre ++ linesText (l :: ls) = pre ++ l.text ++ linesText ls := by simp [linesText]
    obtain ⟨hstep, hlast'⟩ := line_step cfg hnamed hgroups hspec hlist sc hsc pmFuel f st hlast l hl pre (linesText ls)
      (fun hb => linesText_stop ls hrest (hnext hb)) (by rw [hx, hS]) hcur (by rw [hmax, hS]) hbol
    rw [hstep]
    rw [ih (pre ++ l.text) _ f hrest hlast' (by rw [← hS]; exact hx) (by simp) (by rw [← hS]; exact hmax)
      (Or.inr (l.text_last pre)) (by simp only [List.length_cons] at hfuel; omega)]
    simp [BlockState.appendToken]

/-- **C04 for general leaf documents.**  For every regenerated configuration except `all-fenced-colon`: a document whose
lines are ATX heading lines (any admissible indentation, any rest of the line, closing sequence or not), thematic-break
lines of `-`, `_` or `*` (any admissible spacing) and maximal groups of blank lines (the first one empty) parses to exactly one
token per item: `heading` with `level = len(hashes)` and `text = atxSpec tail`, `thematic_break`, `blank_line`. -/
theorem leafLines_blockParse (c : RuleCfg) (hc : c ∈ allCfgs) (hn : c.name ≠ "all-fenced-colon")
    (ls : List LeafLine) (hok : LinesOk ls) :
    Model.blockParse (ofRuleCfg c) (linesText ls) = .ok (ls.map LeafLine.token, .obj [("ref_links", .obj [])]) := by
  obtain ⟨sc, hcomp, hA, hB⟩ := blockRules_prefixes c hc hn
  have hbl : blankOk sc = true := by
    have := blankRules_ok c hc
    rw [hcomp] at this
    exact this
  have hlen : ls.length ≤ (linesText ls).length := by
    clear hok
    induction ls with
    | nil => simp
    | cons l ls ih =>
      have := l.text_pos
      simp only [linesText, List.map_cons, List.flatten_cons, List.length_append, List.length_cons] at ih ⊢
      omega
  -- `leafLines_loop` runs under `parseMethod … (pmFuel + 2)` (a `-` line goes through `parse_setex_heading`, which calls
  -- `parse_method` once more); `blockParse` runs under `nestFuel = 4 * len + maxNested + 16`, hence `pmFuel = … + 14`
  have hloop := leafLines_loop (ofRuleCfg c) rfl rfl (thematicRule_lookup c hc) (listRule_present c hc) sc ⟨hA, hB, hbl⟩
    (4 * (linesText ls).length + (ofRuleCfg c).maxNested + 14) ls [] (BlockState.root (linesText ls))
    ((linesText ls).length + 1) hok (noPara_root _) rfl rfl rfl (Or.inl rfl) (by omega)
  show Blk.blockParse (ofRuleCfg c) (linesText ls) = _
  unfold Blk.blockParse parse
  have hcm : (BlockState.root (linesText ls)).cursorMax = (linesText ls).length := rfl
  have hnf : nestFuel (ofRuleCfg c) (linesText ls) = 4 * (linesText ls).length + (ofRuleCfg c).maxNested + 14 + 2 := rfl
  simp only [Option.getD_none, hcomp, bind, Except.bind, hcm, hnf, hloop]
  simp [BlockState.root, BlockState.process, pure, Except.pure]

/-! ### documents of headings and thematic breaks as `MarkdownRenderer` writes them -/

/-- the two leaf blocks of this fragment -/
inductive LeafBlock where
  | heading (level : Nat) (text : Str)
  | rule

namespace LeafBlock

/-- the domain: levels 1..6; a heading text is non-empty, lies within one line, has no (Unicode) white space at its ends
and no closing sequence that `parse_atx_heading` would remove (`headingTextOk`, necessary: `atxSpec_blank_fixed_iff`) -/
def Ok : LeafBlock → Prop
  | heading level text => 1 ≤ level ∧ level ≤ 6 ∧ text ≠ [] ∧ '\n' ∉ text ∧ Py.strip text = text ∧
      headingTextOk text = true
  | rule => True

/-- what `MarkdownRenderer` writes for the block (`heading` / `thematic_break`) -/
def md : LeafBlock → Str
  | heading level text => mdHeading level text
  | rule => mdThematicBreak

/-- the token `BlockParser.parse` produces (before the inline pass: the heading still has its `text`) -/
def token : LeafBlock → Json
  | heading level text => atxToken text level
  | rule => tok "thematic_break" []

/-- the block as items of a line document: its line and the empty line the renderer adds -/
def lines : LeafBlock → List LeafLine
  | heading level text => [.heading [] (List.replicate level '#') (' ' :: text), .blanks []]
  | rule => [.rule '*' [] [[], [], []], .blanks []]

theorem linesText_lines (b : LeafBlock) : linesText b.lines = b.md := by
  cases b with
  | heading level text => simp [lines, linesText, LeafLine.text, blanksText, md, mdHeading]
  | rule => rfl

/-- in the domain the heading token carries the text itself -/
theorem map_token_lines (b : LeafBlock) (h : b.Ok) : b.lines.map LeafLine.token = [b.token, tok "blank_line" []] := by
  cases b with
  | heading level text =>
    obtain ⟨_, _, hne, _, hstrip, hok⟩ := h
    simp only [lines, List.map_cons, List.map_nil, LeafLine.token, token, List.length_replicate,
      (atxSpec_blank_fixed_iff text hne hstrip).mpr hok]
  | rule => rfl

end LeafBlock

/-- the document: the blocks as `MarkdownRenderer` writes them, one after the other -/
def renderLeaves (bs : List LeafBlock) : Str := (bs.map LeafBlock.md).flatten

/-- the tokens: every block's token followed by a `blank_line` token -/
def leafTokens (bs : List LeafBlock) : List Json := bs.flatMap (fun b => [b.token, tok "blank_line" []])

theorem linesText_append (ls ms : List LeafLine) : linesText (ls ++ ms) = linesText ls ++ linesText ms := by
  simp [linesText]

/-- such a document is a line document: heading lines without indentation, `***`, single empty lines -/
theorem linesOk_blocks : ∀ (bs : List LeafBlock), (∀ b ∈ bs, b.Ok) → LinesOk (bs.flatMap LeafBlock.lines)
  | [], _ => trivial
  | b :: bs, hok => by
    have hrest := linesOk_blocks bs (fun b' hb' => hok b' (by simp [hb']))
    have hhead : ∀ l' ∈ (bs.flatMap LeafBlock.lines).head?, l'.isBlanks = false := by
      cases bs with
      | nil => simp
      | cons b' _ => cases b' <;> simp [LeafBlock.lines, LeafLine.isBlanks]
    have hb := hok b (by simp)
    cases b with
    | heading level text =>
      obtain ⟨h1, h6, _, hnl, _, _⟩ := hb
      exact ⟨mdHeading_line level text ['\n'] h1 h6 hnl (Or.inr ⟨_, rfl⟩), (fun h => by cases h),
        (fun _ hl => nomatch hl), fun _ => hhead, hrest⟩
    | rule =>
      exact ⟨⟨Or.inr (Or.inr rfl), by simp, by simp, by simp, by simp, Or.inr ⟨_, rfl⟩⟩, (fun h => by cases h),
        (fun _ hl => nomatch hl), fun _ => hhead, hrest⟩

/-- **C04 / C13 for documents of headings and thematic breaks.**  For every regenerated configuration `c` except
`all-fenced-colon`: `BlockParser.parse` on the text `MarkdownRenderer` writes for a list of headings (levels 1..6, texts
in the domain `LeafBlock.Ok`) and thematic breaks returns exactly their tokens — `heading` with the same level and the
same text, `thematic_break` — each followed by one `blank_line` token, and the initial `env`. -/
theorem leafDoc_blockParse (c : RuleCfg) (hc : c ∈ allCfgs) (hn : c.name ≠ "all-fenced-colon")
    (bs : List LeafBlock) (hok : ∀ b ∈ bs, b.Ok) :
    Model.blockParse (ofRuleCfg c) (renderLeaves bs) = .ok (leafTokens bs, .obj [("ref_links", .obj [])]) := by
  have htext : linesText (bs.flatMap LeafBlock.lines) = renderLeaves bs := by
    clear hok
    induction bs with
    | nil => rfl
    | cons b bs ih => rw [List.flatMap_cons, linesText_append, ih, b.linesText_lines]; rfl
  have htok : (bs.flatMap LeafBlock.lines).map LeafLine.token = leafTokens bs := by
    clear htext
    induction bs with
    | nil => rfl
    | cons b bs ih =>
      rw [List.flatMap_cons, List.map_append, ih (fun b' hb' => hok b' (by simp [hb'])),
        b.map_token_lines (hok b (by simp))]
      rfl
  rw [← htext, ← htok]
  exact leafLines_blockParse c hc hn _ (linesOk_blocks bs hok)

/-! ### instances -/

section LeafDocExamples

theorem cfg_core_mem : cfg_core ∈ allCfgs := List.Mem.head _

def exDoc : List LeafBlock := [.heading 2 "foo bar".toList, .rule, .heading 1 "a #b".toList, .heading 6 "C#".toList]

example : renderLeaves exDoc = "## foo bar\n\n***\n\n# a #b\n\n###### C#\n\n".toList := by decide +kernel

theorem exDoc_ok : ∀ b ∈ exDoc, b.Ok := by
  intro b hb
  simp only [exDoc, List.mem_cons, List.not_mem_nil, or_false] at hb
  rcases hb with rfl | rfl | rfl | rfl
  · exact ⟨by decide, by decide, by decide, by decide, by decide, by decide⟩
  · trivial
  · exact ⟨by decide, by decide, by decide, by decide, by decide, by decide⟩
  · exact ⟨by decide, by decide, by decide, by decide, by decide, by decide⟩

/-- the theorem instantiated (core configuration): four blocks, eight tokens -/
example : Model.blockParse (ofRuleCfg cfg_core) (renderLeaves exDoc) =
    .ok ([atxToken "foo bar".toList 2, tok "blank_line" [], tok "thematic_break" [], tok "blank_line" [],
          atxToken "a #b".toList 1, tok "blank_line" [], atxToken "C#".toList 6, tok "blank_line" []],
         .obj [("ref_links", .obj [])]) :=
  leafDoc_blockParse cfg_core cfg_core_mem (by decide) exDoc exDoc_ok

/-- the single steps instantiated: a heading line in the middle of a subject, the blank line after it -/
example : ∃ sc, compileSc atxCfg atxCfg.blockRules = .ok sc ∧ LeafSc sc := by
  obtain ⟨sc, h1, h2, h3⟩ := blockRules_prefixes cfg_core cfg_core_mem (by decide)
  exact ⟨sc, h1, h2, h3, by have := blankRules_ok cfg_core cfg_core_mem; rw [h1] at this; exact this⟩

example : blankRuleRx.matchAt (Py.ctxOf ("# a\n".toList ++ ['\n'] ++ "***\n".toList)) 4 = some (blankMatch 4) :=
  blankRule_matchAt_hit "# a\n".toList "***\n".toList (Or.inr (by decide)) (Or.inr ⟨'*', _, rfl, by decide, by decide⟩)

/-- a second blank line would be taken by the same match (`BlankStop` is needed) -/
example : (blankRuleRx.matchAt (Py.ctxOf "\n\n#".toList) 0).map (·.stop) = some 2 := by decide +kernel

/-- a general line document: a heading with closing sequence, an empty line, a `_` rule directly followed by an indented
heading, a group of two blank lines (the second one with a blank), an indented spaced `*` rule, and the two kinds of `-`
rules (`---` is claimed by `setex_heading` first, `- - -` is not) -/
def exLines : List LeafLine :=
  [.heading [] "##".toList " foo bar ##".toList, .blanks [], .rule '_' [] [[], [], []],
   .heading " ".toList "#".toList " x".toList, .blanks [" ".toList], .rule '*' "  ".toList [" ".toList, " ".toList, []],
   .rule '-' [] [[], [], []], .rule '-' [] [" ".toList, " ".toList, []]]

example : linesText exLines = "## foo bar ##\n\n___\n # x\n\n \n  * * *\n---\n- - -\n".toList := by decide +kernel

theorem exLines_ok : LinesOk exLines := by
  refine ⟨?_, by simp [LeafLine.isBlanks], ?_, by simp [LeafLine.isBlanks], ?_, by simp [LeafLine.isBlanks], ?_,
    by simp [LeafLine.isBlanks], ?_, by simp [LeafLine.isBlanks], ?_, by simp [LeafLine.isBlanks], ?_,
    by simp [LeafLine.isBlanks], ?_, by simp [LeafLine.isBlanks], trivial⟩
  · exact ⟨by decide, by decide, by decide, by decide, by decide, Or.inr ⟨' ', _, rfl, rfl⟩, by decide, Or.inr ⟨_, rfl⟩⟩
  · intro l hl; cases hl
  · exact ⟨Or.inr (Or.inl rfl), by decide, by decide, by decide, by decide, Or.inr ⟨_, rfl⟩⟩
  · exact ⟨by decide, by decide, by decide, by decide, by decide, Or.inr ⟨' ', _, rfl, rfl⟩, by decide, Or.inr ⟨_, rfl⟩⟩
  · show ∀ l ∈ [" ".toList], ∀ ch ∈ l, isWs4 ch = true
    decide
  · exact ⟨Or.inr (Or.inr rfl), by decide, by decide, by decide, by decide, Or.inr ⟨_, rfl⟩⟩
  · exact ⟨Or.inl rfl, by decide, by decide, by decide, by decide, Or.inr ⟨_, rfl⟩⟩
  · exact ⟨Or.inl rfl, by decide, by decide, by decide, by decide, Or.inr ⟨_, rfl⟩⟩

example : Model.blockParse (ofRuleCfg cfg_core) (linesText exLines) =
    .ok ([atxToken (atxSpec " foo bar ##".toList) 2, tok "blank_line" [], tok "thematic_break" [],
          atxToken (atxSpec " x".toList) 1, tok "blank_line" [], tok "thematic_break" [], tok "thematic_break" [],
          tok "thematic_break" []],
         .obj [("ref_links", .obj [])]) :=
  leafLines_blockParse cfg_core cfg_core_mem (by decide) exLines exLines_ok

example : atxSpec " foo bar ##".toList = "foo bar".toList ∧ atxSpec " x".toList = "x".toList := by decide +kernel

end LeafDocExamples

end Mistune
