/-
C05 — the second pass (`Markdown._iter_render`) leaves no unprocessed `text` field: for ANY token tree the
block pass can produce (`preOKL`) and ANY inline parser whose tokens contain no `text` key.
-/
import Mistune.SecondPass
namespace Mistune

theorem mapM_cons_ok {α β ε : Type} (f : α → Except ε β) (a : α) (l : List α) (out : List β) :
    (a :: l).mapM f = .ok out ↔ ∃ b bs, f a = .ok b ∧ l.mapM f = .ok bs ∧ out = b :: bs := by
  rw [List.mapM_cons]
  cases h : f a with
  | error e => simp [bind, Except.bind]
  | ok b =>
    cases h2 : l.mapM f with
    | error e => simp [bind, Except.bind]
    | ok bs =>
      simp [bind, Except.bind, pure, Except.pure]
      exact eq_comm

theorem mapM_ok_length {α β ε : Type} (f : α → Except ε β) :
    ∀ (l : List α) (out : List β), l.mapM f = .ok out → out.length = l.length := by
  intro l
  induction l with
  | nil => intro out h; simp [pure, Except.pure] at h; subst h; rfl
  | cons a l ih =>
    intro out h
    obtain ⟨b, bs, _, h2, rfl⟩ := (mapM_cons_ok f a l out).1 h
    simp [ih bs h2]

theorem mapM_ok_forall {α β ε : Type} (f : α → Except ε β) (P : α → Prop) (Q : β → Prop)
    (hf : ∀ a b, P a → f a = .ok b → Q b) :
    ∀ (l : List α) (out : List β), l.mapM f = .ok out → (∀ a ∈ l, P a) → ∀ b ∈ out, Q b := by
  intro l
  induction l with
  | nil => intro out h _; simp [pure, Except.pure] at h; subst h; simp
  | cons a l ih =>
    intro out h hP
    obtain ⟨b, bs, h1, h2, rfl⟩ := (mapM_cons_ok f a l out).1 h
    intro x hx
    rcases List.mem_cons.1 hx with rfl | hx
    · exact hf a _ (hP a (List.mem_cons_self)) h1
    · exact ih bs h2 (fun a ha => hP a (List.mem_cons_of_mem _ ha)) x hx

theorem mapM_ok_of_forall {α β ε : Type} (f : α → Except ε β) (g : α → β) :
    ∀ (l : List α), (∀ a ∈ l, f a = .ok (g a)) → l.mapM f = .ok (l.map g) := by
  intro l
  induction l with
  | nil => intro _; rfl
  | cons a l ih =>
    intro h
    rw [List.mapM_cons, h a List.mem_cons_self, ih (fun b hb => h b (List.mem_cons_of_mem _ hb))]
    rfl

/-! ### `Json` objects: the typed readers, `get?` after `set` and `erase` -/

theorem type_of_get? (t : Json) (s : Str) (h : t.get? "type" = some (.str s)) : t.type = String.ofList s := by
  simp [Json.type, Json.getStr, h]

theorem getArr_of_get? (t : Json) (k : String) (l : List Json) (h : t.get? k = some (.arr l)) : t.getArr k = l := by
  simp [Json.getArr, h]

theorem getBool_of_get? (t : Json) (k : String) (b : Bool) (h : t.get? k = some (.bool b)) : t.getBool k = b := by
  simp [Json.getBool, h]

theorem isObj_of_get? (t : Json) (k : String) (v : Json) (h : t.get? k = some v) : ∃ kv, t = .obj kv := by
  cases t with
  | obj kv => exact ⟨kv, rfl⟩
  | _ => simp [Json.get?] at h

theorem lookup_map_set (k k' : String) (v : Json) (kv : List (String × Json)) (h : k' ≠ k) :
    (kv.map (fun p => if p.1 == k then (k, v) else p)).lookup k' = kv.lookup k' := by
  induction kv with
  | nil => rfl
  | cons p kv ih =>
    rw [List.map_cons, List.lookup_cons, List.lookup_cons, ih]
    by_cases hp : p.1 = k
    · have h1 : (k' == k) = false := beq_false_of_ne h
      simp only [hp, beq_self_eq_true, if_true, h1]
    · simp only [beq_false_of_ne hp, Bool.false_eq_true, if_false]

theorem lookup_append_ne (k k' : String) (v : Json) (kv : List (String × Json)) (h : k' ≠ k) :
    (kv ++ [(k, v)]).lookup k' = kv.lookup k' := by
  rw [List.lookup_append, List.lookup_cons, beq_false_of_ne h, List.lookup_nil, Option.or_none]

theorem get?_set_ne (t : Json) (k k' : String) (v : Json) (h : k' ≠ k) : (t.set k v).get? k' = t.get? k' := by
  cases t with
  | obj kv =>
    simp only [Json.set]
    split
    · simp only [Json.get?]; exact lookup_map_set k k' v kv h
    · simp only [Json.get?]; exact lookup_append_ne k k' v kv h
  | _ => rfl

theorem lookup_map_set_self (k : String) (v : Json) (kv : List (String × Json))
    (h : kv.any (fun p => p.1 == k) = true) :
    (kv.map (fun p => if p.1 == k then (k, v) else p)).lookup k = some v := by
  induction kv with
  | nil => simp at h
  | cons p kv ih =>
    rw [List.map_cons, List.lookup_cons]
    by_cases hp : p.1 = k
    · simp only [hp, beq_self_eq_true, if_true]
    · have h0 : (p.1 == k) = false := beq_false_of_ne hp
      rw [List.any_cons, h0, Bool.false_or] at h
      simp only [h0, Bool.false_eq_true, if_false, beq_false_of_ne (Ne.symm hp), ih h]

theorem lookup_append_self (k : String) (v : Json) (kv : List (String × Json))
    (h : ¬ kv.any (fun p => p.1 == k) = true) : (kv ++ [(k, v)]).lookup k = some v := by
  have hn : kv.lookup k = none := by
    rw [List.lookup_eq_none_iff]
    intro p hp
    rw [bne_iff_ne]
    exact fun e => h (List.any_eq_true.2 ⟨p, hp, beq_iff_eq.2 e.symm⟩)
  rw [List.lookup_append, hn, Option.none_or, List.lookup_cons, beq_self_eq_true]

theorem get?_set_self (kv : List (String × Json)) (k : String) (v : Json) :
    ((Json.obj kv).set k v).get? k = some v := by
  simp only [Json.set]
  split
  · rename_i h; simp only [Json.get?]; exact lookup_map_set_self k v kv h
  · rename_i h; simp only [Json.get?]; exact lookup_append_self k v kv h

theorem get?_set_of_get? {t : Json} {k0 : String} {w : Json} (h : t.get? k0 = some w) (k : String) (v : Json) :
    (t.set k v).get? k = some v := by
  obtain ⟨kv, rfl⟩ := isObj_of_get? _ _ _ h
  exact get?_set_self _ _ _

theorem get?_erase_ne (t : Json) (k k' : String) (h : k' ≠ k) : (t.erase k).get? k' = t.get? k' := by
  cases t with
  | obj kv =>
    simp only [Json.erase, Json.get?]
    induction kv with
    | nil => rfl
    | cons p kv ih =>
      rw [List.filter_cons, List.lookup_cons]
      by_cases hp : p.1 = k
      · simp only [hp, bne_self_eq_false, Bool.false_eq_true, if_false, beq_false_of_ne h, ih]
      · rw [if_pos (bne_iff_ne.2 hp), List.lookup_cons, ih]
  | _ => rfl

theorem set_obj (kv : List (String × Json)) (k : String) (v : Json) : ∃ kv', (Json.obj kv).set k v = .obj kv' := by
  simp only [Json.set]; split <;> exact ⟨_, rfl⟩

theorem get?_erase_self (t : Json) (k : String) : (t.erase k).get? k = none := by
  cases t with
  | obj kv =>
    simp only [Json.erase, Json.get?, List.lookup_eq_none_iff, List.mem_filter, bne_iff_ne]
    exact fun p hp e => hp.2 e.symm
  | _ => rfl

theorem erase_obj (kv : List (String × Json)) (k : String) : ∃ kv', (Json.obj kv).erase k = .obj kv' := ⟨_, rfl⟩

/-! ### the predicates `noTextJ`, `preOKJ` entry by entry -/

theorem noTextL_iff (l : List Json) : noTextL l = true ↔ ∀ j ∈ l, noTextJ j = true := by
  induction l with
  | nil => simp [noTextL]
  | cons a l ih => simp [noTextL, ih]

theorem preOKL_iff (l : List Json) : preOKL l = true ↔ ∀ j ∈ l, preOKJ j = true := by
  induction l with
  | nil => simp [preOKL]
  | cons a l ih => simp [preOKL, ih]

theorem noTextKV_iff (kv : List (String × Json)) :
    noTextKV kv = true ↔ ∀ p ∈ kv, noTextJ p.2 = true := by
  induction kv with
  | nil => simp [noTextKV]
  | cons a l ih => obtain ⟨k, v⟩ := a; simp [noTextKV, ih]

/-- the per-entry condition of `preOKKV` -/
def preEntry (p : String × Json) : Bool :=
  if p.1 == "children" then (match p.2 with | .arr l => preOKL l | _ => false)
  else if p.1 == "text" then (match p.2 with | .str _ => true | _ => false)
  else noTextJ p.2

theorem preOKKV_iff (kv : List (String × Json)) :
    preOKKV kv = true ↔ ∀ p ∈ kv, preEntry p = true := by
  induction kv with
  | nil => simp [preOKKV]
  | cons a l ih =>
    obtain ⟨k, v⟩ := a
    have e : preOKKV ((k, v) :: l) = (preEntry (k, v) && preOKKV l) := by cases v <;> rfl
    rw [e, Bool.and_eq_true, ih, List.forall_mem_cons]

theorem lookup_some_mem (kv : List (String × Json)) (k : String) (v : Json) :
    kv.lookup k = some v → (k, v) ∈ kv := by
  intro h
  obtain ⟨l₁, l₂, rfl, _⟩ := List.lookup_eq_some_iff.1 h
  simp

theorem lookup_none_key (kv : List (String × Json)) (k : String) :
    kv.lookup k = none → ∀ p ∈ kv, p.1 ≠ k := by
  intro h p hp e
  simpa [e] using List.lookup_eq_none_iff.1 h p hp

theorem any_key (kv : List (String × Json)) (k : String) :
    kv.any (fun p => p.1 == k) = true ↔ ∃ v, (k, v) ∈ kv := by
  rw [List.any_eq_true]
  constructor
  · rintro ⟨⟨a, v⟩, hp, e⟩
    have : a = k := by simpa using e
    subst this
    exact ⟨v, hp⟩
  · rintro ⟨v, hv⟩
    exact ⟨_, hv, by simp⟩

theorem noTextJ_obj (kv : List (String × Json)) :
    noTextJ (.obj kv) = true ↔ ∀ p ∈ kv, p.1 ≠ "text" ∧ noTextJ p.2 = true := by
  simp only [noTextJ, Bool.and_eq_true, Bool.not_eq_true', List.any_eq_false, beq_iff_eq, noTextKV_iff]
  exact ⟨fun h p hp => ⟨h.1 p hp, h.2 p hp⟩, fun h => ⟨fun p hp => (h p hp).1, fun p hp => (h p hp).2⟩⟩

/-- an object of the block pass: not both `children` and `text`, and every entry passes `preEntry` -/
theorem preOKJ_obj (kv : List (String × Json)) :
    preOKJ (.obj kv) = true ↔ ¬ ((∃ v, ("children", v) ∈ kv) ∧ ∃ v, ("text", v) ∈ kv) ∧ ∀ p ∈ kv, preEntry p = true := by
  simp only [preOKJ, Bool.and_eq_true, Bool.not_eq_true', ← Bool.not_eq_true, any_key, preOKKV_iff]

/-- an entry of a block-pass object under a key other than `children` and `text` -/
theorem preEntry_other {p : String × Json} (h : preEntry p = true) (h1 : p.1 ≠ "children") (h2 : p.1 ≠ "text") :
    noTextJ p.2 = true := by
  have e1 : (p.1 == "children") = false := by simpa using h1
  have e2 : (p.1 == "text") = false := by simpa using h2
  simpa [preEntry, e1, e2] using h

/-- `d[k] = v` for a key other than `text` and a value without `text` keys -/
theorem noTextJ_set (kv : List (String × Json)) (k : String) (v : Json) (hk : k ≠ "text") (hv : noTextJ v = true)
    (h : ∀ p ∈ kv, p.1 ≠ k → p.1 ≠ "text" ∧ noTextJ p.2 = true) : noTextJ ((Json.obj kv).set k v) = true := by
  simp only [Json.set]
  split
  · rw [noTextJ_obj]
    intro q hq
    obtain ⟨p, hp, rfl⟩ := List.mem_map.1 hq
    by_cases hpk : p.1 = k
    · simp only [hpk, beq_self_eq_true, if_true]; exact ⟨hk, hv⟩
    · have : (p.1 == k) = false := by simpa using hpk
      simp only [this, Bool.false_eq_true, if_false]; exact h p hp hpk
  · rename_i hany
    rw [noTextJ_obj]
    intro q hq
    rcases List.mem_append.1 hq with hq | hq
    · refine h q hq (fun e => hany ((any_key _ _).2 ⟨q.2, ?_⟩))
      rw [← e]; exact hq
    · rw [List.mem_singleton.1 hq]; exact ⟨hk, hv⟩

/-- one step of the second pass on a single token: the body of the `mapM` in `iterRenderG`, tied to it by `rfl` in
`iterRenderG_succ` -/
def stepG (inl : Str → Except PyErr (List Json)) (fuel : Nat) (t : Json) : Except PyErr Json :=
  match t.get? "children" with
  | some (.arr cs) => do
    let cs' ← iterRenderG inl fuel cs
    pure (t.set "children" (.arr cs'))
  | _ =>
    match t.get? "text" with
    | some (.str text) => do
      let cs ← inl (Py.stripC " \r\n\t\x0c".toList text)
      pure ((t.erase "text").set "children" (.arr cs))
    | _ => pure t

theorem iterRenderG_succ (inl : Str → Except PyErr (List Json)) (fuel : Nat) (toks : List Json) :
    iterRenderG inl (fuel + 1) toks = toks.mapM (stepG inl fuel) := by
  rfl

/-- what a step of the second pass returns: the token with its children processed, or with `text` replaced by the
inline tokens of the text, or the token itself -/
theorem stepG_ok {inl : Str → Except PyErr (List Json)} {fuel : Nat} {t t' : Json} (h : stepG inl fuel t = .ok t') :
    (∃ cs cs', t.get? "children" = some (.arr cs) ∧ iterRenderG inl fuel cs = .ok cs' ∧
        t' = t.set "children" (.arr cs')) ∨
    ((∀ cs, t.get? "children" ≠ some (.arr cs)) ∧
      ((∃ text cs, t.get? "text" = some (.str text) ∧ inl (Py.stripC " \r\n\t\x0c".toList text) = .ok cs ∧
          t' = (t.erase "text").set "children" (.arr cs)) ∨
        ((∀ text, t.get? "text" ≠ some (.str text)) ∧ t' = t))) := by
  unfold stepG at h
  split at h
  · rename_i cs hcs
    cases hr : iterRenderG inl fuel cs with
    | error e => rw [hr] at h; cases h
    | ok cs' => rw [hr] at h; cases h; exact Or.inl ⟨cs, cs', hcs, hr, rfl⟩
  · rename_i hnc
    refine Or.inr ⟨fun cs hcs => hnc cs hcs, ?_⟩
    split at h
    · rename_i text htext
      cases hr : inl (Py.stripC " \r\n\t\x0c".toList text) with
      | error e => rw [hr] at h; cases h
      | ok cs => rw [hr] at h; cases h; exact Or.inl ⟨text, cs, htext, hr, rfl⟩
    · rename_i hnt
      cases h
      exact Or.inr ⟨fun text ht => hnt text ht, rfl⟩

/-- the single-token step preserves the invariant, given the IH for the smaller fuel -/
theorem stepG_shape (inl : Str → Except PyErr (List Json))
    (hinl : ∀ s r, inl s = .ok r → noTextL r = true) (fuel : Nat)
    (ih : ∀ toks out, iterRenderG inl fuel toks = .ok out → preOKL toks = true → noTextL out = true)
    (t b : Json) (hpre : preOKJ t = true) (hrun : stepG inl fuel t = .ok b) :
    noTextJ b = true := by
  cases t with
  | obj kv =>
    obtain ⟨hboth, hkv⟩ := (preOKJ_obj kv).1 hpre
    rcases stepG_ok hrun with ⟨cs, cs', hcs, hr, rfl⟩ | ⟨hnc, ⟨text, cs, htx, hr, rfl⟩ | ⟨hnt, rfl⟩⟩
    · -- `children` is there, so `text` is not
      have hmem := lookup_some_mem kv _ _ hcs
      have hce := hkv _ hmem
      simp only [preEntry, beq_self_eq_true, if_true] at hce
      refine noTextJ_set kv _ _ (by decide) (ih cs cs' hr hce) (fun p hp hpc => ?_)
      have hpt : p.1 ≠ "text" := fun e => hboth ⟨⟨_, hmem⟩, p.2, by rw [← e]; exact hp⟩
      exact ⟨hpt, preEntry_other (hkv p hp) hpc hpt⟩
    · refine noTextJ_set _ _ _ (by decide) (hinl _ _ hr) (fun p hp hpc => ?_)
      obtain ⟨hp1, hp2⟩ := List.mem_filter.1 hp
      have hpt : p.1 ≠ "text" := by simpa using hp2
      exact ⟨hpt, preEntry_other (hkv p hp1) hpc hpt⟩
    · -- an entry `children` would be a list, an entry `text` a string
      have hnoc : ∀ p ∈ kv, p.1 ≠ "children" := by
        cases hc : kv.lookup "children" with
        | none => exact lookup_none_key kv _ hc
        | some c =>
          have hce := hkv _ (lookup_some_mem kv _ _ hc)
          simp only [preEntry, beq_self_eq_true, if_true] at hce
          cases c with
          | arr l => exact absurd hc (hnc l)
          | _ => cases hce
      have hnot : ∀ p ∈ kv, p.1 ≠ "text" := by
        cases ht : kv.lookup "text" with
        | none => exact lookup_none_key kv _ ht
        | some x =>
          have hte := hkv _ (lookup_some_mem kv _ _ ht)
          simp only [preEntry, (by decide : ("text" == "children") = false), beq_self_eq_true, if_true] at hte
          cases x with
          | str text => exact absurd ht (hnt text)
          | _ => cases hte
      exact (noTextJ_obj kv).2 (fun p hp => ⟨hnot p hp, preEntry_other (hkv p hp) (hnoc p hp) (hnot p hp)⟩)
  | _ => simp [preOKJ] at hpre

/-- **C05 (no left-over `text`).** -/
theorem iterRender_shape (inl : Str → Except PyErr (List Json))
    (hinl : ∀ s r, inl s = .ok r → noTextL r = true)
    (fuel : Nat) (toks out : List Json)
    (hrun : iterRenderG inl fuel toks = .ok out) (hpre : preOKL toks = true) :
    noTextL out = true := by
  induction fuel generalizing toks out with
  | zero => simp [iterRenderG] at hrun
  | succ fuel ih =>
    rw [iterRenderG_succ] at hrun
    rw [noTextL_iff]
    rw [preOKL_iff] at hpre
    exact mapM_ok_forall (stepG inl fuel) (fun t => preOKJ t = true) (fun b => noTextJ b = true)
      (fun t b hp hr => stepG_shape inl hinl fuel ih t b hp hr) toks out hrun hpre

/-- the second pass keeps the number of tokens at every level it returns -/
theorem iterRender_length (inl : Str → Except PyErr (List Json)) (fuel : Nat) (toks out : List Json)
    (hrun : iterRenderG inl fuel toks = .ok out) : out.length = toks.length := by
  cases fuel with
  | zero => simp [iterRenderG] at hrun
  | succ fuel =>
    rw [iterRenderG_succ] at hrun
    exact mapM_ok_length _ toks out hrun

/-- non-vacuity: a block token tree with nested `text` satisfies the precondition -/
example : preOKL [tok "block_quote" [("children", .arr [tok "paragraph" [("text", .str "a".toList)]])],
                  tok "heading" [("text", .str "h".toList), ("attrs", .obj [("level", .num 1)])]] = true := by
  decide

end Mistune
