/-
C05 (the token tree obeys the documented grammar): headline theorem for the CONCRETE parser model.

`parseDoc_wf`: for every configuration all of whose handlers are covered (`coreCfgB`; the core configurations and those
with the plugins formatting, url, speedup, math, spoiler) and whose ATX rules capture one to six `#` (`CfgAtx`; discharged
from a decidable check of the regexes in `C05GrammarAtx`, which also has the hypothesis-free `parseDoc_wf_core`), every
token tree returned by `Model.parseDoc` satisfies the grammar predicate `wfSeq` of `Mistune.SecondPass` (the predicate
behind `wfTokens`), nesting clause included, with an explicit fuel that covers the deepest tree the model can return.

The fuel of `wfTokens` is `2 * maxNested + 404` = `wfFuel` (how it is spent: see `wfFuel`).  A small constant would not
do: inline nesting is not bounded by `max_nested_level` (a raw `</a>` resets `in_link`, so links nest in links), and a
63-fold nested link is a reachable tree that a fuel of 64 would reject only because the fuel ran out
(`harness/tokgrammar.py`, which has no fuel, accepts it).  `parseDoc_wf` proves `wfFuel` sufficient;
`parseDoc_wfTokens` is the statement about `wfTokens` itself.  `wfSeq` is monotone in the fuel (`wfSeq_mono_le`).
-/
import MistuneProofs.C05GrammarList
import MistuneProofs.C05GrammarInline
namespace Mistune
namespace Model
open Blk Blk.G

/-- the decidable side conditions of `parseDoc_wf`: no uncovered block plugin rule (`noBlockPlugins`), no uncovered
inline plugin rule (`noInlinePlugins`), no before-render or after-render hook (before-parse hooks are allowed), no
`footnote` inline rule, `max_nested_level ≥ 1` -/
def coreCfgB (cfg : MdCfg) : Bool :=
  noBlockPlugins cfg && Inl.G.noInlinePlugins cfg && cfg.beforeRenderHooks.isEmpty && cfg.afterRenderHooks.isEmpty &&
    !cfg.inlineRules.contains "footnote" && decide (1 ≤ cfg.maxNested)

/-- fuel of `wfSeq` that covers every tree `parseDoc` returns.  The block pass returns a tree of `preSeq`-depth
`2 * maxNested + 1` (`blockParse_pre`, `gF`: two levels per level of nesting, which a list spends on `list` and
`list_item`, and one for the leaf, e.g. a text block).  The inline parser returns lists of depth
`2 * inlineFuel + 2 + 1` (`inlineParse_wf`, `recAt_ok`: two levels per level of the budget `inlineFuel = 200`, since `***`
opens `emphasis` and `strong` at once; two more for the top-level `parse`, which works with `recAt inlineFuel`; one
for the leaves).  `iterRender_wf` hangs such a list of depth `K + 1` below a text block of a tree of depth `n` and
needs `n + K + 1`. -/
def wfFuel (cfg : MdCfg) : Nat := 2 * cfg.maxNested + 1 + (2 * Inl.inlineFuel + 2) + 1

/-- for a covered configuration `parseDoc` is the block pass followed by the second pass; the block tokens are in the
block-pass grammar, and the side conditions of the inline theorems hold -/
theorem parseDoc_passes (cfg : MdCfg) (hcore : coreCfgB cfg = true) (hatx : CfgAtx cfg) (s : Str) (toks : List Json)
    (h : parseDoc cfg s = .ok toks) :
    ∃ btoks env, preSeq (2 * cfg.maxNested + 1) btoks .block 0 cfg.maxNested = true ∧ EnvOk env ∧
      iterRender cfg env 64 btoks = .ok toks ∧ (cfg.blockSpec.lookup "ref_abbr").isSome = false ∧
      Inl.G.noInlinePlugins cfg = true := by
  simp only [coreCfgB, Bool.and_eq_true, List.isEmpty_iff, decide_eq_true_eq, Bool.not_eq_true'] at hcore
  obtain ⟨⟨⟨⟨⟨hnp, hpl⟩, hbr⟩, har⟩, hfn⟩, hmx⟩ := hcore
  have hna : (cfg.blockSpec.lookup "ref_abbr").isSome = false := by
    simp only [noBlockPlugins, Bool.and_eq_true, Bool.not_eq_true'] at hnp
    obtain ⟨⟨⟨⟨_, hRefAbbr⟩, _⟩, _⟩, _⟩ := hnp
    exact hRefAbbr
  have hfn' : ¬ "footnote" ∈ cfg.inlineRules := by simpa using hfn
  cases hb : blockParse cfg (norm s) with
  | error e =>
    by_cases hh : cfg.beforeParseHooks.isEmpty <;>
      simp [parseDoc, hh, hb, bind, Except.bind, throw, throwThe, MonadExceptOf.throw] at h
  | ok res =>
    obtain ⟨btoks, env⟩ := res
    obtain ⟨hpre, henv⟩ := blockParse_pre cfg hatx hnp hmx (norm s) btoks env hb
    refine ⟨btoks, env, hpre, henv, ?_, hna, hpl⟩
    cases hr : iterRender cfg env 64 btoks with
    | error e =>
      by_cases hh : cfg.beforeParseHooks.isEmpty <;>
        simp [parseDoc, hh, hb, hr, hbr, hfn', Hooks.beforeRender, bind, Except.bind, throw, throwThe,
          MonadExceptOf.throw] at h
    | ok out =>
      by_cases hh : cfg.beforeParseHooks.isEmpty <;>
        simp [parseDoc, hh, hb, hr, hbr, har, hfn', Hooks.beforeRender, Hooks.afterRender, bind, Except.bind, throw,
          throwThe, MonadExceptOf.throw, pure, Except.pure] at h
      all_goals rw [h]

/-- **C05 for the concrete model.** -/
theorem parseDoc_wf (cfg : MdCfg) (hcore : coreCfgB cfg = true) (hatx : CfgAtx cfg) (s : Str) (toks : List Json)
    (h : parseDoc cfg s = .ok toks) : wfSeq (wfFuel cfg) toks .block 0 cfg.maxNested = true := by
  obtain ⟨btoks, env, hpre, henv, hr, hna, hpl⟩ := parseDoc_passes cfg hcore hatx s toks h
  exact iterRender_wf (inlineParse cfg env) (2 * Inl.inlineFuel + 2) cfg.maxNested
    (fun src o d hd ho => Inl.G.inlineParse_wf cfg hna hpl env henv src o d cfg.maxNested hd ho)
    _ _ _ _ _ _ hpre hr

/-- the same tree has only core token types, with `attrs` of the shape `attrsShape` (used by C02Doc) -/
theorem parseDoc_shp (cfg : MdCfg) (hcore : coreCfgB cfg = true) (hatx : CfgAtx cfg) (s : Str) (toks : List Json)
    (h : parseDoc cfg s = .ok toks) : shpAll (wfFuel cfg) toks = true := by
  obtain ⟨btoks, env, hpre, henv, hr, hna, hpl⟩ := parseDoc_passes cfg hcore hatx s toks h
  exact iterRender_shp (inlineParse cfg env) (2 * Inl.inlineFuel + 2) cfg.maxNested
    (fun src o ho => Inl.G.inlineParse_shp cfg hna hpl env henv src o ho)
    _ _ _ _ _ _ hpre hr

theorem wfFuel_eq (cfg : MdCfg) : wfFuel cfg = 2 * cfg.maxNested + 404 := by
  unfold wfFuel Inl.inlineFuel; omega

/-- **C05 for the concrete model, as the predicate `wfTokens`** (whose fuel is exactly `wfFuel`) -/
theorem parseDoc_wfTokens (cfg : MdCfg) (hcore : coreCfgB cfg = true) (hatx : CfgAtx cfg) (s : Str) (toks : List Json)
    (h : parseDoc cfg s = .ok toks) : wfTokens toks cfg.maxNested = true := by
  have := parseDoc_wf cfg hcore hatx s toks h
  rw [wfFuel_eq] at this
  exact this

/-! ### the decidable side conditions hold for the core configurations -/

/-- the configurations all of whose handlers are covered: the plugin-free ones and those with one of the plugins
formatting / url / speedup / math / spoiler (other plugin handlers are outside this proof) -/
def coreNames : List String :=
  ["core", "core-noescape", "core-hardwrap", "ast-core", "markdown-core", "rst-core",
   -- configurations with one covered plugin
   "only-strikethrough", "only-mark", "only-insert", "only-superscript", "only-subscript", "only-url", "only-speedup", "only-math", "only-spoiler"]

end Model
end Mistune

#print axioms Mistune.Model.parseDoc_wf
