/-
C05 for the concrete model: the hypothesis `CfgAtx` of `parseDoc_wf` (the ATX rules capture one to six `#` in
group `atx_1`) follows from a structural, decidable check of the regenerated regexes (`capOk`: group 1 is
`(#{1,6})`; `mustCap`: every match sets it, an instance of `grpAlways` of `Engine/Analyses`).
-/
import MistuneProofs.C05Grammar
namespace Mistune

/-- `#{1,6}` -/
def Rx.hashRun : Rx → Bool
  | .rep (.cls false [.chr 35]) 1 (some 6) _ => true
  | _ => false

/-- every group 1 of the regex is `(#{1,6})` -/
def Rx.capOk : Rx → Bool
  | .grp idx r => if idx == 1 then r.hashRun else r.capOk
  | .seq a b => a.capOk && b.capOk
  | .alt a b => a.capOk && b.capOk
  | .rep r _ _ _ => r.capOk
  | .look _ _ _ r => r.capOk
  | _ => true

def CapInv (x : RxCtx) (c : Caps) : Prop := ∀ a b, c.get 1 = some (a, b) → a + 1 ≤ b ∧ b ≤ a + 6 ∧ b ≤ x.s.size

theorem iter_hash {x : RxCtx} {cnt i : Nat} {c : Caps} {j : Nat} {c' : Caps}
    (h : Iter (Spec x (.cls false [.chr 35])) cnt i c j c') : j = i + cnt ∧ (0 < cnt → j ≤ x.s.size) ∧ c' = c := by
  induction h with
  | zero i c => exact ⟨rfl, fun h => by omega, rfl⟩
  | @succ n i j k c c' c'' hs _ ih =>
    simp only [Spec] at hs
    obtain ⟨_, h2, h3, h4⟩ := hs
    subst h3 h4
    refine ⟨by omega, fun _ => ?_, ih.2.2⟩
    by_cases hn : 0 < n
    · exact ih.2.1 hn
    · have : n = 0 := by omega
      subst this
      simp [clsTest, ClsItem.test, RxCtx.chr] at h2
      by_cases hlt : i < x.s.size
      · omega
      · simp [hlt] at h2

theorem capOk_sound (x : RxCtx) (r : Rx) (i : Nat) (c : Caps) (j : Nat) (c' : Caps)
    (h : Spec x r i c j c') (hok : r.capOk = true) (hc : CapInv x c) : CapInv x c' := by
  refine spec_caps (S := fun r => r.capOk = true) (fun a b h => by simpa [Rx.capOk] using h)
    (fun a b h => by simpa [Rx.capOk] using h) (fun r _ _ _ h => h) (fun _ _ _ r h => h) ?_ r i c j c' h hok hc
  intro idx r i c j c0 hok h1 hc hbody a b hab
  by_cases hidx : idx = 1
  · -- group 1 is `(#{1,6})`: the new entry for group 1 spans one to six characters
    subst hidx
    simp only [Rx.capOk, beq_self_eq_true, if_true] at hok
    unfold Rx.hashRun at hok
    split at hok
    · simp only [Spec] at h1
      obtain ⟨cnt, k1, k2, hit⟩ := h1
      have k3 := k2 6 rfl
      obtain ⟨e1, e2, _⟩ := iter_hash hit
      simp [Caps.get, List.lookup] at hab
      obtain ⟨rfl, rfl⟩ := hab
      exact ⟨by omega, by omega, e2 (by omega)⟩
    · cases hok
  · -- another group: the entry for group 1 is that of the body
    have h0 : (idx == 1) = false := by simpa using hidx
    have hne : (1 == idx) = false := by simpa using (fun e : 1 = idx => hidx e.symm)
    simp only [Rx.capOk, h0, Bool.false_eq_true, if_false] at hok
    simp only [Caps.get, List.lookup, hne] at hab
    exact hbody hok a b hab

/-- every match of the regex captures group 1 -/
def Rx.mustCap : Rx → Bool
  | .grp idx r => idx == 1 || r.mustCap
  | .seq a b => a.mustCap || b.mustCap
  | .alt a b => a.mustCap && b.mustCap
  | _ => false

theorem mustCap_grpAlways (r : Rx) (h : r.mustCap = true) : r.grpAlways 1 = true := by
  induction r with
  | grp idx r ih =>
    simp only [Rx.mustCap, Rx.grpAlways, Bool.or_eq_true] at h ⊢
    exact h.imp id ih
  | seq a b iha ihb =>
    simp only [Rx.mustCap, Rx.grpAlways, Bool.or_eq_true] at h ⊢
    exact h.imp iha ihb
  | alt a b iha ihb =>
    simp only [Rx.mustCap, Rx.grpAlways, Bool.and_eq_true] at h ⊢
    exact ⟨iha h.1, ihb h.2⟩
  | _ => simp [Rx.mustCap] at h

theorem mustCap_sound (x : RxCtx) (r : Rx) (i : Nat) (c : Caps) (j : Nat) (c' : Caps)
    (h : Spec x r i c j c') (hm : r.mustCap = true) : (c'.get 1).isSome = true :=
  grpAlways_sound x 1 r i c j c' h (mustCap_grpAlways r hm)

open Model in
/-- a match of a checked regex has one to six characters in group `atx_1` -/
theorem atx_group (cfg : MdCfg) (hg : cfg.groups.lookup "atx_1" = some 1) (x : RxCtx) (r : Rx) (mt : RxMatch)
    (hs : Spec x r mt.start [] mt.stop mt.caps) (h1 : r.capOk = true) (h2 : r.mustCap = true) :
    1 ≤ (groupNamed cfg x.s mt "atx_1").length ∧ (groupNamed cfg x.s mt "atx_1").length ≤ 6 := by
  have hinv := capOk_sound x r _ _ _ _ hs h1 (fun a b h => by simp [Caps.get, List.lookup] at h)
  have hsome := mustCap_sound x r _ _ _ _ hs h2
  cases hc : mt.caps.get 1 with
  | none => rw [hc] at hsome; cases hsome
  | some p =>
    obtain ⟨a, b⟩ := p
    obtain ⟨k1, k2, k3⟩ := hinv a b hc
    simp [groupNamed, hg, Py.groupStr, RxMatch.group, hc, Py.slice]
    omega

namespace Model
open Blk Blk.G

def atxRxOk (r : Rx) : Bool := r.capOk && r.mustCap

/-- **decidable obligation on the regenerated tables**: `atx_1` is group 1, and every ATX rule (block specification,
the four list-item break variants) has group 1 = `(#{1,6})`, captured by every match -/
def atxOkB (cfg : MdCfg) : Bool :=
  decide (cfg.groups.lookup "atx_1" = some 1) &&
  cfg.blockSpec.all (fun p => p.1 != "atx_heading" || atxRxOk p.2) &&
  [0, 1, 2, 3].all (fun w => atxRxOk (cfg.rx ("rt:listbreak[atx_heading," ++ toString w ++ "]")))

theorem cfgAtx_of_B (cfg : MdCfg) (h : atxOkB cfg = true) : CfgAtx cfg := by
  simp only [atxOkB, Bool.and_eq_true, decide_eq_true_eq, List.all_eq_true] at h
  obtain ⟨⟨hg, hspec⟩, hbr⟩ := h
  refine ⟨fun x r mt hmem hs => ?_, fun bullet lw x r mt hmem hs => ?_⟩
  · have := hspec _ hmem
    simp [atxRxOk] at this
    exact atx_group cfg hg x r mt hs this.1 this.2
  · have hr : r = cfg.rx ("rt:listbreak[atx_heading," ++ toString (min lw 3) ++ "]") := by
      simp [listItemSc] at hmem
      exact hmem
    have hw : min lw 3 ∈ [0, 1, 2, 3] := by
      have : min lw 3 ≤ 3 := Nat.min_le_right _ _
      generalize min lw 3 = w at this
      have : w = 0 ∨ w = 1 ∨ w = 2 ∨ w = 3 := by omega
      simp; omega
    have := hbr _ hw
    rw [← hr] at this
    simp [atxRxOk] at this
    exact atx_group cfg hg x r mt hs this.1 this.2

/-- both decidable side conditions hold for the configurations of `coreNames` -/
theorem coreCfgs_both : ∀ n ∈ coreNames, (findCfg n).any (fun c => coreCfgB c && atxOkB c) = true := by
  decide +kernel

theorem coreCfgs_ok : ∀ n ∈ coreNames, (findCfg n).any coreCfgB = true := by
  intro n hn
  obtain ⟨c, hc, h⟩ := (Option.any_eq_true _ _).1 (coreCfgs_both n hn)
  exact (Option.any_eq_true _ _).2 ⟨c, hc, (Bool.and_eq_true_iff.1 h).1⟩

theorem coreCfgs_atx : ∀ n ∈ coreNames, (findCfg n).any atxOkB = true := by
  intro n hn
  obtain ⟨c, hc, h⟩ := (Option.any_eq_true _ _).1 (coreCfgs_both n hn)
  exact (Option.any_eq_true _ _).2 ⟨c, hc, (Bool.and_eq_true_iff.1 h).2⟩

theorem coreCfg_of_name {n : String} (hn : n ∈ coreNames) {cfg : MdCfg} (hc : findCfg n = some cfg) :
    coreCfgB cfg = true ∧ atxOkB cfg = true := by
  have h := coreCfgs_both n hn
  rw [hc] at h
  exact Bool.and_eq_true_iff.1 h

/-- **C05 for the core configurations of the concrete model, no hypothesis left**: every token tree `parseDoc`
returns for the configurations of `coreNames` (plugin-free, or with covered plugins only) is in the grammar (nesting clause included) -/
theorem parseDoc_wf_core (n : String) (hn : n ∈ coreNames) (cfg : MdCfg) (hc : findCfg n = some cfg) (s : Str)
    (toks : List Json) (h : parseDoc cfg s = .ok toks) : wfSeq (wfFuel cfg) toks .block 0 cfg.maxNested = true :=
  parseDoc_wf cfg (coreCfg_of_name hn hc).1 (cfgAtx_of_B cfg (coreCfg_of_name hn hc).2) s toks h

/-- the same for the predicate `wfTokens` itself -/
theorem parseDoc_wfTokens_core (n : String) (hn : n ∈ coreNames) (cfg : MdCfg) (hc : findCfg n = some cfg) (s : Str)
    (toks : List Json) (h : parseDoc cfg s = .ok toks) : wfTokens toks cfg.maxNested = true := by
  have := parseDoc_wf_core n hn cfg hc s toks h
  rw [wfFuel_eq] at this
  exact this

/-- in general: both side conditions are decidable -/
theorem parseDoc_wf_of_B (cfg : MdCfg) (hcore : coreCfgB cfg = true) (hatx : atxOkB cfg = true) (s : Str)
    (toks : List Json) (h : parseDoc cfg s = .ok toks) : wfSeq (wfFuel cfg) toks .block 0 cfg.maxNested = true :=
  parseDoc_wf cfg hcore (cfgAtx_of_B cfg hatx) s toks h

end Model
end Mistune

#print axioms Mistune.Model.parseDoc_wf_core
#print axioms Mistune.Model.parseDoc_wfTokens_core
#print axioms Mistune.Model.parseDoc_wf_of_B
