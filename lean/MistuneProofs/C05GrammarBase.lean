/-
C05 (the token tree obeys the documented grammar), for the CONCRETE parser model: what the walks through the
handlers (`C05GrammarBlock`, `C05GrammarList`, `C05GrammarInline`) share.

* `Sat P e`: a normal result of the computation `e` satisfies `P` (nothing is said about errors), with one rule per
  construct of the `Except` monad;
* `EnvOk`: what the inline `parse_link` needs of `env["ref_links"]`;
* `wfSeq` token by token and over `++`;
* `shp`: core token types with `attrs` of a known shape (what C02Doc needs of the tree).
-/
import Mistune.Model.Doc
import MistuneProofs.C05
namespace Mistune

/-- a normal result of `e` satisfies `P` -/
def Sat {α : Type} (P : α → Prop) (e : Except PyErr α) : Prop := ∀ a, e = .ok a → P a

theorem Sat.bind {α β : Type} {Q : α → Prop} {P : β → Prop} {e : Except PyErr α} {f : α → Except PyErr β}
    (h1 : Sat Q e) (h2 : ∀ a, Q a → Sat P (f a)) : Sat P (e >>= f) := by
  intro b hb
  cases e with
  | ok a => exact h2 a (h1 a rfl) b hb
  | error err => cases hb

theorem Sat.ok {α : Type} {P : α → Prop} {a : α} (h : P a) : Sat P (.ok a : Except PyErr α) := by
  intro b hb; cases hb; exact h

theorem Sat.pure {α : Type} {P : α → Prop} {a : α} (h : P a) : Sat P (pure a : Except PyErr α) := Sat.ok h

theorem Sat.err {α : Type} {P : α → Prop} {e : PyErr} : Sat P (.error e : Except PyErr α) := by
  intro b hb; cases hb

theorem Sat.throw {α : Type} {P : α → Prop} {e : PyErr} : Sat P (throw e : Except PyErr α) := Sat.err

theorem Sat.ite {α : Type} {P : α → Prop} {c : Prop} [Decidable c] {a b : Except PyErr α}
    (ha : c → Sat P a) (hb : ¬ c → Sat P b) : Sat P (if c then a else b) := by
  by_cases h : c
  · rw [if_pos h]; exact ha h
  · rw [if_neg h]; exact hb h

theorem Sat.mono {α : Type} {Q P : α → Prop} {e : Except PyErr α} (h : Sat Q e) (hqp : ∀ a, Q a → P a) :
    Sat P e := fun a ha => hqp a (h a ha)

theorem Sat.triv {α : Type} (e : Except PyErr α) : Sat (fun _ => True) e := fun _ _ => trivial

/-- every reference-link definition of `env["ref_links"]` has a string `url` (what `parse_ref_link` stores and the
inline `parse_link` reads) -/
def EnvOk (env : Json) : Prop :=
  ∀ refLinks, env.get? "ref_links" = some refLinks → ∀ key e, refLinks.get? key = some e →
    ∀ u, e.get? "url" = some u → ∃ s, u = .str s

theorem wfSeq_succ (fuel : Nat) (toks : List Json) (ctx : TokCtx) (d mx : Nat) :
    wfSeq (fuel + 1) toks ctx d mx = toks.all (fun t => wfSeq (fuel + 1) [t] ctx d mx) := by
  simp only [wfSeq, List.all_cons, List.all_nil, Bool.and_true]

theorem wfSeq_nil (fuel : Nat) (ctx : TokCtx) (d mx : Nat) : wfSeq (fuel + 1) [] ctx d mx = true := by
  rw [wfSeq_succ, List.all_nil]

theorem wfSeq_iff (fuel : Nat) (toks : List Json) (ctx : TokCtx) (d mx : Nat) :
    wfSeq (fuel + 1) toks ctx d mx = true ↔ ∀ t ∈ toks, wfSeq (fuel + 1) [t] ctx d mx = true := by
  rw [wfSeq_succ, List.all_eq_true]

theorem wfSeq_append (fuel : Nat) (a b : List Json) (ctx : TokCtx) (d mx : Nat) :
    wfSeq (fuel + 1) (a ++ b) ctx d mx = (wfSeq (fuel + 1) a ctx d mx && wfSeq (fuel + 1) b ctx d mx) := by
  rw [wfSeq_succ, List.all_append, ← wfSeq_succ, ← wfSeq_succ]

/-! ### the attribute shape of core tokens (for C02: `refinedOk` of the render templates) -/

/-- values that are safe whatever a template does with them: numbers, booleans, `None` -/
def plainJ : Json → Bool
  | .num _ => true
  | .bool _ => true
  | .null => true
  | _ => false

/-- the `attrs` of a token of type `ty`: every value is plain, except `url` / `title` of links and images and `info`
of code blocks (document data, which the templates must escape) -/
def attrsShape (ty : String) : Option Json → Bool
  | some (.obj kv) => kv.all (fun p => plainJ p.2 ||
      ((ty == "link" || ty == "image") && (p.1 == "url" || p.1 == "title")) || (ty == "block_code" && p.1 == "info"))
  | _ => true

/-- the token types the covered handlers produce (core, and the inline plugins formatting / url / math / speedup) -/
def coreTys : List String :=
  ["paragraph", "block_text", "heading", "block_code", "block_html", "thematic_break", "blank_line", "block_quote",
   "list", "list_item", "text", "codespan", "inline_html", "emphasis", "strong", "link", "image", "linebreak",
   "softbreak", "footnote_ref",
   -- plugins formatting, math (inline): containers / a raw leaf without `attrs`
   "strikethrough", "mark", "insert", "superscript", "subscript", "inline_math", "block_math", "block_spoiler", "inline_spoiler"]

/-- every token of the tree has a core type and `attrs` of the shape `attrsShape`; fuel bounds the depth -/
def shp : Nat → Json → Bool
  | 0, _ => false
  | k + 1, t =>
    coreTys.contains t.type && attrsShape t.type (t.get? "attrs") &&
    (match t.get? "children" with
     | some (.arr cs) => cs.all (shp k)
     | _ => true)

def shpAll (k : Nat) (l : List Json) : Bool := l.all (shp k)

theorem shp_mono : ∀ (k : Nat) (t : Json), shp k t = true → shp (k + 1) t = true := by
  intro k
  induction k with
  | zero => intro t h; simp [shp] at h
  | succ k ih =>
    intro t h
    unfold shp at h ⊢
    simp only [Bool.and_eq_true] at h ⊢
    refine ⟨h.1, ?_⟩
    have h2 := h.2
    split
    · rename_i cs hcs
      rw [hcs] at h2
      simp only [List.all_eq_true] at h2 ⊢
      exact fun c hc => ih c (h2 c hc)
    · rfl

theorem shpAll_mono_le {n m : Nat} (h : n ≤ m) (l : List Json) (hl : shpAll n l = true) : shpAll m l = true := by
  induction h with
  | refl => exact hl
  | step _ ih =>
    unfold shpAll at ih ⊢
    rw [List.all_eq_true] at ih ⊢
    exact fun t ht => shp_mono _ t (ih t ht)

theorem shpAll_append (k : Nat) (a b : List Json) : shpAll k (a ++ b) = (shpAll k a && shpAll k b) := by
  simp only [shpAll, List.all_append]

/-- the shape depends on `type`, `attrs`, `children` only -/
theorem shp_congr (k : Nat) (t t' : Json) (h1 : t'.get? "type" = t.get? "type") (h2 : t'.get? "attrs" = t.get? "attrs")
    (h3 : t'.get? "children" = t.get? "children") : shp (k + 1) t' = shp (k + 1) t := by
  simp only [shp, Json.type, Json.getStr, h1, h2, h3]

end Mistune
