/-
C05 for the concrete model, block pass: every handler of `Mistune.Model.Blk` keeps the tokens of the state inside
the block-pass grammar `preSeq`, including the nesting clause (a container is opened only in a state whose depth
is below `max_nested_level`).  The same walk through the handlers as `C01Progress` / `C01ProgressList`, with the
invariant `TokensOk` and the rules of `Sat` (`C05GrammarBase`).  This file: the framework, the handlers that do not
recurse, `parse`, block quotes.  Lists, the induction on the nesting budget and `blockParse_pre`: `C05GrammarList`.
-/
import MistuneProofs.C05GrammarPre
import MistuneProofs.C01Progress
namespace Mistune
namespace Model
namespace Blk
namespace G

/-! ### the state invariant and the contract -/

/-- fuel that suffices for a token of a state of depth `d`: two levels for every level of nesting still allowed
(`gF_succ`; a list spends both, on `list` and `list_item`, a quote one) and one for the leaf -/
def gF (mx d : Nat) : Nat := 2 * (mx - d) + 1

/-- the token `t` is a block-pass token of a state of depth `d` -/
def TokOk (mx d : Nat) (t : Json) : Prop := preSeq (gF mx d) [t] .block d mx = true

/-- the state is at most `mx` deep, every token of it is in the grammar, `env` holds well-formed link definitions -/
def TokensOk (mx : Nat) (st : BlockState) : Prop :=
  st.depth ≤ mx ∧ (∀ t ∈ st.tokens, TokOk mx st.depth t) ∧ EnvOk st.env

/-- tokens in the grammar, same depth, same subject -/
def Keeps (mx : Nat) (st st' : BlockState) : Prop := TokensOk mx st' ∧ st'.depth = st.depth ∧ st'.x = st.x

/-- what a handler guarantees: the tokens stay in the grammar, the depth and subject of the state are unchanged -/
def GPost (mx : Nat) (st : BlockState) (res : Option Nat × BlockState) : Prop := Keeps mx st res.2

/-- the ATX rule captured one to six `#` (a fact about the rule's regex, see `CfgAtx`) -/
def AtxPre (cfg : MdCfg) (name : String) (mt : RxMatch) (st : BlockState) : Prop :=
  name = "atx_heading" → 1 ≤ (grp cfg st mt "atx_1").length ∧ (grp cfg st mt "atx_1").length ≤ 6

/-- **the grammar contract** of a parse method: a container rule is only invoked below the nesting limit -/
def PMGrammar (cfg : MdCfg) (pm : ParseMethod) : Prop :=
  ∀ name mt st, TokensOk cfg.maxNested st → ((name = "block_quote" ∨ name = "list") → st.depth < cfg.maxNested) →
    AtxPre cfg name mt st → Sat (GPost cfg.maxNested st) (pm name mt st)

/-- the rule table of a state of depth `d` has container rules only below the nesting limit -/
def ScDepthOk (mx d : Nat) (sc : List (String × Rx)) : Prop :=
  ∀ n r, (n, r) ∈ sc → (n = "block_quote" ∨ n = "list") → d < mx

theorem compileSc_names (cfg : MdCfg) (rules : List String) :
    Sat (fun sc => ∀ n r, (n, r) ∈ sc → n ∈ rules ∧ (n, r) ∈ cfg.blockSpec) (compileSc cfg rules) := by
  unfold compileSc
  induction rules with
  | nil => simp only [List.mapM_nil]; exact Sat.pure (fun n r h => by cases h)
  | cons a l ih =>
    simp only [List.mapM_cons]
    refine Sat.bind (Q := fun p => p.1 = a ∧ p ∈ cfg.blockSpec) ?_ (fun b hb => ?_)
    · split
      · rename_i r hr
        exact Sat.ok ⟨rfl, lookup_mem _ _ _ hr⟩
      · exact Sat.err
    · refine Sat.bind ih (fun bs hbs => ?_)
      refine Sat.pure (fun n r hmem => ?_)
      rcases List.mem_cons.1 hmem with h | h
      · subst h; have : n = a := hb.1
        rw [this]; exact ⟨List.mem_cons_self, by rw [← this]; exact hb.2⟩
      · exact ⟨List.mem_cons_of_mem _ (hbs n r h).1, (hbs n r h).2⟩

/-! ### literal tokens -/

theorem TokOk.append {mx : Nat} {st : BlockState} {t : Json} (h : TokensOk mx st) (ht : TokOk mx st.depth t) :
    TokensOk mx (st.appendToken t) := by
  refine ⟨h.1, fun t' ht' => ?_, h.2.2⟩
  simp only [BlockState.appendToken, List.mem_append, List.mem_singleton] at ht'
  rcases ht' with h1 | h1
  · exact h.2.1 t' h1
  · subst h1; exact ht

/-- a token written as a literal -/
theorem tokOk_lit (mx d : Nat) (ty : String) (fields : List (String × Json)) :
    TokOk mx d (tok ty fields) ↔ d ≤ mx ∧ attrsOkT ty (fields.lookup "attrs") = true ∧
      PreCase (fun cs c d' => preSeq (2 * (mx - d)) cs c d' mx) (fields.lookup "attrs") d mx .block ty
        (fields.lookup "raw") (fields.lookup "children") (fields.lookup "text") := by
  unfold TokOk gF
  rw [preSeq_tok, preTy_iff]

theorem tokOk_blank (mx d : Nat) (h : d ≤ mx) : TokOk mx d (tok "blank_line" []) :=
  (tokOk_lit _ _ _ _).2 ⟨h, rfl, .empty (Or.inr rfl)⟩
theorem tokOk_thematic (mx d : Nat) (h : d ≤ mx) : TokOk mx d (tok "thematic_break" []) :=
  (tokOk_lit _ _ _ _).2 ⟨h, rfl, .empty (Or.inl rfl)⟩
theorem tokOk_paragraph (mx d : Nat) (h : d ≤ mx) (text : Str) : TokOk mx d (tok "paragraph" [("text", .str text)]) :=
  (tokOk_lit _ _ _ _).2 ⟨h, rfl, .text text (Or.inl rfl)⟩
theorem tokOk_html (mx d : Nat) (h : d ≤ mx) (text : Str) : TokOk mx d (tok "block_html" [("raw", .str text)]) :=
  (tokOk_lit _ _ _ _).2 ⟨h, rfl, .raw text (Or.inr (Or.inl rfl))⟩
theorem tokOk_indent (mx d : Nat) (h : d ≤ mx) (code : Str) :
    TokOk mx d (tok "block_code" [("raw", .str code), ("style", Json.s "indent")]) :=
  (tokOk_lit _ _ _ _).2 ⟨h, rfl, .raw code (Or.inl rfl)⟩
theorem tokOk_fenced (mx d : Nat) (h : d ≤ mx) (code marker : Str) :
    TokOk mx d (tok "block_code" [("raw", .str code), ("style", Json.s "fenced"), ("marker", .str marker)]) :=
  (tokOk_lit _ _ _ _).2 ⟨h, rfl, .raw code (Or.inl rfl)⟩
theorem tokOk_fenced_info (mx d : Nat) (h : d ≤ mx) (code marker : Str) (a : Json) :
    TokOk mx d ((tok "block_code" [("raw", .str code), ("style", Json.s "fenced"), ("marker", .str marker)]).set "attrs"
      (.obj [("info", a)])) := by
  show TokOk mx d (tok "block_code" [("raw", .str code), ("style", Json.s "fenced"), ("marker", .str marker),
    ("attrs", .obj [("info", a)])])
  exact (tokOk_lit _ _ _ _).2 ⟨h, by simp [attrsOkT, attrsOkB, attrsShape, List.lookup], .raw code (Or.inl rfl)⟩

/-! ### paragraphs: `add_paragraph`, `append_paragraph`, setext headings -/

theorem typeOf_eq (t : Json) (n : String) (hn : n ≠ "") (h : typeOf t = .ok n) :
    ∃ s, t.get? "type" = some (.str s) ∧ String.ofList s = n := by
  unfold typeOf getE at h
  cases hg : t.get? "type" with
  | none => rw [hg] at h; cases h
  | some v =>
    rw [hg] at h
    cases v with
    | str s => exact ⟨s, rfl, by injection h⟩
    | _ => exact absurd (by injection h) hn.symm

theorem getE_eq (j : Json) (k : String) : Sat (fun v => j.get? k = some v) (getE j k) := by
  unfold getE
  intro v hv
  cases hg : j.get? k with
  | none => rw [hg] at hv; cases hv
  | some w => rw [hg] at hv; injection hv with e; rw [e]

/-- a token of type `paragraph` in the grammar: an object in block context with a string `text`, no `raw`, no
`children` -/
theorem preSeq_para {n : Nat} {t : Json} {ctx : TokCtx} {d mx : Nat} (hty : typeOf t = .ok "paragraph")
    (h : preSeq (n + 1) [t] ctx d mx = true) :
    ∃ s x, t.get? "type" = some (.str s) ∧ String.ofList s = "paragraph" ∧ ctx = .block ∧ d ≤ mx ∧
      attrsOkT "paragraph" (t.get? "attrs") = true ∧ t.get? "raw" = none ∧ t.get? "children" = none ∧
      t.get? "text" = some (.str x) := by
  obtain ⟨s, hs1, hs2⟩ := typeOf_eq t "paragraph" (by decide) hty
  rw [preSeq_single_eq _ _ _ hs1, hs2, preTy_iff] at h
  obtain ⟨hd, ha, hc⟩ := h
  obtain ⟨h1, h2, h3, x, h4⟩ := hc.para_inv
  exact ⟨s, x, hs1, hs2, h1, hd, ha, h2, h3, h4⟩

theorem lastParagraph_spec (st : BlockState) :
    Sat (fun r => ∀ last, r = some last → last ∈ st.tokens ∧ typeOf last = .ok "paragraph") st.lastParagraph := by
  have hnone : ∀ last : Json, (none : Option Json) = some last → last ∈ st.tokens ∧ typeOf last = .ok "paragraph" :=
    fun _ h => by cases h
  unfold BlockState.lastParagraph
  split
  · exact Sat.ok hnone
  · rename_i last hl
    refine Sat.ite (fun _ => ?_) (fun _ => Sat.ok hnone)
    refine Sat.bind (Q := fun ty => typeOf last = .ok ty) (fun ty hty => hty) (fun ty hty => ?_)
    refine Sat.ite (fun heq => Sat.pure ?_) (fun _ => Sat.pure hnone)
    rintro l ⟨⟩
    have : ty = "paragraph" := by simpa using heq
    subst this
    exact ⟨List.mem_of_getLast? hl, hty⟩

theorem tokOk_addText (mx d : Nat) (last : Json) (text : Str) (hok : TokOk mx d last)
    (hty : typeOf last = .ok "paragraph") : Sat (TokOk mx d) (BlockState.addText last text) := by
  unfold TokOk gF at hok ⊢
  obtain ⟨s, x, hs1, hs2, _, hd, ha, hr, hc, hx⟩ := preSeq_para hty hok
  unfold BlockState.addText
  refine Sat.bind (getE_eq _ _) (fun v hv => ?_)
  rw [hx] at hv
  cases hv
  refine Sat.pure ?_
  rw [preSeq_single_eq _ _ s (by rw [get?_set_ne _ _ _ _ (by decide)]; exact hs1), hs2, preTy_iff,
    get?_set_of_get? hs1]
  simp only [get?_set_ne, ne_eq, String.reduceEq, not_false_eq_true, hr, hc]
  exact ⟨hd, ha, .text _ (Or.inl rfl)⟩

theorem tokensOk_setLast {mx : Nat} {st : BlockState} {t : Json} (h : TokensOk mx st) (ht : TokOk mx st.depth t) :
    TokensOk mx (st.setLastToken t) := by
  refine ⟨h.1, fun t' ht' => ?_, h.2.2⟩
  simp only [BlockState.setLastToken, List.mem_append, List.mem_singleton] at ht'
  rcases ht' with h1 | h1
  · exact h.2.1 t' (List.dropLast_subset _ h1)
  · subst h1; exact ht

theorem addParagraph_ok (mx : Nat) (st : BlockState) (text : Str) (h : TokensOk mx st) :
    Sat (Keeps mx st) (st.addParagraph text) := by
  unfold BlockState.addParagraph
  refine Sat.bind (lastParagraph_spec st) (fun a ha => ?_)
  split
  · rename_i last
    obtain ⟨hm, hty⟩ := ha last rfl
    refine Sat.bind (tokOk_addText mx st.depth last text (h.2.1 _ hm) hty) (fun b hb => ?_)
    exact Sat.pure ⟨tokensOk_setLast h hb, rfl, rfl⟩
  · exact Sat.pure ⟨TokOk.append h (tokOk_paragraph _ _ h.1 _), rfl, rfl⟩

theorem appendParagraph_ok (mx : Nat) (cfg : MdCfg) (st : BlockState) (h : TokensOk mx st) :
    Sat (fun r => Keeps mx st r.2) (st.appendParagraph cfg) := by
  unfold BlockState.appendParagraph
  refine Sat.bind (lastParagraph_spec st) (fun a ha => ?_)
  split
  · rename_i last
    obtain ⟨hm, hty⟩ := ha last rfl
    refine Sat.bind (Sat.triv _) (fun pos _ => ?_)
    refine Sat.bind (tokOk_addText mx st.depth last _ (h.2.1 _ hm) hty) (fun b hb => ?_)
    exact Sat.pure ⟨tokensOk_setLast h hb, rfl, rfl⟩
  · exact Sat.pure ⟨h, rfl, rfl⟩

theorem Keeps.refl {mx : Nat} {st : BlockState} (h : TokensOk mx st) : Keeps mx st st := ⟨h, rfl, rfl⟩

theorem Keeps.env {mx : Nat} {st st' : BlockState} (e : Json) (h : Keeps mx st st') (he : EnvOk e) :
    Keeps mx st { st' with env := e } := ⟨⟨h.1.1, h.1.2.1, he⟩, h.2.1, h.2.2⟩

theorem Keeps.cursor {mx : Nat} {st st' : BlockState} (c : Nat) (h : Keeps mx st st') :
    Keeps mx st { st' with cursor := c } := h

theorem Keeps.trans {mx : Nat} {a b c : BlockState} (h1 : Keeps mx a b) (h2 : Keeps mx b c) : Keeps mx a c :=
  ⟨h2.1, h2.2.1.trans h1.2.1, h2.2.2.trans h1.2.2⟩

theorem Keeps.append {mx : Nat} {st st' : BlockState} {t : Json} (h : Keeps mx st st') (ht : TokOk mx st.depth t) :
    Keeps mx st (st'.appendToken t) := ⟨TokOk.append h.1 (by rw [h.2.1]; exact ht), h.2.1, h.2.2⟩

/-! ### the handlers that do not recurse -/

theorem parseBlankLine_ok (mx : Nat) (mt : RxMatch) (st : BlockState) (h : TokensOk mx st) :
    Sat (GPost mx st) (parseBlankLine mt st) :=
  Sat.ok (Keeps.append (Keeps.refl h) (tokOk_blank _ _ h.1))

theorem parseThematicBreak_ok (mx : Nat) (mt : RxMatch) (st : BlockState) (h : TokensOk mx st) :
    Sat (GPost mx st) (parseThematicBreak mt st) :=
  Sat.ok (Keeps.append (Keeps.refl h) (tokOk_thematic _ _ h.1))

theorem parseAtxHeading_ok (cfg : MdCfg) (mx : Nat) (mt : RxMatch) (st : BlockState) (h : TokensOk mx st)
    (hl : 1 ≤ (grp cfg st mt "atx_1").length ∧ (grp cfg st mt "atx_1").length ≤ 6) :
    Sat (GPost mx st) (parseAtxHeading cfg mt st) := by
  unfold parseAtxHeading
  refine Sat.ok (Keeps.append (Keeps.refl h) ?_)
  have hd := h.1
  have h1 : (1 : Int) ≤ ((grp cfg st mt "atx_1").length : Int) := by omega
  have h2 : ((grp cfg st mt "atx_1").length : Int) ≤ 6 := by omega
  exact (tokOk_lit _ _ _ _).2 ⟨hd, rfl, .heading _ rfl (by simp [Json.getInt?, Json.get?, List.lookup, h1, h2])⟩

theorem parseIndentCode_ok (cfg : MdCfg) (mx : Nat) (mt : RxMatch) (st : BlockState) (h : TokensOk mx st) :
    Sat (GPost mx st) (parseIndentCode cfg mt st) := by
  unfold parseIndentCode
  refine Sat.bind (appendParagraph_ok mx cfg st h) ?_
  rintro ⟨endPos, st1⟩ hk
  dsimp only at hk ⊢
  exact Sat.ite (fun _ => Sat.pure hk) (fun _ => Sat.pure (Keeps.append hk (tokOk_indent _ _ h.1 _)))

theorem parseFencedCode_ok (cfg : MdCfg) (mx : Nat) (mt : RxMatch) (st : BlockState) (h : TokensOk mx st) :
    Sat (GPost mx st) (parseFencedCode cfg mt st) := by
  unfold parseFencedCode
  simp only
  split
  · refine Sat.ite (fun _ => Sat.pure (Keeps.refl h)) (fun _ => Sat.pure (Keeps.append (Keeps.refl h) ?_))
    split
    · exact tokOk_fenced_info _ _ h.1 _ _ _
    · exact tokOk_fenced _ _ h.1 _ _
  · exact Sat.throw

theorem parseHtmlToEnd_ok (cfg : MdCfg) (mx : Nat) (st : BlockState) (h : TokensOk mx st) (endMarker : Str) (p : Nat) :
    Sat (GPost mx st) (parseHtmlToEnd cfg st endMarker p) := by
  unfold parseHtmlToEnd
  split
  · exact Sat.pure (Keeps.append (Keeps.refl h) (tokOk_html _ _ h.1 _))
  · extract_lets text st2
    refine Sat.bind (Sat.triv _) (fun endPos _ => ?_)
    exact Sat.pure (Keeps.append (st' := st2) (Keeps.refl h) (tokOk_html _ _ h.1 _))

theorem parseHtmlToNewline_ok (mx : Nat) (st : BlockState) (h : TokensOk mx st) (nl : Rx) :
    Sat (GPost mx st) (parseHtmlToNewline st nl) := by
  unfold parseHtmlToNewline
  split
  · exact Sat.ok (Keeps.append (Keeps.refl h) (tokOk_html _ _ h.1 _))
  · exact Sat.ok (Keeps.append (Keeps.refl h) (tokOk_html _ _ h.1 _))

theorem parseRawHtml_ok (cfg : MdCfg) (mx : Nat) (mt : RxMatch) (st : BlockState) (h : TokensOk mx st) :
    Sat (GPost mx st) (parseRawHtml cfg mt st) := by
  have hend := parseHtmlToEnd_ok cfg mx st h
  have hnl := parseHtmlToNewline_ok mx st h
  unfold parseRawHtml
  extract_lets blankLine marker closeTag openTag startPos isTruthy jp
  have hjp : Sat (GPost mx st) (jp ()) := by
    show Sat (GPost mx st) (BlockState.appendParagraph cfg st >>= _)
    refine Sat.bind (appendParagraph_ok mx cfg st h) ?_
    rintro ⟨endPos, st1⟩ hk
    dsimp only at hk
    refine Sat.ite (fun _ => Sat.pure hk) (fun _ => ?_)
    refine Sat.bind (Sat.triv _) (fun e _ => ?_)
    exact Sat.ite (fun _ => (parseHtmlToNewline_ok mx st1 hk.1 _).mono (fun a ha => Keeps.trans hk ha))
      (fun _ => Sat.pure hk)
  clear_value jp closeTag openTag
  refine Sat.ite (fun _ => hend _ _) (fun _ => ?_)
  refine Sat.ite (fun _ => hend _ _) (fun _ => ?_)
  refine Sat.ite (fun _ => hend _ _) (fun _ => ?_)
  refine Sat.ite (fun _ => hend _ _) (fun _ => ?_)
  split
  · exact Sat.ite (fun _ => hnl _) (fun _ => hjp)
  · exact Sat.ite (fun _ => hend _ _) (fun _ => Sat.ite (fun _ => hnl _) (fun _ => hjp))
  · exact hjp

/-- storing a definition with a string `url` keeps `EnvOk` -/
theorem envOk_reflink (env refs : Json) (k : String) (url label : Str) (title : Option Str)
    (h : EnvOk env) (hrefs : env.get? "ref_links" = some refs) :
    EnvOk (env.set "ref_links" (refs.set k
      (match title with
       | some t => if !t.isEmpty then (Json.obj [("url", .str url), ("label", .str label)]).set "title" (.str t)
                   else Json.obj [("url", .str url), ("label", .str label)]
       | none => Json.obj [("url", .str url), ("label", .str label)]))) := by
  obtain ⟨kv, hkv⟩ := isObj_of_get? _ _ _ hrefs
  intro refLinks hr key e he u hu
  rw [hkv, get?_set_self] at hr
  injection hr with hr
  subst hr
  by_cases hk : key = k
  · subst hk
    cases refs with
    | obj rkv =>
      rw [get?_set_self] at he
      injection he with he
      subst he
      have hurl : ∀ d : Json, d.get? "url" = some (.str url) → d.get? "url" = some u → ∃ s, u = .str s :=
        fun d h1 h2 => ⟨url, Option.some.inj (h2.symm.trans h1)⟩
      revert hu
      split
      · split
        · exact hurl _ (by rw [get?_set_ne _ _ "url" _ (by decide)]; rfl)
        · exact hurl _ rfl
      · exact hurl _ rfl
    | _ => simp [Json.set, Json.get?] at he
  · rw [get?_set_ne _ _ _ _ hk] at he
    exact h refs hrefs key e he u hu

theorem parseRefLink_ok (cfg : MdCfg) (mx : Nat) (mt : RxMatch) (st : BlockState) (h : TokensOk mx st) :
    Sat (GPost mx st) (parseRefLink cfg mt st) := by
  unfold parseRefLink
  refine Sat.bind (appendParagraph_ok mx cfg st h) ?_
  rintro ⟨endPos, st1⟩ hk
  dsimp only at hk
  refine Sat.ite (fun _ => Sat.pure hk) (fun _ => ?_)
  extract_lets label key
  refine Sat.ite (fun _ => Sat.pure hk) (fun _ => ?_)
  refine Sat.bind (Sat.triv _) (fun r _ => ?_)
  split
  · exact Sat.pure hk
  extract_lets maxPos
  split
  split
  split
  extract_lets endPos2
  refine Sat.ite (fun _ => Sat.pure hk) (fun _ => ?_)
  refine Sat.bind (getE_eq _ _) (fun refs hrefs => ?_)
  refine Sat.ite (fun _ => ?_) (fun _ => Sat.pure hk)
  split
  · exact Sat.throw
  · exact Sat.pure (Keeps.env _ hk (envOk_reflink _ _ _ _ _ _ hk.1.2.2 hrefs))

/-! ### setext headings -/

theorem tokOk_setext (mx d : Nat) (last : Json) (level : Int) (hl : 1 ≤ level ∧ level ≤ 6) (hok : TokOk mx d last)
    (hty : typeOf last = .ok "paragraph") :
    TokOk mx d (((last.set "type" (Json.s "heading")).set "style" (Json.s "setext")).set "attrs"
      (.obj [("level", .num level)])) := by
  unfold TokOk gF at hok ⊢
  obtain ⟨s, x, hs1, hs2, _, hd, ha, hr, hc, hx⟩ := preSeq_para hty hok
  have ht1 : (last.set "type" (Json.s "heading")).get? "type" = some (.str "heading".toList) := get?_set_of_get? hs1 _ _
  have ht2 : ((last.set "type" (Json.s "heading")).set "style" (Json.s "setext")).get? "type" =
      some (.str "heading".toList) := by rw [get?_set_ne _ _ _ _ (by decide)]; exact ht1
  rw [preSeq_single_eq _ _ "heading".toList (by rw [get?_set_ne _ _ _ _ (by decide)]; exact ht2), String.ofList_toList,
    preTy_iff, get?_set_of_get? ht2]
  simp only [get?_set_ne, ne_eq, String.reduceEq, not_false_eq_true, hr, hc, hx]
  exact ⟨hd, rfl, .heading x rfl (by simp [Json.getInt?, Json.get?, List.lookup, hl.1, hl.2])⟩

theorem parseSetexHeading_ok (cfg : MdCfg) (pm : ParseMethod) (hpm : PMGrammar cfg pm) (mt : RxMatch) (st : BlockState)
    (h : TokensOk cfg.maxNested st) : Sat (GPost cfg.maxNested st) (parseSetexHeading cfg pm mt st) := by
  unfold parseSetexHeading
  refine Sat.bind (lastParagraph_spec st) (fun a ha => ?_)
  split
  · rename_i last
    obtain ⟨hm, hty⟩ := ha last rfl
    refine Sat.pure ⟨tokensOk_setLast h ?_, rfl, rfl⟩
    refine tokOk_setext _ _ _ _ ?_ (h.2.1 _ hm) hty
    split <;> decide
  · refine Sat.bind (compileSc_names cfg _) (fun sc hsc => ?_)
    split
    · rename_i nm m2 hm2
      obtain ⟨_, _, _, r, hmem, _⟩ := scMatch_sound _ _ _ _ _ hm2
      have hn := (hsc _ _ hmem).1
      simp only [List.mem_cons, List.not_mem_nil, or_false] at hn
      refine Sat.ite (fun _ => Sat.pure (Keeps.refl h)) (fun hng => ?_)
      refine hpm _ _ _ h (fun hc => ?_) (fun ha => ?_)
      · rcases hc with hc | hc
        · rcases hn with hn | hn <;> rw [hn] at hc <;> exact absurd hc (by decide)
        · have : ¬ (st.depth ≥ cfg.maxNested) := by
            intro hge; apply hng; simp [hc, hge]
          omega
      · rcases hn with hn | hn <;> rw [hn] at ha <;> exact absurd ha (by decide)
    · exact Sat.pure (Keeps.refl h)

/-! ### `BlockParser.parse` -/

/-- the ATX entries of a rule table capture one to six `#` in `atx_1` -/
def AtxSc (cfg : MdCfg) (sc : List (String × Rx)) : Prop :=
  ∀ (x : RxCtx) (r : Rx) (mt : RxMatch), ("atx_heading", r) ∈ sc → Spec x r mt.start [] mt.stop mt.caps →
    1 ≤ (groupNamed cfg x.s mt "atx_1").length ∧ (groupNamed cfg x.s mt "atx_1").length ≤ 6

theorem parseLoop_ok (cfg : MdCfg) (pm : ParseMethod) (hpm : PMGrammar cfg pm) (sc : List (String × Rx)) (d : Nat)
    (hsc : ScDepthOk cfg.maxNested d sc) (hatx : AtxSc cfg sc) :
    ∀ (fuel : Nat) (st : BlockState), TokensOk cfg.maxNested st → st.depth = d →
      Sat (fun st' => Keeps cfg.maxNested st st') (parseLoop cfg pm sc fuel st) := by
  intro fuel
  induction fuel with
  | zero =>
    intro st h _
    unfold parseLoop
    exact Sat.ite (fun _ => Sat.err) (fun _ => Sat.ok (Keeps.refl h))
  | succ fuel ih =>
    intro st h hd
    unfold parseLoop
    refine Sat.ite (fun _ => ?_) (fun _ => Sat.ok (Keeps.refl h))
    split
    · exact Sat.ok (Keeps.refl h)
    · rename_i name m hscan
      obtain ⟨_, _, _, ⟨r, hmem, hspec⟩, _⟩ := scan_sound _ _ _ _ _ hscan
      extract_lets endPos jpLoop jp
      have hloop : ∀ st3 : BlockState, Keeps cfg.maxNested st st3 →
          Sat (fun st' => Keeps cfg.maxNested st st') (jpLoop st3) := by
        intro st3 hk
        exact (ih st3 hk.1 (hk.2.1.trans hd)).mono (fun a ha => Keeps.trans hk ha)
      clear_value jpLoop
      have hjp : ∀ st1 : BlockState, Keeps cfg.maxNested st st1 →
          Sat (fun st' => Keeps cfg.maxNested st st') (jp st1) := by
        intro st1 hk
        show Sat _ (pm name m st1 >>= _)
        refine Sat.bind (hpm _ _ _ hk.1 (fun hc => ?_) (fun ha => ?_)) ?_
        · rw [hk.2.1, hd]; exact hsc _ _ hmem hc
        · subst ha; unfold grp; rw [hk.2.2]; exact hatx _ _ _ hmem hspec
        rintro ⟨endPos2, st2⟩ hp
        have hk2 : Keeps cfg.maxNested st st2 := Keeps.trans hk hp
        refine Sat.ite (fun _ => hloop _ (Keeps.cursor _ hk2)) (fun _ => ?_)
        refine Sat.bind (Sat.triv _) (fun e3 _ => ?_)
        refine Sat.bind (addParagraph_ok _ _ _ hk2.1) (fun a ha => ?_)
        exact hloop _ (Keeps.cursor _ (Keeps.trans hk2 ha))
      clear_value jp
      refine Sat.ite (fun _ => ?_) (fun _ => hjp _ (Keeps.refl h))
      refine Sat.bind (addParagraph_ok _ _ _ h) (fun a ha => ?_)
      exact hjp _ (Keeps.cursor _ ha)

/-- container rules only below the nesting limit -/
def RulesOk (mx d : Nat) (rules : List String) : Prop := ∀ n ∈ rules, (n = "block_quote" ∨ n = "list") → d < mx

theorem parse_ok (cfg : MdCfg) (pm : ParseMethod) (hpm : PMGrammar cfg pm) (hatx : AtxSc cfg cfg.blockSpec)
    (st : BlockState) (rules : Option (List String)) (h : TokensOk cfg.maxNested st)
    (hr : RulesOk cfg.maxNested st.depth (rules.getD cfg.blockRules)) :
    Sat (fun st' => Keeps cfg.maxNested st st') (parse cfg pm st rules) := by
  unfold parse
  refine Sat.bind (compileSc_names cfg _) (fun sc hsc => ?_)
  refine Sat.bind (parseLoop_ok cfg pm hpm sc st.depth (fun n r hm hc => hr n (hsc n r hm).1 hc)
    (fun x r mt hm hs => hatx x r mt (hsc _ _ hm).2 hs) _ st h rfl) (fun st1 hk => ?_)
  refine Sat.ite (fun _ => ?_) (fun _ => Sat.pure hk)
  refine Sat.bind (addParagraph_ok _ _ _ hk.1) (fun a ha => ?_)
  exact Sat.pure (Keeps.cursor _ (Keeps.trans hk ha))

/-! ### block quotes -/

theorem extractQuoteLoop_ok (cfg : MdCfg) (pm : ParseMethod) (hpm : PMGrammar cfg pm) (breakSc : List (String × Rx))
    (hnames : ∀ n r, (n, r) ∈ breakSc → n ≠ "atx_heading") :
    ∀ (fuel : Nat) (text : Str) (pbl : Bool) (endPos : Option Nat) (st : BlockState),
      TokensOk cfg.maxNested st → st.depth < cfg.maxNested →
      Sat (fun r => Keeps cfg.maxNested st r.2.2) (extractQuoteLoop cfg pm breakSc fuel text pbl endPos st) := by
  intro fuel
  induction fuel with
  | zero =>
    intro text pbl endPos st h _
    unfold extractQuoteLoop
    exact Sat.ite (fun _ => Sat.err) (fun _ => Sat.ok (Keeps.refl h))
  | succ fuel ih =>
    intro text pbl endPos st h hd
    have hloop : ∀ (text : Str) (pbl : Bool) (endPos : Option Nat) (st1 : BlockState), Keeps cfg.maxNested st st1 →
        Sat (fun r => Keeps cfg.maxNested st r.2.2) (extractQuoteLoop cfg pm breakSc fuel text pbl endPos st1) := by
      intro text pbl endPos st1 hk
      exact (ih _ _ _ _ hk.1 (by rw [hk.2.1]; exact hd)).mono (fun a ha => Keeps.trans hk ha)
    unfold extractQuoteLoop
    refine Sat.ite (fun _ => ?_) (fun _ => Sat.ok (Keeps.refl h))
    split
    · extract_lets quote text' st' pbl'
      exact hloop _ _ _ _ (Keeps.cursor _ (Keeps.refl h))
    · refine Sat.ite (fun _ => Sat.ok (Keeps.refl h)) (fun _ => ?_)
      extract_lets jp
      have hjp : ∀ x : Option Nat × BlockState, Keeps cfg.maxNested st x.2 →
          Sat (fun r => Keeps cfg.maxNested st r.2.2) (jp x) := by
        rintro ⟨endPos2, st2⟩ hk
        dsimp only at hk
        refine Sat.ite (fun _ => Sat.pure hk) (fun _ => ?_)
        refine Sat.bind (Sat.triv _) (fun pos _ => ?_)
        exact hloop _ _ _ _ (Keeps.cursor _ hk)
      clear_value jp
      split
      · rename_i name m4 hm4
        obtain ⟨_, _, _, r, hmem, _⟩ := scMatch_sound _ _ _ _ _ hm4
        exact Sat.bind (hpm _ _ _ h (fun _ => hd) (fun ha => absurd ha (hnames _ _ hmem))) hjp
      · exact hjp _ (Keeps.refl h)

theorem extractBlockQuote_ok (cfg : MdCfg) (pm : ParseMethod) (hpm : PMGrammar cfg pm) (mt : RxMatch) (st : BlockState)
    (h : TokensOk cfg.maxNested st) (hd : st.depth < cfg.maxNested) :
    Sat (fun r => Keeps cfg.maxNested st r.2.2) (extractBlockQuote cfg pm mt st) := by
  unfold extractBlockQuote
  extract_lets text1 text2 text3 st1
  refine Sat.bind (Sat.triv _) (fun sc _ => ?_)
  extract_lets requireMarker
  have hk1 : Keeps cfg.maxNested st st1 := Keeps.cursor _ (Keeps.refl h)
  refine Sat.ite (fun _ => ?_) (fun _ => ?_)
  · split
    · exact Sat.pure (Keeps.cursor _ hk1)
    · exact Sat.pure hk1
  · refine Sat.bind (compileSc_names cfg _) (fun breakSc hb => ?_)
    refine Sat.bind (extractQuoteLoop_ok cfg pm hpm breakSc (fun n r hm => ?_) _ _ _ _ st1 hk1.1
      (by rw [hk1.2.1]; exact hd)) ?_
    · have := (hb n r hm).1
      simp only [List.mem_cons, List.not_mem_nil, or_false] at this
      rcases this with e | e | e | e | e <;> rw [e] <;> decide
    · rintro ⟨text, endPos, st2⟩ hk
      exact Sat.pure (Keeps.trans hk1 hk)

theorem gF_succ (mx d : Nat) (hd : d < mx) : gF mx d = gF mx (d + 1) + 2 := by unfold gF; omega

theorem tokOk_quote (mx d : Nat) (hd : d < mx) (ty : String) (hty : ty = "block_quote" ∨ ty = "block_spoiler")
    (cs : List Json) (hcs : ∀ t ∈ cs, TokOk mx (d + 1) t) :
    TokOk mx d (tok ty [("children", .arr cs)]) := by
  have hrec : preSeq (gF mx (d + 1)) cs .block (d + 1) mx = true := (preSeq_iff _ _ _ _ _).2 hcs
  exact (tokOk_lit _ _ _ _).2 ⟨by omega, attrsOkT_none ty,
    .quote cs hty hd (preSeq_mono_le (by unfold gF; omega) _ _ _ _ hrec)⟩

theorem tokensOk_insert {mx : Nat} {st : BlockState} {t : Json} (i : Nat) (h : TokensOk mx st)
    (ht : TokOk mx st.depth t) : TokensOk mx { st with tokens := listInsert st.tokens i t } := by
  refine ⟨h.1, fun t' ht' => ?_, h.2.2⟩
  simp only [listInsert, List.mem_append, List.mem_cons] at ht'
  rcases ht' with h1 | h1 | h1
  · exact h.2.1 t' (List.mem_of_mem_take h1)
  · subst h1; exact ht
  · exact h.2.1 t' (List.mem_of_mem_drop h1)

theorem Keeps.insert {mx : Nat} {st st' : BlockState} {t : Json} (i : Nat) (h : Keeps mx st st')
    (ht : TokOk mx st.depth t) : Keeps mx st { st' with tokens := listInsert st'.tokens i t } :=
  ⟨tokensOk_insert i h.1 (by rw [h.2.1]; exact ht), h.2.1, h.2.2⟩

theorem tokensOk_child {mx : Nat} (st : BlockState) (src : Str) (hd : st.depth < mx) (he : EnvOk st.env) :
    TokensOk mx (st.childState src) := by
  refine ⟨?_, fun t ht => ?_, he⟩
  · show st.depth + 1 ≤ mx; omega
  · simp [BlockState.childState, BlockState.process] at ht

theorem rulesOk_without (mx d : Nat) (rules : List String) : RulesOk mx d (withoutContainers rules) := by
  intro n hn hc
  unfold withoutContainers at hn
  simp only [List.mem_filter, Bool.and_eq_true, bne_iff_ne, ne_eq] at hn
  rcases hc with hc | hc
  · exact absurd hc hn.2.1
  · exact absurd hc hn.2.2

/-- the rule list a container hands to its children: without container rules at the nesting limit -/
theorem rulesOk_limit (mx d : Nat) (rules : List String) :
    RulesOk mx (d + 1) (if d + 1 ≥ mx then withoutContainers rules else rules) := by
  split
  · exact rulesOk_without _ _ _
  · intro n _ _; omega

/-- the children of a quote: the text is parsed in a child state, and the resulting tokens make a quote token of the
parent's depth -/
theorem quoteChildren_ok (cfg : MdCfg) (pm : ParseMethod) (hpm : PMGrammar cfg pm) (hatx : AtxSc cfg cfg.blockSpec)
    (st : BlockState) (hd : st.depth < cfg.maxNested) (he : EnvOk st.env) (text : Str) (ty : String)
    (hty : ty = "block_quote" ∨ ty = "block_spoiler") :
    Sat (fun child => TokOk cfg.maxNested st.depth (tok ty [("children", .arr child.tokens)]) ∧ EnvOk child.env)
      (parse cfg pm (st.childState text)
        (some (if st.depth + 1 ≥ cfg.maxNested then withoutContainers cfg.quoteRules else cfg.quoteRules))) := by
  refine (parse_ok cfg pm hpm hatx _ _ (tokensOk_child st text hd he) (rulesOk_limit _ st.depth _)).mono (fun child hc => ?_)
  have hdc : child.depth = st.depth + 1 := hc.2.1
  refine ⟨tokOk_quote _ _ hd _ hty _ (fun t ht => ?_), hc.1.2.2⟩
  rw [← hdc]
  exact hc.1.2.1 t ht

theorem parseBlockQuote_ok (cfg : MdCfg) (pm : ParseMethod) (hpm : PMGrammar cfg pm) (hatx : AtxSc cfg cfg.blockSpec)
    (mt : RxMatch) (st : BlockState) (h : TokensOk cfg.maxNested st) (hd : st.depth < cfg.maxNested) :
    Sat (GPost cfg.maxNested st) (parseBlockQuote cfg pm mt st) := by
  unfold parseBlockQuote
  extract_lets tokIndex
  refine Sat.bind (extractBlockQuote_ok cfg pm hpm mt st h hd) ?_
  rintro ⟨text, endPos, st1⟩ hk
  dsimp only at hk
  refine Sat.bind (quoteChildren_ok cfg pm hpm hatx st1 (by rw [hk.2.1]; exact hd) hk.1.2.2 text _ (Or.inl rfl)) ?_
  rintro child2 ⟨htok, henv⟩
  rw [hk.2.1] at htok
  have hk2 : Keeps cfg.maxNested st { st1 with env := child2.env } := Keeps.env _ hk henv
  extract_lets st2 token
  exact Sat.ite (fun _ => Sat.pure (Keeps.insert _ hk2 htok)) (fun _ => Sat.pure (Keeps.append hk2 htok))

/-- `spoiler.parse_block_spoiler`: a block quote whose token type is `block_spoiler` at the top level -/
theorem parseBlockSpoiler_ok (cfg : MdCfg) (pm : ParseMethod) (hpm : PMGrammar cfg pm) (hatx : AtxSc cfg cfg.blockSpec)
    (mt : RxMatch) (st : BlockState) (h : TokensOk cfg.maxNested st) (hd : st.depth < cfg.maxNested) :
    Sat (GPost cfg.maxNested st) (parseBlockSpoiler cfg pm mt st) := by
  unfold parseBlockSpoiler
  extract_lets tokIndex
  refine Sat.bind (extractBlockQuote_ok cfg pm hpm mt st h hd) ?_
  rintro ⟨text, endPos, st1⟩ hk
  dsimp only at hk
  -- `-zeta`: the `let`s stay, for `extract_lets`
  dsimp -zeta only
  extract_lets text2 isSpoiler text3 tokType
  have htt : tokType = "block_quote" ∨ tokType = "block_spoiler" := by
    show (if isSpoiler = true then "block_spoiler" else "block_quote") = "block_quote" ∨
      (if isSpoiler = true then "block_spoiler" else "block_quote") = "block_spoiler"
    cases isSpoiler <;> simp
  clear_value tokType text3
  refine Sat.bind (quoteChildren_ok cfg pm hpm hatx st1 (by rw [hk.2.1]; exact hd) hk.1.2.2 text3 _ htt) ?_
  rintro child2 ⟨htok, henv⟩
  rw [hk.2.1] at htok
  have hk2 : Keeps cfg.maxNested st { st1 with env := child2.env } := Keeps.env _ hk henv
  extract_lets st2 token
  exact Sat.ite (fun _ => Sat.pure (Keeps.insert _ hk2 htok)) (fun _ => Sat.pure (Keeps.append hk2 htok))

end G
end Blk
end Model
end Mistune
