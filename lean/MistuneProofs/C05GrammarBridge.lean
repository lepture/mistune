/-
C05 for the concrete model: the second pass (`iterRenderG`) turns a tree of the block-pass grammar `preSeq` into a
tree of the token grammar `wfSeq`, provided the inline parser returns inline token lists of the grammar.
-/
import MistuneProofs.C05GrammarPre
namespace Mistune

/-! `ctxOk`, `shapeOk`, `perTypeOk`, `subDepth`, `subCtx` and `wfTy` / `wfView` are the `let` bindings of the per-token
check inside `wfSeq` (Mistune/SecondPass.lean) written as functions of their own; `wfSeq_single_view` ties them to
the model by `rfl`. -/

/-- where a token of type `ty` may stand -/
def ctxOk (ctx : TokCtx) (ty : String) : Bool :=
  match ctx with
  | .inline => inlineTypes.contains ty
  | .block => blockTypes.contains ty && !onlyUnder.contains ty
  | .only allowed => blockTypes.contains ty && allowed.contains ty

/-- which of `raw` / `children` a token of type `ty` carries -/
def shapeOk (ty : String) (hasRaw hasCh : Bool) : Bool :=
  if inlineLeafRaw.contains ty || blockLeafRaw.contains ty then hasRaw
  else if inlineEmpty.contains ty || blockEmpty.contains ty then !hasRaw && !hasCh
  else hasCh

/-- the rules of the seven types that have rules of their own -/
def perTypeOk (ty : String) (attrs : Json) (ch : List Json) : Bool :=
  (if ty == "heading" then (match attrs.getInt? "level" with | some n => 1 ≤ n && n ≤ 6 | none => false) else true) &&
  (if ty == "list" then (match attrs.get? "ordered" with | some (.bool _) => true | _ => false) && isIntJ (attrs.get? "depth") &&
      (match attrs.get? "start" with | none => true | some (.num _) => true | _ => false) else true) &&
  (if ty == "link" || ty == "image" then (match attrs.get? "url" with | some (.str _) => true | _ => false) else true) &&
  (if ty == "footnote_ref" then (match attrs.getInt? "index" with | some n => 1 ≤ n | none => false) else true) &&
  (if ty == "table" then
     match ch with
     | [h, b] =>
       h.type == "table_head" && b.type == "table_body" &&
       (let head := h.getArr "children"
        let aligns := head.map alignOf
        (b.getArr "children").all (fun row =>
          let cells := row.getArr "children"
          cells.length == head.length &&
          (List.zip (cells.map alignOf) aligns).all (fun p => jsonEqAlign p.1 p.2)))
     | _ => false
   else true) &&
  (if ty == "table_cell" then
     (match attrs.get? "align" with
      | some (.str a) => a == "left".toList || a == "right".toList || a == "center".toList
      | some .null => true | none => true | _ => false) &&
     (match attrs.get? "head" with | some (.bool _) => true | _ => false)
   else true)

/-- the nesting depth of the children of a token of type `ty` -/
def subDepth (ty : String) (depth : Nat) : Nat := depth + (if countedContainers.contains ty then 1 else 0)

/-- the context of the children of a token of type `ty` -/
def subCtx (ctx : TokCtx) (ty : String) : TokCtx :=
  match ctx with
  | .inline => .inline
  | _ =>
    if blockInlineChildren.contains ty then .inline
    else match blockSpecial.lookup ty with
      | some allowed => .only allowed
      | none => .block

/-- the per-token check of `wfSeq` as a function of the type name and the other four grammar fields -/
def wfTy (rec : List Json → TokCtx → Nat → Bool) (ty : String) (attrsJ rawJ chJ textJ : Option Json)
    (ctx : TokCtx) (depth mx : Nat) : Bool :=
  (!optHas textJ && !(optHas rawJ && optHas chJ) &&
    (match rawJ with | some (.str _) => true | none => true | _ => false) &&
    (match chJ with | some (.arr _) => true | none => true | _ => false) &&
    attrsOkB attrsJ) &&
  ctxOk ctx ty && shapeOk ty (optHas rawJ) (optHas chJ) && perTypeOk ty (attrsJ.getD (.obj [])) (optList chJ) &&
  subDepth ty depth ≤ mx &&
  (if optHas chJ then rec (optList chJ) (subCtx ctx ty) (subDepth ty depth) else true)

/-- the per-token check of `wfSeq` as a function of the five grammar fields -/
def wfView (rec : List Json → TokCtx → Nat → Bool) (tyJ attrsJ rawJ chJ textJ : Option Json)
    (ctx : TokCtx) (depth mx : Nat) : Bool :=
  match tyJ with
  | some (.str tyS) => wfTy rec (String.ofList tyS) attrsJ rawJ chJ textJ ctx depth mx
  | _ => false

theorem wfSeq_single_view (n : Nat) (kv : List (String × Json)) (ctx : TokCtx) (d mx : Nat) :
    wfSeq (n + 1) [.obj kv] ctx d mx =
      wfView (fun cs c d' => wfSeq n cs c d' mx) ((Json.obj kv).get? "type") ((Json.obj kv).get? "attrs")
        ((Json.obj kv).get? "raw") ((Json.obj kv).get? "children") ((Json.obj kv).get? "text") ctx d mx := by
  rw [wfSeq, List.all_cons, List.all_nil, Bool.and_true]
  rfl

theorem wfView_mono {rec rec' : List Json → TokCtx → Nat → Bool}
    (h : ∀ cs c d, rec cs c d = true → rec' cs c d = true) {tyJ attrsJ rawJ chJ textJ : Option Json}
    {ctx : TokCtx} {d mx : Nat} (ht : wfView rec tyJ attrsJ rawJ chJ textJ ctx d mx = true) :
    wfView rec' tyJ attrsJ rawJ chJ textJ ctx d mx = true := by
  unfold wfView at ht ⊢
  split at ht
  · unfold wfTy at ht ⊢
    rw [Bool.and_eq_true] at ht ⊢
    refine ⟨ht.1, ?_⟩
    by_cases hc : optHas chJ = true
    · rw [if_pos hc] at ht ⊢; exact h _ _ _ ht.2
    · rw [if_neg hc]
  · cases ht

theorem wfSeq_mono : ∀ (fuel : Nat) (toks : List Json) (ctx : TokCtx) (d mx : Nat),
    wfSeq fuel toks ctx d mx = true → wfSeq (fuel + 1) toks ctx d mx = true := by
  intro fuel
  induction fuel with
  | zero => intro toks ctx d mx h; simp [wfSeq] at h
  | succ n ih =>
    intro toks ctx d mx h
    rw [wfSeq_iff] at h ⊢
    intro t ht
    have h1 := h t ht
    cases t with
    | obj kv =>
      rw [wfSeq_single_view] at h1 ⊢
      exact wfView_mono (fun cs c d' => ih cs c d' mx) h1
    | _ => rw [wfSeq] at h1; cases h1

theorem wfSeq_mono_le {n m : Nat} (h : n ≤ m) (toks : List Json) (ctx : TokCtx) (d mx : Nat)
    (hw : wfSeq n toks ctx d mx = true) : wfSeq m toks ctx d mx = true := by
  induction h with
  | refl => exact hw
  | step _ ih => exact wfSeq_mono _ _ _ _ _ ih

/-- a token written as a literal: the grammar fields are looked up in `fields` -/
theorem wfSeq_tok (n : Nat) (ty : String) (fields : List (String × Json)) (ctx : TokCtx) (d mx : Nat) :
    wfSeq (n + 1) [tok ty fields] ctx d mx =
      wfTy (fun cs c d' => wfSeq n cs c d' mx) ty (fields.lookup "attrs") (fields.lookup "raw")
        (fields.lookup "children") (fields.lookup "text") ctx d mx := by
  rw [tok, wfSeq_single_view]
  simp only [Json.get?, List.lookup, Json.s, wfView, String.ofList_toList, beq_self_eq_true,
    (by decide : ("attrs" == "type") = false), (by decide : ("raw" == "type") = false),
    (by decide : ("children" == "type") = false), (by decide : ("text" == "type") = false)]

/-- the types with rules of their own -/
def ruledTys : List String := ["heading", "list", "link", "image", "footnote_ref", "table", "table_cell"]

theorem perTypeOk_plain (ty : String) (h : ruledTys.contains ty = false) (attrs : Json) (ch : List Json) :
    perTypeOk ty attrs ch = true := by
  simp only [ruledTys, List.contains_eq_mem, List.mem_cons, List.not_mem_nil, or_false, decide_eq_false_iff_not, not_or] at h
  obtain ⟨h1, h2, h3, h4, h5, h6, h7⟩ := h
  simp [perTypeOk, h1, h2, h3, h4, h5, h6, h7]

/-- a token with `raw` -/
theorem wfTy_leaf (rec : List Json → TokCtx → Nat → Bool) (ty : String) (attrsJ : Option Json) (raw : Str)
    (ctx : TokCtx) (d mx : Nat) (ha : attrsOkB attrsJ = true) (hc : ctxOk ctx ty = true)
    (hs : shapeOk ty true false = true) (hp : perTypeOk ty (attrsJ.getD (.obj [])) [] = true)
    (hd : subDepth ty d ≤ mx) : wfTy rec ty attrsJ (some (.str raw)) none none ctx d mx = true := by
  simp [wfTy, optHas, optList, ha, hc, hs, hp, hd]

/-- a token with neither `raw` nor `children` -/
theorem wfTy_bare (rec : List Json → TokCtx → Nat → Bool) (ty : String) (attrsJ : Option Json)
    (ctx : TokCtx) (d mx : Nat) (ha : attrsOkB attrsJ = true) (hc : ctxOk ctx ty = true)
    (hs : shapeOk ty false false = true) (hp : perTypeOk ty (attrsJ.getD (.obj [])) [] = true)
    (hd : subDepth ty d ≤ mx) : wfTy rec ty attrsJ none none none ctx d mx = true := by
  simp [wfTy, optHas, optList, ha, hc, hs, hp, hd]

/-- a token with `children` -/
theorem wfTy_container (rec : List Json → TokCtx → Nat → Bool) (ty : String) (attrsJ : Option Json) (cs : List Json)
    (ctx : TokCtx) (d mx : Nat) (ha : attrsOkB attrsJ = true) (hc : ctxOk ctx ty = true)
    (hs : shapeOk ty false true = true) (hp : perTypeOk ty (attrsJ.getD (.obj [])) cs = true)
    (hd : subDepth ty d ≤ mx) (hrec : rec cs (subCtx ctx ty) (subDepth ty d) = true) :
    wfTy rec ty attrsJ none (some (.arr cs)) none ctx d mx = true := by
  simp [wfTy, optHas, optList, ha, hc, hs, hp, hd, hrec]

theorem perTypeOk_heading (attrs : Json) (ch : List Json) :
    perTypeOk "heading" attrs ch =
      (match attrs.getInt? "level" with | some n => decide (1 ≤ n) && decide (n ≤ 6) | none => false) := by
  simp [perTypeOk]

theorem perTypeOk_list (attrs : Json) (ch : List Json) :
    perTypeOk "list" attrs ch =
      ((match attrs.get? "ordered" with | some (.bool _) => true | _ => false) && isIntJ (attrs.get? "depth") &&
        (match attrs.get? "start" with | none => true | some (.num _) => true | _ => false)) := by
  simp [perTypeOk]

theorem perTypeOk_link (ty : String) (hty : ty = "link" ∨ ty = "image") (attrs : Json) (ch : List Json) :
    perTypeOk ty attrs ch = (match attrs.get? "url" with | some (.str _) => true | _ => false) := by
  rcases hty with rfl | rfl <;> simp [perTypeOk]

theorem wfTy_quote (rec : List Json → TokCtx → Nat → Bool) (ty : String) (hty : ty = "block_quote" ∨ ty = "block_spoiler")
    (attrsJ : Option Json) (cs : List Json) (d mx : Nat)
    (h1 : attrsOkB attrsJ = true) (hd : d + 1 ≤ mx) (hrec : rec cs .block (d + 1) = true) :
    wfTy rec ty attrsJ none (some (.arr cs)) none .block d mx = true := by
  rcases hty with rfl | rfl
  · exact wfTy_container _ _ _ _ _ _ _ h1 (by decide) (by decide) (perTypeOk_plain _ (by decide) _ _) hd hrec
  · exact wfTy_container _ _ _ _ _ _ _ h1 (by decide) (by decide) (perTypeOk_plain _ (by decide) _ _) hd hrec

theorem wfTy_list (rec : List Json → TokCtx → Nat → Bool) (attrsJ : Option Json) (cs : List Json) (d mx : Nat)
    (h1 : attrsOkB attrsJ = true) (hd : d + 1 ≤ mx)
    (h2 : (match (attrsJ.getD (.obj [])).get? "ordered" with | some (.bool _) => true | _ => false) = true)
    (h3 : isIntJ ((attrsJ.getD (.obj [])).get? "depth") = true)
    (h4 : (match (attrsJ.getD (.obj [])).get? "start" with | none => true | some (.num _) => true | _ => false) = true)
    (hrec : rec cs (.only ["list_item", "task_list_item"]) (d + 1) = true) :
    wfTy rec "list" attrsJ none (some (.arr cs)) none .block d mx = true :=
  wfTy_container _ _ _ _ _ _ _ h1 (by decide) (by decide) (by rw [perTypeOk_list, h2, h3, h4]; rfl) hd hrec

theorem wfTy_item (rec : List Json → TokCtx → Nat → Bool) (attrsJ : Option Json) (cs : List Json) (d mx : Nat)
    (allowed : List String) (h1 : attrsOkB attrsJ = true) (hd : d ≤ mx) (ha : allowed.contains "list_item" = true)
    (hrec : rec cs .block d = true) :
    wfTy rec "list_item" attrsJ none (some (.arr cs)) none (.only allowed) d mx = true :=
  wfTy_container _ _ _ _ _ _ _ h1 (by rw [ctxOk, ha]; decide) (by decide) (perTypeOk_plain _ (by decide) _ _) hd hrec

theorem wfTy_text (rec : List Json → TokCtx → Nat → Bool) (ty : String) (hty : ty = "paragraph" ∨ ty = "block_text")
    (attrsJ : Option Json) (cs : List Json) (d mx : Nat)
    (h1 : attrsOkB attrsJ = true) (hd : d ≤ mx) (hrec : rec cs .inline d = true) :
    wfTy rec ty attrsJ none (some (.arr cs)) none .block d mx = true := by
  rcases hty with rfl | rfl
  · exact wfTy_container _ _ _ _ _ _ _ h1 (by decide) (by decide) (perTypeOk_plain _ (by decide) _ _) hd hrec
  · exact wfTy_container _ _ _ _ _ _ _ h1 (by decide) (by decide) (perTypeOk_plain _ (by decide) _ _) hd hrec

theorem wfTy_heading (rec : List Json → TokCtx → Nat → Bool)
    (attrsJ : Option Json) (cs : List Json) (d mx : Nat)
    (h1 : attrsOkB attrsJ = true) (hd : d ≤ mx)
    (h2 : (match (attrsJ.getD (.obj [])).getInt? "level" with | some n => decide (1 ≤ n) && decide (n ≤ 6) | none => false) = true)
    (hrec : rec cs .inline d = true) :
    wfTy rec "heading" attrsJ none (some (.arr cs)) none .block d mx = true :=
  wfTy_container _ _ _ _ _ _ _ h1 (by decide) (by decide) (by rw [perTypeOk_heading, h2]) hd hrec

theorem wfTy_raw (rec : List Json → TokCtx → Nat → Bool) (ty : String) (hty : ty = "block_code" ∨ ty = "block_html" ∨ ty = "block_math")
    (attrsJ : Option Json) (raw : Str) (d mx : Nat) (h1 : attrsOkB attrsJ = true) (hd : d ≤ mx) :
    wfTy rec ty attrsJ (some (.str raw)) none none .block d mx = true := by
  rcases hty with rfl | rfl | rfl
  · exact wfTy_leaf _ _ _ _ _ _ _ h1 (by decide) (by decide) (perTypeOk_plain _ (by decide) _ _) hd
  · exact wfTy_leaf _ _ _ _ _ _ _ h1 (by decide) (by decide) (perTypeOk_plain _ (by decide) _ _) hd
  · exact wfTy_leaf _ _ _ _ _ _ _ h1 (by decide) (by decide) (perTypeOk_plain _ (by decide) _ _) hd

theorem wfTy_empty (rec : List Json → TokCtx → Nat → Bool) (ty : String) (hty : ty = "thematic_break" ∨ ty = "blank_line")
    (attrsJ : Option Json) (d mx : Nat) (h1 : attrsOkB attrsJ = true) (hd : d ≤ mx) :
    wfTy rec ty attrsJ none none none .block d mx = true := by
  rcases hty with rfl | rfl
  · exact wfTy_bare _ _ _ _ _ _ h1 (by decide) (by decide) (perTypeOk_plain _ (by decide) _ _) hd
  · exact wfTy_bare _ _ _ _ _ _ h1 (by decide) (by decide) (perTypeOk_plain _ (by decide) _ _) hd

/-- containers: the children are re-checked by `rec'` -/
theorem view_container (rec rec' : List Json → TokCtx → Nat → Bool) (ty : String) (attrsJ rawJ textJ : Option Json)
    (cs cs' : List Json) (ctx : TokCtx) (d mx : Nat)
    (h : preTy rec ty attrsJ rawJ (some (.arr cs)) textJ ctx d mx = true)
    (hrec : ∀ c d', rec cs c d' = true → rec' cs' c d' = true) :
    wfTy rec' ty attrsJ rawJ (some (.arr cs')) textJ ctx d mx = true := by
  obtain ⟨hd, ha, hc⟩ := (preTy_iff _ _ _ _ _ _ _ _ _).1 h
  cases hc with
  | quote _ hty hd1 hr => exact wfTy_quote _ _ hty _ _ _ _ (attrsOkT_B ha) hd1 (hrec _ _ hr)
  | list _ hty hd1 h1 h2 h3 hr => subst hty; exact wfTy_list _ _ _ _ _ (attrsOkT_B ha) hd1 h1 h2 h3 (hrec _ _ hr)
  | item _ hty hal hr => subst hty; exact wfTy_item _ _ _ _ _ _ (attrsOkT_B ha) hd hal (hrec _ _ hr)

/-- text blocks: `text` is replaced by inline children -/
theorem view_text (rec rec' : List Json → TokCtx → Nat → Bool) (ty : String) (attrsJ rawJ chJ : Option Json)
    (text : Str) (ctx : TokCtx) (d mx : Nat)
    (h : preTy rec ty attrsJ rawJ chJ (some (.str text)) ctx d mx = true) :
    rawJ = none ∧ chJ = none ∧ d ≤ mx ∧
      ∀ cs, rec' cs .inline d = true → wfTy rec' ty attrsJ none (some (.arr cs)) none ctx d mx = true := by
  obtain ⟨hd, ha, hc⟩ := (preTy_iff _ _ _ _ _ _ _ _ _).1 h
  cases hc with
  | text _ hty => exact ⟨rfl, rfl, hd, fun cs hcs => wfTy_text _ _ hty _ _ _ _ (attrsOkT_B ha) hd hcs⟩
  | heading _ hty hl =>
    subst hty
    exact ⟨rfl, rfl, hd, fun cs hcs => wfTy_heading _ _ _ _ _ (attrsOkT_B ha) hd hl hcs⟩

/-- leaves: unchanged by the second pass -/
theorem view_leaf (rec rec' : List Json → TokCtx → Nat → Bool) (ty : String) (attrsJ rawJ chJ textJ : Option Json)
    (ctx : TokCtx) (d mx : Nat) (hch : optArr chJ = false) (htx : optStr textJ = false)
    (h : preTy rec ty attrsJ rawJ chJ textJ ctx d mx = true) :
    wfTy rec' ty attrsJ rawJ chJ textJ ctx d mx = true := by
  obtain ⟨hd, ha, hc⟩ := (preTy_iff _ _ _ _ _ _ _ _ _).1 h
  cases hc with
  | text => cases htx
  | heading => cases htx
  | raw _ hty => exact wfTy_raw _ _ hty _ _ _ _ (attrsOkT_B ha) hd
  | empty hty => exact wfTy_empty _ _ hty _ _ _ (attrsOkT_B ha) hd
  | quote => cases hch
  | list => cases hch
  | item => cases hch

/-! ### the second pass -/

/-- the check of a token whose type is the string `tyS` -/
theorem wfSeq_single (n : Nat) (t : Json) (tyS : Str) (hty : t.get? "type" = some (.str tyS)) (ctx : TokCtx)
    (d mx : Nat) :
    wfSeq (n + 1) [t] ctx d mx = wfTy (fun cs c d' => wfSeq n cs c d' mx) (String.ofList tyS) (t.get? "attrs")
      (t.get? "raw") (t.get? "children") (t.get? "text") ctx d mx := by
  obtain ⟨kv, rfl⟩ := isObj_of_get? _ _ _ hty
  rw [wfSeq_single_view, hty]
  rfl

theorem wfSeq_set_children (n : Nat) (t : Json) (tyS : Str) (hty : t.get? "type" = some (.str tyS)) (cs : List Json)
    (ctx : TokCtx) (d mx : Nat) :
    wfSeq (n + 1) [t.set "children" (.arr cs)] ctx d mx = wfTy (fun cs c d' => wfSeq n cs c d' mx) (String.ofList tyS)
      (t.get? "attrs") (t.get? "raw") (some (.arr cs)) (t.get? "text") ctx d mx := by
  obtain ⟨kv, rfl⟩ := isObj_of_get? _ _ _ hty
  rw [wfSeq_single _ _ tyS (by rw [get?_set_ne _ _ "type" _ (by decide)]; exact hty),
    get?_set_ne _ _ "attrs" _ (by decide), get?_set_ne _ _ "raw" _ (by decide), get?_set_ne _ _ "text" _ (by decide),
    get?_set_self]

/-- **the second pass maps the block-pass grammar into the token grammar**: `K + 1` is a fuel that suffices for
every list the inline parser returns -/
theorem iterRender_wf (inl : Str → Except PyErr (List Json)) (K mx : Nat)
    (hinl : ∀ s out d, d ≤ mx → inl s = .ok out → wfSeq (K + 1) out .inline d mx = true) :
    ∀ (n fuel : Nat) (toks : List Json) (ctx : TokCtx) (d : Nat) (out : List Json),
      preSeq n toks ctx d mx = true → iterRenderG inl fuel toks = .ok out →
      wfSeq (n + K + 1) out ctx d mx = true := by
  intro n
  induction n with
  | zero => intro fuel toks ctx d out h; simp [preSeq] at h
  | succ m ih =>
    intro fuel toks ctx d out h hrun
    cases fuel with
    | zero => simp [iterRenderG] at hrun
    | succ fuel =>
      rw [iterRenderG_succ] at hrun
      have e : m + 1 + K + 1 = (m + K + 1) + 1 := by omega
      rw [e, wfSeq_iff]
      refine mapM_ok_forall (stepG inl fuel) (fun t => preSeq (m + 1) [t] ctx d mx = true)
        (fun t' => wfSeq (m + K + 1 + 1) [t'] ctx d mx = true) ?_ toks out hrun ((preSeq_iff _ _ _ _ _).1 h)
      intro t t' ht hstep
      obtain ⟨tyS, hty, hpre⟩ := (preSeq_single_iff _ _ _ _ _).1 ht
      rcases stepG_ok hstep with ⟨cs, cs', hcs, hr, rfl⟩ | ⟨hnc, ⟨text, cs, htx, hr, rfl⟩ | ⟨hnt, rfl⟩⟩
      · rw [wfSeq_set_children _ _ _ hty]
        rw [hcs] at hpre
        exact view_container _ _ _ _ _ _ cs cs' ctx d mx hpre (fun c d' hh => ih fuel cs c d' cs' hh hr)
      · rw [htx] at hpre
        obtain ⟨r1, _, r3, r4⟩ := view_text _ (fun cs c d' => wfSeq (m + K + 1) cs c d' mx) _ _ _ _ _ _ _ _ hpre
        rw [wfSeq_set_children _ _ tyS (by rw [get?_erase_ne _ _ "type" (by decide)]; exact hty),
          get?_erase_ne _ _ "attrs" (by decide), get?_erase_ne _ _ "raw" (by decide), get?_erase_self, r1]
        exact r4 cs (wfSeq_mono_le (by omega) _ _ _ _ (hinl _ _ d r3 hr))
      · rw [wfSeq_single _ _ _ hty]
        exact view_leaf _ _ _ _ _ _ _ _ _ _ (optArr_eq_false hnc) (optStr_eq_false hnt) hpre

/-! ### the attribute shape through the second pass (for C02) -/

theorem preTy_shape (rec : List Json → TokCtx → Nat → Bool) (ty : String) (attrsJ rawJ chJ textJ : Option Json)
    (ctx : TokCtx) (d mx : Nat) (h : preTy rec ty attrsJ rawJ chJ textJ ctx d mx = true) :
    coreTys.contains ty = true ∧ attrsShape ty attrsJ = true := by
  obtain ⟨_, ha, hc⟩ := (preTy_iff _ _ _ _ _ _ _ _ _).1 h
  simp only [attrsOkT, Bool.and_eq_true] at ha
  refine ⟨?_, ha.2⟩
  cases hc with
  | text _ hty => rcases hty with rfl | rfl <;> decide
  | heading _ hty => subst hty; decide
  | raw _ hty => rcases hty with rfl | rfl | rfl <;> decide
  | empty hty => rcases hty with rfl | rfl <;> decide
  | quote _ hty => rcases hty with rfl | rfl <;> decide
  | list _ hty => subst hty; decide
  | item _ hty => subst hty; decide

theorem preTy_children (rec : List Json → TokCtx → Nat → Bool) (ty : String) (attrsJ rawJ textJ : Option Json)
    (cs : List Json) (ctx : TokCtx) (d mx : Nat)
    (h : preTy rec ty attrsJ rawJ (some (.arr cs)) textJ ctx d mx = true) : ∃ c d', rec cs c d' = true := by
  obtain ⟨_, _, hc⟩ := (preTy_iff _ _ _ _ _ _ _ _ _).1 h
  cases hc with
  | quote _ _ _ hr => exact ⟨_, _, hr⟩
  | list _ _ _ _ _ _ hr => exact ⟨_, _, hr⟩
  | item _ _ _ hr => exact ⟨_, _, hr⟩

/-- the shape check of a token whose type is the string `tyS` -/
theorem shp_single (k : Nat) (t : Json) (tyS : Str) (hty : t.get? "type" = some (.str tyS)) :
    shp (k + 1) t = (coreTys.contains (String.ofList tyS) && attrsShape (String.ofList tyS) (t.get? "attrs") &&
      (match t.get? "children" with | some (.arr cs) => cs.all (shp k) | _ => true)) := by
  rw [shp, type_of_get? _ _ hty]
  rfl

theorem shp_set_children (k : Nat) (t : Json) (tyS : Str) (hty : t.get? "type" = some (.str tyS)) (cs : List Json) :
    shp (k + 1) (t.set "children" (.arr cs)) =
      (coreTys.contains (String.ofList tyS) && attrsShape (String.ofList tyS) (t.get? "attrs") && cs.all (shp k)) := by
  obtain ⟨kv, rfl⟩ := isObj_of_get? _ _ _ hty
  rw [shp_single _ _ tyS (by rw [get?_set_ne _ _ "type" _ (by decide)]; exact hty),
    get?_set_ne _ _ "attrs" _ (by decide), get?_set_self]

theorem iterRender_shp (inl : Str → Except PyErr (List Json)) (K mx : Nat)
    (hinl : ∀ s out, inl s = .ok out → shpAll (K + 1) out = true) :
    ∀ (n fuel : Nat) (toks : List Json) (ctx : TokCtx) (d : Nat) (out : List Json),
      preSeq n toks ctx d mx = true → iterRenderG inl fuel toks = .ok out → shpAll (n + K + 1) out = true := by
  intro n
  induction n with
  | zero => intro fuel toks ctx d out h; simp [preSeq] at h
  | succ m ih =>
    intro fuel toks ctx d out h hrun
    cases fuel with
    | zero => simp [iterRenderG] at hrun
    | succ fuel =>
      rw [iterRenderG_succ] at hrun
      have e : m + 1 + K + 1 = (m + K + 1) + 1 := by omega
      rw [e]
      unfold shpAll
      rw [List.all_eq_true]
      refine mapM_ok_forall (stepG inl fuel) (fun t => preSeq (m + 1) [t] ctx d mx = true)
        (fun t' => shp (m + K + 1 + 1) t' = true) ?_ toks out hrun ((preSeq_iff _ _ _ _ _).1 h)
      intro t t' ht hstep
      obtain ⟨tyS, hty, hpre⟩ := (preSeq_single_iff _ _ _ _ _).1 ht
      obtain ⟨s1, s2⟩ := preTy_shape _ _ _ _ _ _ _ _ _ hpre
      rcases stepG_ok hstep with ⟨cs, cs', hcs, hr, rfl⟩ | ⟨hnc, ⟨text, cs, htx, hr, rfl⟩ | ⟨hnt, rfl⟩⟩
      · rw [hcs] at hpre
        obtain ⟨c, d', hrec⟩ := preTy_children _ _ _ _ _ _ _ _ _ hpre
        rw [shp_set_children _ _ _ hty, s1, s2]
        exact ih fuel cs c d' cs' hrec hr
      · rw [shp_set_children _ _ tyS (by rw [get?_erase_ne _ _ "type" (by decide)]; exact hty),
          get?_erase_ne _ _ "attrs" (by decide), s1, s2]
        exact shpAll_mono_le (by omega) _ (hinl _ _ hr)
      · rw [shp_single _ _ _ hty, s1, s2]
        split
        · rename_i cs hcs; exact absurd hcs (hnc cs)
        · rfl

end Mistune
