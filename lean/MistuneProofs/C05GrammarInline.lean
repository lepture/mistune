/-
C05 for the concrete model, inline pass: every token list the inline parser returns is a list of inline tokens of the
grammar `wfSeq` (types, `raw` / `children`, `url` of links and images, children again inline tokens), by induction on
the nesting budget of `recAt`.  The entry points `recAt f` return lists of depth at most `2 f + 1` (`recAt_ok`): a
handler working with `recAt f` wraps what they return in at most two containers (`***` opens `emphasis` and `strong`
at once), which gives `2 f + 3 = 2 (f + 1) + 1` for `recAt (f + 1)`.  The same walk through the handlers as
`C01ProgressInline`, with the invariant `IOk`.
-/
import MistuneProofs.C05GrammarBridge
import Mistune.Model.Inline
namespace Mistune
namespace Model
namespace Inl
namespace G

/-! ### token facts -/

theorem wfSeq_set_other (n : Nat) (kv : List (String × Json)) (k : String) (v : Json) (ctx : TokCtx) (d mx : Nat)
    (hk : k ≠ "type" ∧ k ≠ "attrs" ∧ k ≠ "raw" ∧ k ≠ "children" ∧ k ≠ "text") :
    wfSeq (n + 1) [(Json.obj kv).set k v] ctx d mx = wfSeq (n + 1) [.obj kv] ctx d mx := by
  obtain ⟨a1, a2, a3, a4, a5⟩ := hk
  obtain ⟨kv', hkv'⟩ := set_obj kv k v
  have g := wfSeq_single_view n kv' ctx d mx
  rw [← hkv'] at g
  rw [g, wfSeq_single_view, get?_set_ne _ _ "type" _ (Ne.symm a1), get?_set_ne _ _ "attrs" _ (Ne.symm a2),
    get?_set_ne _ _ "raw" _ (Ne.symm a3), get?_set_ne _ _ "children" _ (Ne.symm a4), get?_set_ne _ _ "text" _ (Ne.symm a5)]

/-- the keys of link attributes are `url` and `title` -/
def linkKeys : Json → Bool
  | .obj kv => kv.all (fun p => p.1 == "url" || p.1 == "title")
  | _ => false

theorem linkKeys_set_title (kv : List (String × Json)) (v : Json) (h : linkKeys (.obj kv) = true) :
    linkKeys ((Json.obj kv).set "title" v) = true := by
  simp only [linkKeys, List.all_eq_true] at h
  simp only [Json.set]
  split
  · simp only [linkKeys, List.all_eq_true, List.mem_map]
    rintro q ⟨p, hp, rfl⟩
    have := h p hp
    split
    · simp
    · exact this
  · simp only [linkKeys, List.all_eq_true, List.mem_append, List.mem_singleton]
    rintro q (hq | rfl)
    · exact h q hq
    · simp

theorem attrsShape_link (ty : String) (hty : ty = "link" ∨ ty = "image") (kv : List (String × Json))
    (h : linkKeys (.obj kv) = true) : attrsShape ty (some (.obj kv)) = true := by
  simp only [linkKeys, List.all_eq_true] at h
  simp only [attrsShape, List.all_eq_true]
  intro p hp
  have := h p hp
  rcases hty with e | e <;> subst e <;> simp_all

/-- attributes of a link / image token: an object with a string `url`, keys `url` / `title` only -/
def LinkAttrs (a : Json) : Prop := (∃ kv, a = .obj kv) ∧ (∃ u, a.get? "url" = some (.str u)) ∧ linkKeys a = true

theorem linkAttrs_url (u : Str) : LinkAttrs (.obj [("url", .str u)]) :=
  ⟨⟨_, rfl⟩, ⟨u, by simp [Json.get?, List.lookup]⟩, by simp [linkKeys]⟩

theorem LinkAttrs.set_title {a : Json} (h : LinkAttrs a) (v : Json) : LinkAttrs (a.set "title" v) := by
  obtain ⟨⟨kv, rfl⟩, ⟨u, hu⟩, hk⟩ := h
  refine ⟨set_obj _ _ _, ⟨u, ?_⟩, linkKeys_set_title _ _ hk⟩
  rw [get?_set_ne _ _ "url" _ (by decide)]
  exact hu

/-! ### the grammar together with the attribute shape (`shp`, for C02) -/

/-- inline token list of the grammar whose tokens have core types and `attrs` of the shape `attrsShape` -/
def ixSeq (k : Nat) (toks : List Json) (d mx : Nat) : Bool := wfSeq k toks .inline d mx && shpAll k toks

theorem ixSeq_nil (k d mx : Nat) : ixSeq (k + 1) [] d mx = true := by simp [ixSeq, wfSeq_nil, shpAll]

theorem ixSeq_append_iff (k : Nat) (a b : List Json) (d mx : Nat) :
    ixSeq (k + 1) (a ++ b) d mx = true ↔ ixSeq (k + 1) a d mx = true ∧ ixSeq (k + 1) b d mx = true := by
  simp only [ixSeq, wfSeq_append, shpAll_append, Bool.and_eq_true]
  constructor
  · rintro ⟨⟨a1, a2⟩, a3, a4⟩; exact ⟨⟨a1, a3⟩, a2, a4⟩
  · rintro ⟨⟨a1, a3⟩, a2, a4⟩; exact ⟨⟨a1, a2⟩, a3, a4⟩

theorem ixSeq_mono_le {n m : Nat} (h : n ≤ m) (toks : List Json) (d mx : Nat) (hw : ixSeq n toks d mx = true) :
    ixSeq m toks d mx = true := by
  simp only [ixSeq, Bool.and_eq_true] at hw ⊢
  exact ⟨wfSeq_mono_le h _ _ _ _ hw.1, shpAll_mono_le h _ hw.2⟩

theorem ixSeq_mono (n : Nat) (toks : List Json) (d mx : Nat) (hw : ixSeq n toks d mx = true) :
    ixSeq (n + 1) toks d mx = true := ixSeq_mono_le (Nat.le_succ n) toks d mx hw

theorem ixSeq_set_other (n : Nat) (kv : List (String × Json)) (k : String) (v : Json) (d mx : Nat)
    (hk : k ≠ "type" ∧ k ≠ "attrs" ∧ k ≠ "raw" ∧ k ≠ "children" ∧ k ≠ "text") :
    ixSeq (n + 1) [(Json.obj kv).set k v] d mx = ixSeq (n + 1) [.obj kv] d mx := by
  simp only [ixSeq, shpAll, List.all_cons, List.all_nil, Bool.and_true]
  rw [wfSeq_set_other _ _ _ _ _ _ _ hk, shp_congr n (.obj kv) _ (get?_set_ne _ _ "type" _ (Ne.symm hk.1))
    (get?_set_ne _ _ "attrs" _ (Ne.symm hk.2.1)) (get?_set_ne _ _ "children" _ (Ne.symm hk.2.2.2.1))]

theorem shp_tok (k : Nat) (ty : String) (fields : List (String × Json)) :
    shp (k + 1) (tok ty fields) = (coreTys.contains ty && attrsShape ty (fields.lookup "attrs") &&
      (match fields.lookup "children" with | some (.arr cs) => cs.all (shp k) | _ => true)) := by
  rw [shp, tok_type, tok_get? _ _ _ (by decide), tok_get? _ _ _ (by decide)]
  rfl

/-- a token written as a literal: both checks read the fields of the literal -/
theorem ixSeq_tok (k : Nat) (ty : String) (fields : List (String × Json)) (d mx : Nat) :
    ixSeq (k + 1) [tok ty fields] d mx =
      (wfTy (fun cs c d' => wfSeq k cs c d' mx) ty (fields.lookup "attrs") (fields.lookup "raw")
        (fields.lookup "children") (fields.lookup "text") .inline d mx && shp (k + 1) (tok ty fields)) := by
  simp only [ixSeq, wfSeq_tok, shpAll, List.all_cons, List.all_nil, Bool.and_true]

/-- `ty` is an inline type of the covered handlers, has no rules of its own, and its token has `raw` / `children` as
given -/
def inlTyOk (ty : String) (hasRaw hasCh : Bool) : Bool :=
  ctxOk .inline ty && shapeOk ty hasRaw hasCh && !ruledTys.contains ty && !countedContainers.contains ty &&
    coreTys.contains ty

theorem inlTyOk_iff {ty : String} {hasRaw hasCh : Bool} (h : inlTyOk ty hasRaw hasCh = true) :
    ctxOk .inline ty = true ∧ shapeOk ty hasRaw hasCh = true ∧ (∀ a ch, perTypeOk ty a ch = true) ∧
      (∀ d, subDepth ty d = d) ∧ coreTys.contains ty = true := by
  simp only [inlTyOk, Bool.and_eq_true, Bool.not_eq_true'] at h
  obtain ⟨⟨⟨⟨h1, h2⟩, h3⟩, h4⟩, h5⟩ := h
  exact ⟨h1, h2, perTypeOk_plain ty h3, fun d => by rw [subDepth, h4]; rfl, h5⟩

theorem ix_raw (k : Nat) (ty : String) (hty : inlTyOk ty true false = true) (raw : Str) (d mx : Nat) (hd : d ≤ mx) :
    ixSeq (k + 1) [tok ty [("raw", .str raw)]] d mx = true := by
  obtain ⟨h1, h2, h3, h4, h5⟩ := inlTyOk_iff hty
  rw [ixSeq_tok, shp_tok, Bool.and_eq_true]
  exact ⟨wfTy_leaf _ _ _ _ _ _ _ rfl h1 h2 (h3 _ _) (by rw [h4]; exact hd), by rw [h5]; rfl⟩

theorem ix_bare (k : Nat) (ty : String) (hty : inlTyOk ty false false = true) (d mx : Nat) (hd : d ≤ mx) :
    ixSeq (k + 1) [tok ty []] d mx = true := by
  obtain ⟨h1, h2, h3, h4, h5⟩ := inlTyOk_iff hty
  rw [ixSeq_tok, shp_tok, Bool.and_eq_true]
  exact ⟨wfTy_bare _ _ _ _ _ _ rfl h1 h2 (h3 _ _) (by rw [h4]; exact hd), by rw [h5]; rfl⟩

/-- a container without attributes -/
theorem ix_span (k : Nat) (ty : String) (hty : inlTyOk ty false true = true) (cs : List Json) (d mx : Nat) (hd : d ≤ mx)
    (h : ixSeq (k + 1) cs d mx = true) : ixSeq (k + 2) [tok ty [("children", .arr cs)]] d mx = true := by
  obtain ⟨h1, h2, h3, h4, h5⟩ := inlTyOk_iff hty
  simp only [ixSeq, Bool.and_eq_true] at h
  rw [ixSeq_tok, shp_tok, Bool.and_eq_true]
  refine ⟨wfTy_container _ _ _ _ _ _ _ rfl h1 h2 (h3 _ _) (by rw [h4]; exact hd) (by rw [h4]; exact h.1), ?_⟩
  rw [h5]; exact h.2

theorem ix_text (k : Nat) (raw : Str) (d mx : Nat) (hd : d ≤ mx) : ixSeq (k + 1) [textTok raw] d mx = true :=
  ix_raw k "text" (by decide) raw d mx hd

theorem inlTyOk_emphasis : inlTyOk "emphasis" false true = true := by decide

theorem inlTyOk_strong : inlTyOk "strong" false true = true := by decide

theorem ix_footnote (k : Nat) (raw : Str) (i : Nat) (d mx : Nat) (hd : d ≤ mx) :
    ixSeq (k + 1) [tok "footnote_ref" [("raw", .str raw), ("attrs", .obj [("index", .num ((i + 1 : Nat) : Int))])]]
      d mx = true := by
  rw [ixSeq_tok, shp_tok, Bool.and_eq_true]
  refine ⟨wfTy_leaf _ _ _ _ _ _ _ rfl (by decide) (by decide) ?_ hd, rfl⟩
  simp [perTypeOk, Json.getInt?, Json.get?, List.lookup]
  omega

theorem ix_link (k : Nat) (ty : String) (hty : ty = "link" ∨ ty = "image") (cs : List Json) (attrs : Json) (d mx : Nat)
    (hd : d ≤ mx) (ha : LinkAttrs attrs) (h : ixSeq (k + 1) cs d mx = true) :
    ixSeq (k + 2) [tok ty [("children", .arr cs), ("attrs", attrs)]] d mx = true := by
  obtain ⟨⟨kv, rfl⟩, ⟨u, hu⟩, hk⟩ := ha
  simp only [ixSeq, Bool.and_eq_true] at h
  rw [ixSeq_tok, shp_tok, Bool.and_eq_true]
  show wfTy _ ty (some (.obj kv)) none (some (.arr cs)) none .inline d mx = true ∧
    (coreTys.contains ty && attrsShape ty (some (.obj kv)) && cs.all (shp (k + 1))) = true
  have hp : perTypeOk ty (Json.obj kv) cs = true := by rw [perTypeOk_link ty hty, hu]
  rw [attrsShape_link ty hty kv hk]
  rcases hty with rfl | rfl
  · exact ⟨wfTy_container _ _ _ _ _ _ _ rfl (by decide) (by decide) hp hd h.1, h.2⟩
  · exact ⟨wfTy_container _ _ _ _ _ _ _ rfl (by decide) (by decide) hp hd h.1, h.2⟩

/-- the token of `<url>`, `<email>` and bare urls -/
theorem ix_autolink (k : Nat) (text u : Str) (d mx : Nat) (hd : d ≤ mx) :
    ixSeq (k + 2) [tok "link" [("children", .arr [textTok text]), ("attrs", .obj [("url", .str u)])]] d mx = true :=
  ix_link k _ (Or.inl rfl) [textTok text] _ d mx hd (linkAttrs_url u) (ix_text _ _ _ _ hd)

/-! ### the state invariant and the contract of the recursive entry points -/

/-- the tokens of the state are inline tokens of depth at most `n + 1`; `env` holds well-formed link definitions -/
def IOk (n d mx : Nat) (st : InlineState) : Prop :=
  ixSeq (n + 1) st.tokens.toList d mx = true ∧ EnvOk st.env

/-- the entry points return / keep token lists of depth at most `n + 1` -/
def RecOk (n d mx : Nat) (R : Rec) : Prop :=
  (∀ st, IOk n d mx st → Sat (IOk n d mx) (R.renderSt st)) ∧
  (∀ name m st, IOk n d mx st → Sat (fun r => IOk n d mx r.2) (R.call name m st))

theorem IOk.mono {n d mx : Nat} {st : InlineState} (h : IOk n d mx st) (j : Nat) : IOk (n + j) d mx st :=
  ⟨ixSeq_mono_le (by omega) _ _ _ h.1, h.2⟩

theorem IOk.append {n d mx : Nat} {st : InlineState} {t : Json} (h : IOk n d mx st)
    (ht : ixSeq (n + 1) [t] d mx = true) : IOk n d mx (st.appendToken t) := by
  refine ⟨?_, h.2⟩
  show ixSeq (n + 1) (st.tokens.push t).toList d mx = true
  rw [Array.toList_push]; exact (ixSeq_append_iff _ _ _ _ _).2 ⟨h.1, ht⟩

theorem IOk.text {n d mx : Nat} {st : InlineState} (h : IOk n d mx st) (hd : d ≤ mx) (raw : Str) :
    IOk n d mx (st.appendToken (textTok raw)) := h.append (ix_text _ _ _ _ hd)

theorem iok_empty (n d mx : Nat) (st : InlineState) (ht : st.tokens = #[]) (he : EnvOk st.env) : IOk n d mx st := by
  refine ⟨?_, he⟩
  rw [ht]; exact ixSeq_nil _ _ _

/-- `hna`: the plugin `abbr` has not registered its block rule, so `processTextC` is the plain `processText` (one `text`
token) and not `abbrProcessText`, whose tokens are not covered.  Every handler that emits text through `processTextC`
carries this hypothesis. -/
theorem processTextC_ok (cfg : MdCfg) (hna : (cfg.blockSpec.lookup "ref_abbr").isSome = false) (n d mx : Nat)
    (hd : d ≤ mx) (text : Str) (st : InlineState) (h : IOk n d mx st) :
    Sat (IOk n d mx) (processTextC cfg text st) := by
  unfold processTextC
  rw [hna]
  exact Sat.ok (h.text hd _)

/-- what a handler guarantees about its final state -/
abbrev HPost (n d mx : Nat) (res : Option Nat × InlineState) : Prop := IOk n d mx res.2

/-- a handler that ends by pairing a position with the state of a last step -/
theorem withPos_ok {n d mx : Nat} {e : Except PyErr InlineState} (h : Sat (IOk n d mx) e) (pos : Option Nat) :
    Sat (HPost n d mx) (e >>= fun st => pure (pos, st)) :=
  Sat.bind h (fun _ ha => Sat.pure ha)

theorem renderIn_ok {n d mx : Nat} (R : Rec) (hR : RecOk n d mx R) (child st : InlineState) (hc : child.tokens = #[])
    (henv : child.env = st.env) (h : IOk (n + 2) d mx st) :
    Sat (fun res => ixSeq (n + 1) res.1.toList d mx = true ∧ IOk (n + 2) d mx res.2) (R.renderIn child st) := by
  unfold Rec.renderIn
  refine Sat.bind (hR.1 child (iok_empty _ _ _ _ hc (by rw [henv]; exact h.2))) (fun c hcok => ?_)
  exact Sat.pure ⟨hcok.1, h.1, hcok.2⟩

/-- the children of a span are rendered in a child state, and one container token of a plain inline type is appended -/
theorem renderSpan_ok {n d mx : Nat} (hd : d ≤ mx) (R : Rec) (hR : RecOk n d mx R) (ty : String)
    (hty : inlTyOk ty false true = true) (child st : InlineState) (hc : child.tokens = #[]) (henv : child.env = st.env)
    (h : IOk (n + 2) d mx st) (pos : Option Nat) :
    Sat (HPost (n + 2) d mx)
      (R.renderIn child st >>= fun r => pure (pos, r.2.appendToken (tok ty [("children", .arr r.1.toList)]))) := by
  refine Sat.bind (renderIn_ok R hR child st hc henv h) ?_
  rintro ⟨children, st2⟩ ⟨h1, h2⟩
  exact Sat.pure (h2.append (ixSeq_mono _ _ _ _ (ix_span n ty hty _ d mx hd h1)))

/-! ### the handlers that do not recurse -/

theorem parseEscape_ok (cfg : MdCfg) (n d mx : Nat) (hd : d ≤ mx) (m : RxMatch) (st : InlineState) (h : IOk n d mx st) :
    Sat (HPost n d mx) (parseEscape cfg m st) := Sat.ok (h.text hd _)

theorem parseLinebreak_ok (n d mx : Nat) (hd : d ≤ mx) (m : RxMatch) (st : InlineState) (h : IOk n d mx st) :
    Sat (HPost n d mx) (parseLinebreak m st) := Sat.ok (h.append (ix_bare _ _ (by decide) _ _ hd))

theorem parseSoftbreak_ok (n d mx : Nat) (hd : d ≤ mx) (m : RxMatch) (st : InlineState) (h : IOk n d mx st) :
    Sat (HPost n d mx) (parseSoftbreak m st) := Sat.ok (h.append (ix_bare _ _ (by decide) _ _ hd))

theorem parseCodespan_ok (n d mx : Nat) (hd : d ≤ mx) (m : RxMatch) (st : InlineState) (h : IOk n d mx st) :
    Sat (HPost n d mx) (parseCodespan m st) := by
  unfold parseCodespan
  extract_lets marker pos
  split
  · exact Sat.ok (h.append (ix_raw _ _ (by decide) _ _ _ hd))
  · exact Sat.ok (h.text hd _)

theorem parseInlineHtml_ok (n d mx : Nat) (hd : d ≤ mx) (m : RxMatch) (st : InlineState) (h : IOk n d mx st) :
    Sat (HPost n d mx) (parseInlineHtml m st) := by
  unfold parseInlineHtml
  extract_lets endPos html st1 st2
  have h1 : IOk n d mx st1 := h.append (ix_raw _ _ (by decide) _ _ _ hd)
  refine Sat.ok ?_
  show IOk n d mx st2
  unfold st2
  split
  · exact h1
  · split
    · exact h1
    · exact h1

theorem envOk_set_other (env : Json) (k : String) (v : Json) (hk : k ≠ "ref_links") (h : EnvOk env) :
    EnvOk (env.set k v) := by
  intro refLinks hr
  rw [get?_set_ne _ _ "ref_links" _ (Ne.symm hk)] at hr
  exact h refLinks hr

theorem parseInlineFootnote_ok (cfg : MdCfg) (n d mx : Nat) (hd : d ≤ mx) (m : RxMatch) (st : InlineState)
    (h : IOk n d mx st) : Sat (HPost n d mx) (parseInlineFootnote cfg m st) := by
  unfold parseInlineFootnote
  extract_lets key ref
  refine Sat.ite (fun _ => ?_) (fun _ => Sat.ok (h.text hd _))
  split
  rename_i notes2 st2 heq
  have h2 : IOk n d mx st2 := by
    split at heq
    · simp only [Prod.mk.injEq] at heq
      rw [← heq.2]
      exact ⟨h.1, envOk_set_other _ _ _ (by decide) h.2⟩
    · simp only [Prod.mk.injEq] at heq
      rw [← heq.2]
      exact h
  exact Sat.ok (h2.append (ix_footnote _ _ _ _ _ hd))

theorem escapeUrl_any (cfg : MdCfg) (link : Str) : Sat (fun _ => True) (escapeUrl cfg link) := Sat.triv _

theorem addAutoLink_ok (cfg : MdCfg) (n d mx : Nat) (hd : d ≤ mx) (url text : Str) (st : InlineState)
    (h : IOk (n + 1) d mx st) : Sat (IOk (n + 1) d mx) (addAutoLink cfg url text st) := by
  unfold addAutoLink
  refine Sat.bind (Sat.triv _) (fun u _ => ?_)
  exact Sat.pure (h.append (ix_autolink n text u d mx hd))

theorem parseAutoLink_ok (cfg : MdCfg) (hna : (cfg.blockSpec.lookup "ref_abbr").isSome = false) (n d mx : Nat)
    (hd : d ≤ mx) (m : RxMatch) (st : InlineState) (h : IOk (n + 1) d mx st) :
    Sat (HPost (n + 1) d mx) (parseAutoLink cfg m st) := by
  unfold parseAutoLink
  extract_lets text pos
  refine Sat.ite (fun _ => ?_) (fun _ => ?_)
  · exact withPos_ok (processTextC_ok cfg hna _ _ _ hd _ _ h) _
  · exact withPos_ok (addAutoLink_ok cfg n d mx hd _ _ st h) _

theorem parseAutoEmail_ok (cfg : MdCfg) (hna : (cfg.blockSpec.lookup "ref_abbr").isSome = false) (n d mx : Nat)
    (hd : d ≤ mx) (m : RxMatch) (st : InlineState) (h : IOk (n + 1) d mx st) :
    Sat (HPost (n + 1) d mx) (parseAutoEmail cfg m st) := by
  unfold parseAutoEmail
  extract_lets text pos
  refine Sat.ite (fun _ => ?_) (fun _ => ?_)
  · exact withPos_ok (processTextC_ok cfg hna _ _ _ hd _ _ h) _
  · exact withPos_ok (addAutoLink_ok cfg n d mx hd _ _ st h) _

/-! ### links -/

theorem parseLinkH_spec (cfg : MdCfg) (x : RxCtx) (pos : Nat) :
    Sat (fun r => ∀ attrs p, r = some (attrs, p) → LinkAttrs attrs) (parseLinkH cfg x pos) := by
  unfold parseLinkH
  refine Sat.bind (Sat.triv _) (fun r _ => ?_)
  split
  · exact Sat.pure (fun a p h => by cases h)
  · extract_lets t nextPos
    split
    · exact Sat.pure (fun a p h => by cases h)
    · refine Sat.bind (Sat.triv _) (fun url _ => ?_)
      extract_lets attrs attrs2
      refine Sat.pure (fun a p h => ?_)
      cases h
      show LinkAttrs (match t with | some (title, _) => _ | none => _)
      clear attrs2
      clear_value nextPos
      clear_value t
      split
      · split
        · exact linkAttrs_url url
        · exact (linkAttrs_url url).set_title _
      · exact linkAttrs_url url

theorem parseLinkToken_ok {n d mx : Nat} (hd : d ≤ mx) (R : Rec) (hR : RecOk n d mx R) (isImage : Bool) (text : Str)
    (attrs : Json) (ha : LinkAttrs attrs) (st : InlineState) (h : IOk (n + 2) d mx st) :
    Sat (fun res => (∃ kv, res.1 = .obj kv) ∧ ixSeq (n + 3) [res.1] d mx = true ∧ IOk (n + 2) d mx res.2)
      (parseLinkToken R isImage text attrs st) := by
  unfold parseLinkToken
  extract_lets newState
  have hty : ∀ (ty : String) (child : InlineState), ty = "link" ∨ ty = "image" → child.tokens = #[] → child.env = st.env →
      Sat (fun res => (∃ kv, res.1 = .obj kv) ∧ ixSeq (n + 3) [res.1] d mx = true ∧ IOk (n + 2) d mx res.2)
        (R.renderIn child st >>= fun r => pure (tok ty [("children", .arr r.1.toList), ("attrs", attrs)], r.2)) := by
    intro ty child hty hc henv
    refine Sat.bind (renderIn_ok R hR child st hc henv h) ?_
    rintro ⟨children, st1⟩ ⟨h1, h2⟩
    exact Sat.pure ⟨⟨_, rfl⟩, ixSeq_mono _ _ _ _ (ix_link n ty hty _ attrs d mx hd ha h1), h2⟩
  exact Sat.ite (fun _ => hty "image" _ (Or.inr rfl) rfl rfl) (fun _ => hty "link" _ (Or.inl rfl) rfl rfl)

theorem parseLinkRef_ok {n d mx : Nat} (hd : d ≤ mx) (R : Rec) (hR : RecOk n d mx R) (isImage : Bool) (text : Str)
    (label : Option Str) (endPos : Nat) (st : InlineState) (h : IOk (n + 2) d mx st) :
    Sat (HPost (n + 2) d mx) (parseLinkRef R isImage text label endPos st) := by
  have hnone : Sat (HPost (n + 2) d mx) (.ok (none, st) : HRes) := Sat.ok h
  unfold parseLinkRef
  split
  · exact hnone
  · split
    · exact hnone
    · rename_i refLinks hrl
      refine Sat.ite (fun _ => hnone) (fun _ => ?_)
      extract_lets key
      split
      · exact hnone
      · rename_i env henv
        refine Sat.ite (fun _ => hnone) (fun _ => ?_)
        extract_lets +onlyGivenNames title jp
        have hjp : ∀ url, env.get? "url" = some url → Sat (HPost (n + 2) d mx) (jp url) := by
          intro url hurl
          obtain ⟨u, hu⟩ := h.2 refLinks hrl _ env henv url hurl
          subst hu
          refine Sat.bind (parseLinkToken_ok hd R hR isImage text _
            ⟨⟨_, rfl⟩, ⟨u, by simp [Json.get?, List.lookup]⟩, by simp [linkKeys]⟩ st h) ?_
          rintro ⟨token, st1⟩ ⟨⟨kv, hkv⟩, h1, h2⟩
          refine Sat.pure (IOk.append h2 ?_)
          dsimp only at hkv h1
          subst hkv
          obtain ⟨kv1, hkv1⟩ := set_obj kv "ref" (.str key)
          rw [hkv1, ixSeq_set_other _ _ _ _ _ _ (by decide), ← hkv1, ixSeq_set_other _ _ _ _ _ _ (by decide)]
          exact h1
        clear_value jp
        split
        · rename_i u hu
          exact hjp _ hu
        · exact Sat.err

theorem foldl_tokens {k d mx : Nat} (l : List Json) : ∀ st : InlineState, IOk k d mx st →
    ixSeq (k + 1) l d mx = true → IOk k d mx (l.foldl (fun s t => s.appendToken t) st) := by
  induction l with
  | nil => intro st h _; exact h
  | cons a l ih =>
    intro st h hl
    have : ixSeq (k + 1) ([a] ++ l) d mx = true := hl
    rw [ixSeq_append_iff] at this
    exact ih _ (h.append this.1) this.2

theorem precedenceScan_ok (cfg : MdCfg) {n d mx : Nat} (hd : d ≤ mx) (R : Rec) (hR : RecOk n d mx R) (m : RxMatch)
    (st : InlineState) (endPos : Nat) (rules : List String) (h : IOk (n + 2) d mx st) :
    Sat (HPost (n + 2) d mx) (precedenceScan cfg R m st endPos rules) := by
  unfold precedenceScan
  extract_lets markPos src0 newState
  refine Sat.bind (Sat.triv _) (fun sc _ => ?_)
  split
  · exact Sat.pure h
  · extract_lets ruleName
    refine Sat.bind (Sat.triv _) (fun sc2 _ => ?_)
    split
    · exact Sat.pure h
    · rename_i nm m2 hm2
      refine Sat.bind (hR.2 ruleName m2 newState (iok_empty _ _ _ _ rfl h.2)) ?_
      rintro ⟨m2Pos, ns⟩ hns
      dsimp only at hns ⊢
      have h1 : IOk (n + 2) d mx { st with env := ns.env } := ⟨h.1, hns.2⟩
      split
      · exact Sat.pure h1
      · refine Sat.ite (fun _ => Sat.pure h1) (fun _ => Sat.pure ?_)
        show IOk (n + 2) d mx _
        rw [← Array.foldl_toList]
        exact foldl_tokens _ _ (h1.text hd _) (hns.mono 2).1

/-! ### emphasis, links -/

theorem parseEmphasis_ok (cfg : MdCfg) {n d mx : Nat} (hd : d ≤ mx) (R : Rec) (hR : RecOk n d mx R) (m : RxMatch)
    (st : InlineState) (h : IOk (n + 2) d mx st) : Sat (HPost (n + 2) d mx) (parseEmphasis cfg R m st) := by
  unfold parseEmphasis
  extract_lets +onlyGivenNames pos marker mlen jp
  have hjp : ∀ endRe, Sat (HPost (n + 2) d mx) (jp endRe) := by
    intro endRe
    show Sat _ (match endRe.search st.x pos with | none => _ | some m1 => _)
    split
    · exact Sat.pure (h.text hd _)
    extract_lets +onlyGivenNames endPos text
    refine Sat.bind (precedenceScan_ok cfg hd R hR m st endPos _ h) ?_
    rintro ⟨precPos, st1⟩ f1
    dsimp only at f1 ⊢
    refine Sat.ite (fun _ => Sat.pure f1) (fun _ => ?_)
    refine Sat.ite (fun _ => ?_) (fun _ => ?_)
    · exact renderSpan_ok hd R hR "emphasis" inlTyOk_emphasis _ st1 (by rfl) (by rfl) f1 _
    refine Sat.ite (fun _ => ?_) (fun _ => ?_)
    · exact renderSpan_ok hd R hR "strong" inlTyOk_strong _ st1 (by rfl) (by rfl) f1 _
    · refine Sat.bind (renderIn_ok R hR _ st1 rfl rfl f1) ?_
      rintro ⟨inner, st2⟩ ⟨h1, h2⟩
      exact Sat.pure (h2.append (ix_span (n + 1) _ inlTyOk_emphasis _ d mx hd (ix_span n _ inlTyOk_strong _ d mx hd h1)))
  clear_value jp
  refine Sat.ite (fun _ => Sat.pure (h.text hd _)) (fun _ => ?_)
  refine Sat.ite (fun _ => Sat.pure (h.text hd _)) (fun _ => ?_)
  split
  · exact hjp _
  · exact Sat.err

theorem parseLink_ok (cfg : MdCfg) {n d mx : Nat} (hd : d ≤ mx) (R : Rec) (hR : RecOk n d mx R) (m : RxMatch)
    (st : InlineState) (h : IOk (n + 2) d mx st) : Sat (HPost (n + 2) d mx) (parseLink cfg R m st) := by
  unfold parseLink
  extract_lets +onlyGivenNames pos marker lab label jp0
  have hjp0 : ∀ c0, Sat (HPost (n + 2) d mx) (jp0 c0) := by
    intro c0
    show Sat _ (have isImage := c0 == '!'; _)
    extract_lets +onlyGivenNames isImage
    refine Sat.ite (fun _ => Sat.pure (h.text hd _)) (fun _ => ?_)
    refine Sat.ite (fun _ => Sat.pure (h.text hd _)) (fun _ => ?_)
    extract_lets +onlyGivenNames jp1
    have hjp1 : ∀ te : Option (Str × Nat), Sat (HPost (n + 2) d mx) (jp1 te) := by
      intro te
      show Sat _ (match te with | none => _ | some (text, endPos) => _)
      split
      · exact Sat.pure h
      rename_i text endPos
      refine Sat.ite (fun _ => Sat.pure h) (fun _ => ?_)
      refine Sat.bind (precedenceScan_ok cfg hd R hR m st endPos _ h) ?_
      rintro ⟨precPos, st1⟩ f1
      dsimp only at f1 ⊢
      refine Sat.ite (fun _ => Sat.pure f1) (fun _ => ?_)
      have hRef : ∀ (label : Option Str) (e : Nat), Sat (HPost (n + 2) d mx) (parseLinkRef R isImage text label e st1) :=
        fun label e => parseLinkRef_ok hd R hR isImage text label e st1 f1
      refine Sat.ite (fun _ => ?_) (fun _ => hRef _ _)
      refine Sat.ite (fun _ => ?_) (fun _ => ?_)
      · -- `[text](url "title")`
        refine Sat.bind (parseLinkH_spec cfg st1.x (endPos + 1)) (fun r hr => ?_)
        split
        · rename_i attrs pos2
          refine Sat.ite (fun _ => ?_) (fun _ => hRef _ _)
          refine Sat.bind (parseLinkToken_ok hd R hR isImage text attrs (hr _ _ rfl) st1 f1) ?_
          rintro ⟨token, st2⟩ ⟨_, h1, h2⟩
          exact Sat.pure (h2.append h1)
        · exact hRef _ _
      refine Sat.ite (fun _ => ?_) (fun _ => hRef _ _)
      -- `[text][label]`
      split
      · exact Sat.ite (fun _ => hRef _ _) (fun _ => hRef _ _)
      · exact hRef _ _
    clear_value jp1
    show Sat _ (match parseLinkLabel cfg st.x pos with | some (l, e) => _ | none => _)
    split
    · exact hjp1 _
    · exact Sat.bind (Sat.triv _) (fun te _ => hjp1 te)
  clear_value jp0
  show Sat _ (match group0 st m with | c :: _ => _ | [] => _)
  split
  · exact hjp0 _
  · exact Sat.err

/-! ### plugin handlers: formatting, url, math, speedup -/

theorem parseToEnd_ok {n d mx : Nat} (hd : d ≤ mx) (R : Rec) (hR : RecOk n d mx R) (ty : String) (hty : inlTyOk ty false true = true)
    (endPattern : Rx) (m : RxMatch) (st : InlineState) (h : IOk (n + 2) d mx st) :
    Sat (HPost (n + 2) d mx) (parseToEnd R ty endPattern m st) := by
  unfold parseToEnd
  extract_lets pos
  split
  · exact Sat.pure h
  · exact renderSpan_ok hd R hR ty hty _ st (by rfl) (by rfl) h _

theorem parseScript_ok {n d mx : Nat} (hd : d ≤ mx) (R : Rec) (hR : RecOk n d mx R) (ty : String) (hty : inlTyOk ty false true = true)
    (m : RxMatch) (st : InlineState) (h : IOk (n + 2) d mx st) :
    Sat (HPost (n + 2) d mx) (parseScript R ty m st) :=
  renderSpan_ok hd R hR ty hty _ st (by rfl) (by rfl) h _

theorem parseInlineSpoiler_ok (cfg : MdCfg) {n d mx : Nat} (hd : d ≤ mx) (R : Rec) (hR : RecOk n d mx R)
    (m : RxMatch) (st : InlineState) (h : IOk (n + 2) d mx st) :
    Sat (HPost (n + 2) d mx) (parseInlineSpoiler cfg R m st) :=
  renderSpan_ok hd R hR "inline_spoiler" (by decide) _ st (by rfl) (by rfl) h _

theorem parseUrlLink_ok (cfg : MdCfg) (hna : (cfg.blockSpec.lookup "ref_abbr").isSome = false) (n d mx : Nat)
    (hd : d ≤ mx) (m : RxMatch) (st : InlineState) (h : IOk (n + 1) d mx st) :
    Sat (HPost (n + 1) d mx) (parseUrlLink cfg m st) := by
  unfold parseUrlLink
  extract_lets text pos
  refine Sat.ite (fun _ => ?_) (fun _ => ?_)
  · exact withPos_ok (processTextC_ok cfg hna _ _ _ hd _ _ h) _
  · refine Sat.bind (Sat.triv _) (fun u _ => ?_)
    exact Sat.pure (h.append (ix_autolink n text u d mx hd))

theorem parseInlineMath_ok (cfg : MdCfg) (n d mx : Nat) (hd : d ≤ mx) (m : RxMatch) (st : InlineState)
    (h : IOk n d mx st) : Sat (HPost n d mx) (parseInlineMath cfg m st) :=
  Sat.ok (h.append (ix_raw _ _ (by decide) _ _ _ hd))

theorem parseText_ok (cfg : MdCfg) (hna : (cfg.blockSpec.lookup "ref_abbr").isSome = false) (n d mx : Nat)
    (hd : d ≤ mx) (m : RxMatch) (st : InlineState) (h : IOk n d mx st) :
    Sat (HPost n d mx) (parseText cfg m st) := by
  unfold parseText
  extract_lets text text2
  exact withPos_ok (processTextC_ok cfg hna _ _ _ hd _ _ h) _

/-! ### dispatch, the scanner loop, induction on the nesting budget -/

/-- the inline plugin rules whose handlers are NOT covered (`ruby`) -/
def pluginInlineNames : List String := ["ruby"]

/-- no uncovered plugin inline rule is registered (decidable).  Covered plugin rules: `strikethrough`, `mark`,
`insert`, `superscript`, `subscript`, `url_link`, `inline_math`, `text` (speedup), `inline_spoiler`. -/
def noInlinePlugins (cfg : MdCfg) : Bool := pluginInlineNames.all (fun n => !cfg.inlineRules.contains n)

theorem dead_rule (cfg : MdCfg) (hpl : noInlinePlugins cfg = true) (n : String) (hn : n ∈ pluginInlineNames)
    (hc : ¬ (!cfg.inlineRules.contains n) = true) : False := by
  unfold noInlinePlugins at hpl
  rw [List.all_eq_true] at hpl
  exact hc (hpl n hn)

theorem parseMethod_ok (cfg : MdCfg) (hna : (cfg.blockSpec.lookup "ref_abbr").isSome = false)
    (hpl : noInlinePlugins cfg = true) {n d mx : Nat}
    (hd : d ≤ mx) (R : Rec) (hR : RecOk n d mx R) (name : String) (m : RxMatch) (st : InlineState)
    (h : IOk (n + 2) d mx st) : Sat (HPost (n + 2) d mx) (parseMethod cfg R name m st) := by
  unfold parseMethod
  split
  · exact Sat.err
  · split
    · -- "escape"
      exact parseEscape_ok cfg _ _ _ hd m st h
    · -- "codespan"
      exact parseCodespan_ok _ _ _ hd m st h
    · -- "emphasis"
      exact parseEmphasis_ok cfg hd R hR m st h
    · -- "link"
      exact parseLink_ok cfg hd R hR m st h
    · -- "auto_link"
      exact parseAutoLink_ok cfg hna _ _ _ hd m st h
    · -- "auto_email"
      exact parseAutoEmail_ok cfg hna _ _ _ hd m st h
    · -- "inline_html"
      exact parseInlineHtml_ok _ _ _ hd m st h
    · -- "linebreak"
      exact parseLinebreak_ok _ _ _ hd m st h
    · -- "softbreak"
      exact parseSoftbreak_ok _ _ _ hd m st h
    · -- "footnote"
      exact parseInlineFootnote_ok cfg _ _ _ hd m st h
    · -- "strikethrough"
      exact parseToEnd_ok hd R hR _ (by decide) _ m st h
    · -- "mark"
      exact parseToEnd_ok hd R hR _ (by decide) _ m st h
    · -- "insert"
      exact parseToEnd_ok hd R hR _ (by decide) _ m st h
    · -- "superscript"
      exact parseScript_ok hd R hR _ (by decide) m st h
    · -- "subscript"
      exact parseScript_ok hd R hR _ (by decide) m st h
    · -- "url_link"
      exact parseUrlLink_ok cfg hna _ _ _ hd m st h
    · -- "inline_math"
      exact parseInlineMath_ok cfg _ _ _ hd m st h
    · -- "text" (speedup)
      exact parseText_ok cfg hna _ _ _ hd m st h
    · -- "ruby": not among the rules of `cfg`
      rename_i hc; exact (dead_rule cfg hpl _ (by decide) hc).elim
    · -- "inline_spoiler"
      exact parseInlineSpoiler_ok cfg hd R hR m st h
    · -- any other name
      exact Sat.err

theorem parseLoop_ok (cfg : MdCfg) (hna : (cfg.blockSpec.lookup "ref_abbr").isSome = false)
    (hpl : noInlinePlugins cfg = true) {n d mx : Nat}
    (hd : d ≤ mx) (R : Rec) (hR : RecOk n d mx R) (sc : List (String × Rx)) :
    ∀ (fuel pos : Nat) (st : InlineState), IOk (n + 2) d mx st →
      Sat (fun res => IOk (n + 2) d mx res.2) (parseLoop cfg R sc fuel pos st) := by
  intro fuel
  induction fuel with
  | zero => intro pos st _; unfold parseLoop; exact Sat.err
  | succ fuel ih =>
    intro pos st h
    have hflush : ∀ (text : Str) (p : Nat) (st1 : InlineState), IOk (n + 2) d mx st1 →
        Sat (fun res => IOk (n + 2) d mx res.2) (processTextC cfg text st1 >>= fun st2 => parseLoop cfg R sc fuel p st2) :=
      fun _ _ _ h1 => Sat.bind (processTextC_ok cfg hna _ _ _ hd _ _ h1) (fun st2 h2 => ih _ _ h2)
    unfold parseLoop
    refine Sat.ite (fun _ => ?_) (fun _ => Sat.ok h)
    split
    · exact Sat.ok h
    · rename_i name m hscan
      extract_lets endPos pos2 jp
      have hjp : ∀ st1, IOk (n + 2) d mx st1 → Sat (fun res => IOk (n + 2) d mx res.2) (jp st1) := by
        intro st1 h1
        show Sat _ (parseMethod cfg R name m st1 >>= _)
        refine Sat.bind (parseMethod_ok cfg hna hpl hd R hR name m st1 h1) ?_
        rintro ⟨newPos, st2⟩ h2
        dsimp only at h2 ⊢
        split
        · refine Sat.ite (fun _ => ?_) (fun _ => hflush _ _ _ h2)
          exact Sat.ite (fun _ => Sat.err) (fun _ => ih _ _ h2)
        · exact hflush _ _ _ h2
      clear_value jp
      split
      · exact Sat.bind (processTextC_ok cfg hna _ _ _ hd _ _ h) (fun st1 h1 => hjp st1 h1)
      · exact hjp _ h

theorem parse_ok (cfg : MdCfg) (hna : (cfg.blockSpec.lookup "ref_abbr").isSome = false)
    (hpl : noInlinePlugins cfg = true) {n d mx : Nat}
    (hd : d ≤ mx) (R : Rec) (hR : RecOk n d mx R) (st : InlineState) (h : IOk (n + 2) d mx st) :
    Sat (IOk (n + 2) d mx) (parse cfg R st) := by
  unfold parse
  refine Sat.bind (Sat.triv _) (fun sc _ => ?_)
  refine Sat.bind (parseLoop_ok cfg hna hpl hd R hR sc _ _ st h) ?_
  rintro ⟨pos, st1⟩ h1
  dsimp only at h1 ⊢
  refine Sat.ite (fun _ => processTextC_ok cfg hna _ _ _ hd _ _ h1) (fun _ => ?_)
  exact Sat.ite (fun _ => processTextC_ok cfg hna _ _ _ hd _ _ h1) (fun _ => Sat.pure h1)

/-- **the entry points of budget `f` return token lists of depth at most `2 f + 1`** -/
theorem recAt_ok (cfg : MdCfg) (hna : (cfg.blockSpec.lookup "ref_abbr").isSome = false)
    (hpl : noInlinePlugins cfg = true) (d mx : Nat) (hd : d ≤ mx) :
    ∀ f, RecOk (2 * f) d mx (recAt cfg f) := by
  intro f
  induction f with
  | zero => exact ⟨fun st _ => Sat.err, fun name m st _ => Sat.err⟩
  | succ f ih =>
    have e : 2 * (f + 1) = 2 * f + 2 := by omega
    rw [e]
    exact ⟨fun st h => parse_ok cfg hna hpl hd _ ih st h, fun name m st h => parseMethod_ok cfg hna hpl hd _ ih name m st h⟩

/-- **the inline parser returns inline tokens of the grammar** (for every nesting depth `d ≤ mx` of the enclosing
block), given an `env` whose link definitions have string urls -/
theorem inlineParse_ix (cfg : MdCfg) (hna : (cfg.blockSpec.lookup "ref_abbr").isSome = false)
    (hpl : noInlinePlugins cfg = true) (env : Json)
    (henv : EnvOk env) (src : Str) (out : List Json) (d mx : Nat) (hd : d ≤ mx)
    (h : Model.inlineParse cfg env src = .ok out) : ixSeq (2 * inlineFuel + 2 + 1) out d mx = true := by
  have hst : IOk (2 * inlineFuel + 2) d mx ((InlineState.new env).setSrc src) := iok_empty _ _ _ _ rfl henv
  have hp := parse_ok cfg hna hpl hd _ (recAt_ok cfg hna hpl d mx hd inlineFuel) _ hst
  have hall : Sat (fun out => ixSeq (2 * inlineFuel + 2 + 1) out d mx = true) (Model.inlineParse cfg env src) := by
    unfold Model.inlineParse Inl.inlineParse inlineParseEnv
    refine Sat.bind (Q := fun r => ixSeq (2 * inlineFuel + 2 + 1) r.1 d mx = true) ?_ (fun r hr => Sat.pure hr)
    refine Sat.ite (fun _ => Sat.throw) (fun _ => ?_)
    exact Sat.bind hp (fun st hs => Sat.pure hs.1)
  exact hall out h

theorem inlineParse_wf (cfg : MdCfg) (hna : (cfg.blockSpec.lookup "ref_abbr").isSome = false)
    (hpl : noInlinePlugins cfg = true) (env : Json)
    (henv : EnvOk env) (src : Str) (out : List Json) (d mx : Nat) (hd : d ≤ mx)
    (h : Model.inlineParse cfg env src = .ok out) : wfSeq (2 * inlineFuel + 2 + 1) out .inline d mx = true := by
  have := inlineParse_ix cfg hna hpl env henv src out d mx hd h
  simp only [ixSeq, Bool.and_eq_true] at this
  exact this.1

/-- the inline parser returns tokens of core types with `attrs` of the shape `attrsShape` -/
theorem inlineParse_shp (cfg : MdCfg) (hna : (cfg.blockSpec.lookup "ref_abbr").isSome = false)
    (hpl : noInlinePlugins cfg = true) (env : Json)
    (henv : EnvOk env) (src : Str) (out : List Json)
    (h : Model.inlineParse cfg env src = .ok out) : shpAll (2 * inlineFuel + 2 + 1) out = true := by
  have := inlineParse_ix cfg hna hpl env henv src out 0 0 (Nat.le_refl _) h
  simp only [ixSeq, Bool.and_eq_true] at this
  exact this.2

end G
end Inl
end Model
end Mistune

#print axioms Mistune.Model.Inl.G.inlineParse_wf
