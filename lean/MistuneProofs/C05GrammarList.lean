/-
C05 for the concrete model, block pass, second part: lists (`list_parser.py`), the induction on the nesting budget
(`parseMethod_grammar`) and `blockParse_pre`: every token list returned by the block pass is in the block-pass
grammar `preSeq`, nesting clause included.
-/
import MistuneProofs.C05GrammarBlock
namespace Mistune
namespace Model
namespace Blk
namespace G

/-! ### list and list-item tokens -/

def itemCtx : TokCtx := .only ["list_item", "task_list_item"]

/-- a `list` token of the grammar: its children are item tokens one level down, and may be replaced by other such
tokens -/
theorem preSeq_list {n : Nat} {t : Json} {s : Str} {ctx : TokCtx} {d mx : Nat} (ht : t.get? "type" = some (.str s))
    (hs : String.ofList s = "list") (h : preSeq (n + 1) [t] ctx d mx = true) :
    d < mx ∧ ∃ cs, t.get? "children" = some (.arr cs) ∧ preSeq n cs itemCtx (d + 1) mx = true ∧
      ∀ cs', preSeq n cs' itemCtx (d + 1) mx = true → preSeq (n + 1) [t.set "children" (.arr cs')] ctx d mx = true := by
  rw [preSeq_single_eq _ _ _ ht, hs, preTy_iff] at h
  obtain ⟨hd, ha, hc⟩ := h
  obtain ⟨hd1, cs, hcs, hr, hset⟩ := hc.list_inv
  refine ⟨hd1, cs, hcs, hr, fun cs' h' => ?_⟩
  rw [preSeq_set_children _ _ _ ht, hs, preTy_iff]
  exact ⟨hd, ha, hset cs' h'⟩

/-- a child of a list: its children are block tokens of the same depth, and may be replaced by other such tokens -/
theorem preSeq_item {n : Nat} {t : Json} {d mx : Nat} (h : preSeq (n + 1) [t] itemCtx d mx = true) :
    ∃ cs, t.get? "children" = some (.arr cs) ∧ preSeq n cs .block d mx = true ∧
      ∀ cs', preSeq n cs' .block d mx = true → preSeq (n + 1) [t.set "children" (.arr cs')] itemCtx d mx = true := by
  obtain ⟨tyS, hty, hpre⟩ := (preSeq_single_iff _ _ _ _ _).1 h
  rw [preTy_iff] at hpre
  obtain ⟨hd, ha, hc⟩ := hpre
  obtain ⟨_, cs, hcs, hr, hset⟩ := hc.item_inv
  refine ⟨cs, hcs, hr, fun cs' h' => ?_⟩
  rw [preSeq_set_children _ _ _ hty, preTy_iff]
  exact ⟨hd, ha, hset cs' h'⟩

theorem childrenOf_eq (t : Json) : Sat (fun l => t.get? "children" = some (.arr l)) (childrenOf t) := by
  unfold childrenOf getE
  intro l hl
  cases hg : t.get? "children" with
  | none => rw [hg] at hl; cases hl
  | some v =>
    rw [hg] at hl
    cases v with
    | arr l' =>
      have : (Except.ok l' : Except PyErr (List Json)) = .ok l := hl
      injection this with e; rw [e]
    | _ => cases hl

theorem typeOf_sat (t : Json) : Sat (fun ty => typeOf t = .ok ty) (typeOf t) := fun _ h => h

/-- a map over a token list that keeps each token in the grammar keeps the list in the grammar -/
theorem preSeq_mapM {n : Nat} {ctx : TokCtx} {d mx : Nat} (f : Json → Except PyErr Json)
    (hf : ∀ t, preSeq (n + 1) [t] ctx d mx = true → Sat (fun r => preSeq (n + 1) [r] ctx d mx = true) (f t))
    (l : List Json) (hl : preSeq (n + 1) l ctx d mx = true) :
    Sat (fun out => preSeq (n + 1) out ctx d mx = true) (l.mapM f) :=
  fun out hout => (preSeq_iff _ _ _ _ _).2
    (mapM_ok_forall f _ _ (fun a b ha hb => hf a ha b hb) l out hout ((preSeq_iff _ _ _ _ _).1 hl))

/-- a token list checked by the grammar was checked with positive fuel -/
theorem preSeq_pos {n : Nat} {l : List Json} {ctx : TokCtx} {d mx : Nat} (h : preSeq n l ctx d mx = true) :
    ∃ m, n = m + 1 := by
  cases n with
  | zero => simp [preSeq] at h
  | succ m => exact ⟨m, rfl⟩

/-- `t["children"] = [f(c) for c in t["children"]]` keeps `t` in the grammar when `f` keeps each child in the grammar of
the children (`hinv` is what `preSeq_list` and `preSeq_item` say of `t`) -/
theorem mapChildren_ok {n : Nat} {t : Json} {ctx cctx : TokCtx} {d d' mx : Nat} (f : Json → Except PyErr Json)
    (hinv : ∃ cs, t.get? "children" = some (.arr cs) ∧ preSeq (n + 1) cs cctx d' mx = true ∧
      ∀ cs', preSeq (n + 1) cs' cctx d' mx = true → preSeq (n + 1 + 1) [t.set "children" (.arr cs')] ctx d mx = true)
    (hf : ∀ c, preSeq (n + 1) [c] cctx d' mx = true → Sat (fun r => preSeq (n + 1) [r] cctx d' mx = true) (f c)) :
    Sat (fun r => preSeq (n + 1 + 1) [r] ctx d mx = true)
      (do
        let cs ← childrenOf t
        let cs' ← cs.mapM f
        pure (t.set "children" (.arr cs'))) := by
  refine Sat.bind (childrenOf_eq t) (fun cs hcs1 => ?_)
  obtain ⟨cs0, hc0, hcs, hset⟩ := hinv
  rw [hcs1] at hc0
  cases hc0
  exact Sat.bind (preSeq_mapM f hf cs hcs) (fun cs' h' => Sat.pure (hset cs' h'))

theorem preSeq_retype (n : Nat) (t : Json) (ctx : TokCtx) (d mx : Nat) (hty : typeOf t = .ok "paragraph")
    (h : preSeq (n + 1) [t] ctx d mx = true) : preSeq (n + 1) [t.set "type" (Json.s "block_text")] ctx d mx = true := by
  obtain ⟨s, x, hs1, _, rfl, hd, ha, hr, hc, hx⟩ := preSeq_para hty h
  have ht : (t.set "type" (Json.s "block_text")).get? "type" = some (.str "block_text".toList) := get?_set_of_get? hs1 _ _
  rw [preSeq_single_eq _ _ _ ht, String.ofList_toList, preTy_iff]
  simp only [get?_set_ne, ne_eq, String.reduceEq, not_false_eq_true, hr, hc, hx]
  exact ⟨hd, by rw [attrsOkT_congr "paragraph" "block_text" _ (by decide) (by decide)]; exact ha, .text x (Or.inr rfl)⟩

/-- `_transform_tight_list` keeps a list token inside the grammar (any fuel, context and depth) -/
theorem transformTight_ok : ∀ (fuel : Nat) (token : Json) (n : Nat) (ctx : TokCtx) (d mx : Nat) (s : Str),
    token.get? "type" = some (.str s) → String.ofList s = "list" → preSeq (n + 1) [token] ctx d mx = true →
    Sat (fun r => preSeq (n + 1) [r] ctx d mx = true) (transformTightList fuel token) := by
  intro fuel
  induction fuel with
  | zero => intro token n ctx d mx s _ _ _; unfold transformTightList; exact Sat.err
  | succ fuel ih =>
    intro token n ctx d mx s ht hs h
    unfold transformTightList
    refine Sat.bind (Sat.triv _) (fun tight _ => ?_)
    refine Sat.ite (fun _ => ?_) (fun _ => Sat.pure h)
    -- the items are checked with fuel `n`, the blocks inside them with `n - 1`: both are positive
    obtain ⟨_, items, hitems, b1, hlist⟩ := preSeq_list ht hs h
    obtain ⟨n1, rfl⟩ := preSeq_pos b1
    refine mapChildren_ok _ ⟨items, hitems, b1, hlist⟩ (fun it hit => ?_)
    obtain ⟨cs, hcs, c1, hitem⟩ := preSeq_item hit
    obtain ⟨n2, rfl⟩ := preSeq_pos c1
    refine mapChildren_ok _ ⟨cs, hcs, c1, hitem⟩ (fun t htok => ?_)
    refine Sat.bind (typeOf_sat t) (fun ty hty => ?_)
    refine Sat.ite (fun e => ?_) (fun _ => Sat.ite (fun e => ?_) (fun _ => Sat.pure htok))
    · have : ty = "paragraph" := by simpa using e
      subst this
      exact Sat.pure (preSeq_retype _ _ _ _ _ hty htok)
    · have : ty = "list" := by simpa using e
      subst this
      obtain ⟨st, hst1, hst2⟩ := typeOf_eq t "list" (by decide) hty
      exact ih t n2 .block (d + 1) mx st hst1 hst2 htok

/-! ### the list token under construction -/

/-- the list token while its items are collected: in the grammar, and of type `list` -/
def LTok (mx d : Nat) (token : Json) : Prop :=
  TokOk mx d token ∧ ∃ s, token.get? "type" = some (.str s) ∧ String.ofList s = "list"

theorem TokOk.set_other {mx d : Nat} {t : Json} (h : TokOk mx d t) (k : String) (v : Json)
    (hk : k ≠ "type" ∧ k ≠ "attrs" ∧ k ≠ "raw" ∧ k ≠ "children" ∧ k ≠ "text") : TokOk mx d (t.set k v) := by
  unfold TokOk gF at *
  rw [preSeq_set_other _ _ _ _ _ _ _ hk]; exact h

theorem TokOk.erase_other {mx d : Nat} {t : Json} (h : TokOk mx d t) (k : String)
    (hk : k ≠ "type" ∧ k ≠ "attrs" ∧ k ≠ "raw" ∧ k ≠ "children" ∧ k ≠ "text") : TokOk mx d (t.erase k) := by
  unfold TokOk gF at *
  rw [preSeq_erase_other _ _ _ _ _ _ hk]; exact h

theorem LTok.set_other {mx d : Nat} {t : Json} (h : LTok mx d t) (k : String) (v : Json)
    (hk : k ≠ "type" ∧ k ≠ "attrs" ∧ k ≠ "raw" ∧ k ≠ "children" ∧ k ≠ "text") : LTok mx d (t.set k v) := by
  obtain ⟨h1, s, h2, h3⟩ := h
  exact ⟨h1.set_other k v hk, s, by rw [get?_set_ne _ _ "type" _ (Ne.symm hk.1)]; exact h2, h3⟩

theorem LTok.erase_other {mx d : Nat} {t : Json} (h : LTok mx d t) (k : String)
    (hk : k ≠ "type" ∧ k ≠ "attrs" ∧ k ≠ "raw" ∧ k ≠ "children" ∧ k ≠ "text") : LTok mx d (t.erase k) := by
  obtain ⟨h1, s, h2, h3⟩ := h
  exact ⟨h1.erase_other k hk, s, by rw [get?_erase_ne _ _ "type" (Ne.symm hk.1)]; exact h2, h3⟩

theorem LTok.lt {mx d : Nat} {t : Json} (h : LTok mx d t) : d < mx := by
  obtain ⟨h1, s, h2, h3⟩ := h
  exact (preSeq_list h2 h3 h1).1

theorem LTok.add_item {mx d : Nat} {token : Json} (h : LTok mx d token) (children : List Json)
    (hch : token.get? "children" = some (.arr children)) (cs : List Json) (hcs : ∀ t ∈ cs, TokOk mx (d + 1) t) :
    LTok mx d (token.set "children" (.arr (children ++ [tok "list_item" [("children", .arr cs)]]))) := by
  have hd := h.lt
  obtain ⟨h1, s, h2, h3⟩ := h
  refine ⟨?_, s, by rw [get?_set_ne _ _ "type" _ (by decide)]; exact h2, h3⟩
  unfold TokOk at h1 ⊢
  rw [gF_succ mx d hd] at h1 ⊢
  obtain ⟨_, cs0, hc0, b1, hlist⟩ := preSeq_list h2 h3 h1
  rw [hch] at hc0
  cases hc0
  refine hlist _ ?_
  rw [preSeq_append, b1, Bool.true_and, preSeq_tok, preTy_iff]
  exact ⟨hd, rfl, .item cs rfl (by decide) ((preSeq_iff _ _ _ _ _).2 hcs)⟩

/-- `_transform_tight_list` on the list token -/
theorem LTok.tight {mx d : Nat} {t : Json} (h : LTok mx d t) (fuel : Nat) :
    Sat (TokOk mx d) (transformTightList fuel t) := by
  obtain ⟨h1, s, h2, h3⟩ := h
  exact transformTight_ok fuel t _ _ _ _ s h2 h3 h1

/-- the attributes of a list token -/
def listAttrsB (a : Json) : Bool :=
  (match a with | .obj _ => true | _ => false) &&
  (match a.get? "ordered" with | some (.bool _) => true | _ => false) && isIntJ (a.get? "depth") &&
  (match a.get? "start" with | none => true | some (.num _) => true | _ => false) &&
  attrsShape "list" (some a)

theorem lTok_init (mx d : Nat) (hd : d < mx) (attrs : Json) (ha : listAttrsB attrs = true) (b : Json) :
    LTok mx d (tok "list" [("children", .arr []), ("tight", .bool true), ("bullet", b), ("attrs", attrs)]) := by
  refine ⟨?_, "list".toList, rfl, by decide⟩
  unfold listAttrsB at ha
  simp only [Bool.and_eq_true] at ha
  obtain ⟨⟨⟨⟨a1, a2⟩, a3⟩, a4⟩, a5⟩ := ha
  have a1' : attrsOkT "list" (some attrs) = true := by
    unfold attrsOkT attrsOkB
    rw [a5, Bool.and_true]
    split at a1
    · rfl
    · cases a1
  exact (tokOk_lit _ _ _ _).2 ⟨by omega, a1',
    .list [] rfl hd a2 a3 a4 (preSeq_mono_le (by omega) _ _ _ _ (preSeq_nil 0 _ _ _))⟩

/-! ### `_parse_list_item`, `parse_list` -/

/-- state and list token after a step of the item machinery -/
def ItemPost (mx : Nat) (st : BlockState) (token : Json) (st' : BlockState) : Prop :=
  Keeps mx st st' ∧ LTok mx st.depth token

theorem ItemPost.trans {mx : Nat} {st st1 st' : BlockState} {token : Json} (hk : Keeps mx st st1)
    (h : ItemPost mx st1 token st') : ItemPost mx st token st' :=
  ⟨Keeps.trans hk h.1, by rw [← hk.2.1]; exact h.2⟩

theorem listItemLoop_ok (cfg : MdCfg) (pm : ParseMethod) (hpm : PMGrammar cfg pm)
    (sc : List (String × Rx)) (hatx : AtxSc cfg sc) (text continueSpace : Str) :
    ∀ (fuel pos : Nat) (src : Str) (pbl : Bool) (token : Json) (st : BlockState), TokensOk cfg.maxNested st →
      LTok cfg.maxNested st.depth token →
      Sat (fun res => ItemPost cfg.maxNested st res.2.2.1 res.2.2.2)
        (listItemLoop cfg pm sc text continueSpace fuel pos src pbl token st) := by
  intro fuel
  induction fuel with
  | zero =>
    intro pos src pbl token st h htok
    unfold listItemLoop
    exact Sat.ite (fun _ => Sat.err) (fun _ => Sat.ok ⟨Keeps.refl h, htok⟩)
  | succ fuel ih =>
    intro pos src pbl token st h htok
    unfold listItemLoop
    refine Sat.ite (fun _ => ?_) (fun _ => Sat.ok ⟨Keeps.refl h, htok⟩)
    refine Sat.bind (Sat.triv _) (fun pos' _ => ?_)
    have hrec : ∀ (src' : Str) (pbl' : Bool) (st1 : BlockState), Keeps cfg.maxNested st st1 →
        Sat (fun res => ItemPost cfg.maxNested st res.2.2.1 res.2.2.2)
          (listItemLoop cfg pm sc text continueSpace fuel pos' src' pbl' token { st1 with cursor := pos' }) := by
      intro src' pbl' st1 hk
      have hk' : Keeps cfg.maxNested st { st1 with cursor := pos' } := Keeps.cursor _ hk
      exact (ih pos' src' pbl' token _ hk'.1 (by rw [hk'.2.1]; exact htok)).mono (fun _ q => ItemPost.trans hk' q)
    extract_lets line line2 jp token2 tokIndex
    have htok2 : LTok cfg.maxNested st.depth token2 := by
      show LTok _ _ (if pbl = true then token.set "tight" (Json.bool false) else token)
      split
      · exact htok.set_other _ _ (by decide)
      · exact htok
    clear_value token2
    -- after the rule look-up: a stop returns the token handed over; without one the loop goes on
    have hstop : ∀ (ng : Option ItemGroups) (tk : Json) (st1 : BlockState), Keeps cfg.maxNested st st1 →
        LTok cfg.maxNested st.depth tk →
        Sat (fun res => ItemPost cfg.maxNested st res.2.2.1 res.2.2.2) (jp (some (ng, tk), st1)) :=
      fun ng tk st1 hk htk => Sat.pure ⟨hk, htk⟩
    have hgo : ∀ st1 : BlockState, Keeps cfg.maxNested st st1 →
        Sat (fun res => ItemPost cfg.maxNested st res.2.2.1 res.2.2.2) (jp (none, st1)) :=
      fun st1 hk => Sat.ite (fun _ => Sat.pure ⟨hk, htok⟩) (fun _ => hrec _ _ st1 hk)
    clear_value jp
    -- a blank line
    refine Sat.ite (fun _ => hrec _ _ st (Keeps.refl h)) (fun _ => ?_)
    -- a continuation line
    refine Sat.ite (fun _ => Sat.ite (fun _ => Sat.pure ⟨Keeps.refl h, htok⟩) (fun _ => hrec _ _ st (Keeps.refl h)))
      (fun _ => ?_)
    -- a rule of the item's table matches here, or none does
    split
    · rename_i tokType m hm
      obtain ⟨_, _, _, r, hmem, hspec⟩ := scMatch_sound _ _ _ _ _ hm
      refine Sat.ite (fun _ => ?_) (fun _ => Sat.ite (fun _ => ?_) (fun hnc => ?_))
      · exact hstop _ _ _ (Keeps.cursor _ (Keeps.refl h)) htok2
      · exact hstop _ _ _ (Keeps.refl h) htok
      · refine Sat.bind (hpm _ _ _ h (fun hc => ?_) (fun ha => ?_)) ?_
        · exfalso; apply hnc
          rcases hc with hc | hc <;> simp [hc]
        · subst ha; unfold grp; exact hatx _ _ _ hmem hspec
        rintro ⟨endPos, st1⟩ hp
        exact Sat.ite (fun _ => hstop _ _ _ hp ((htok.set_other _ _ (by decide)).set_other _ _ (by decide)))
          (fun _ => hgo _ hp)
    · exact hgo _ (Keeps.refl h)

theorem parseListItem_ok (cfg : MdCfg) (pm : ParseMethod) (hpm : PMGrammar cfg pm)
    (hatx : AtxSc cfg cfg.blockSpec) (bullet : Char) (hb : ∀ lw, AtxSc cfg (listItemSc cfg bullet lw))
    (groups : ItemGroups) (token : Json) (st : BlockState) (rules : List String)
    (h : TokensOk cfg.maxNested st) (htok : LTok cfg.maxNested st.depth token)
    (hr : RulesOk cfg.maxNested (st.depth + 1) rules) :
    Sat (fun res => ItemPost cfg.maxNested st res.2.1 res.2.2) (parseListItem cfg pm bullet groups token st rules) := by
  unfold parseListItem
  obtain ⟨spaces, marker, text⟩ := groups
  dsimp only
  refine Sat.bind (listItemLoop_ok cfg pm hpm _ (hb _) _ _ (st.cursorMax + 1) st.cursor [] false token st h htok) ?_
  rintro ⟨src, ng, tk, st1⟩ ⟨q1, q2⟩
  dsimp only at q1 q2 ⊢
  have hd1 : st1.depth < cfg.maxNested := by rw [q1.2.1]; exact htok.lt
  refine Sat.bind (parse_ok cfg pm hpm hatx _ (some rules) (tokensOk_child st1 _ hd1 q1.1.2.2)
    (by show RulesOk _ (st1.depth + 1) rules; rw [q1.2.1]; exact hr)) (fun child hc => ?_)
  have hdc : child.depth = st1.depth + 1 := hc.2.1
  have hcs : ∀ t ∈ child.tokens, TokOk cfg.maxNested (st.depth + 1) t := by
    intro t ht
    have := hc.1.2.1 t ht
    rw [hdc, q1.2.1] at this
    exact this
  refine Sat.bind (Sat.triv _) (fun a _ => ?_)
  refine Sat.bind (Sat.triv _) (fun b _ => ?_)
  refine Sat.ite (fun _ => ?_) (fun _ => ?_)
  · simp only [pure_bind]
    refine Sat.bind (childrenOf_eq _) (fun cs hcs' => ?_)
    exact Sat.pure ⟨Keeps.env _ q1 hc.1.2.2, (q2.set_other _ _ (by decide)).add_item cs hcs' _ hcs⟩
  · simp only [pure_bind]
    refine Sat.bind (childrenOf_eq _) (fun cs hcs' => ?_)
    exact Sat.pure ⟨Keeps.env _ q1 hc.1.2.2, q2.add_item cs hcs' _ hcs⟩

theorem listItemsLoop_ok (cfg : MdCfg) (pm : ParseMethod) (hpm : PMGrammar cfg pm)
    (hatx : AtxSc cfg cfg.blockSpec) (bullet : Char) (hb : ∀ lw, AtxSc cfg (listItemSc cfg bullet lw))
    (rules : List String) (d : Nat) (hr : RulesOk cfg.maxNested (d + 1) rules) :
    ∀ (fuel : Nat) (groups : Option ItemGroups) (token : Json) (st : BlockState), TokensOk cfg.maxNested st →
      st.depth = d → LTok cfg.maxNested st.depth token →
      Sat (fun res => ItemPost cfg.maxNested st res.1 res.2) (listItemsLoop cfg pm bullet rules fuel groups token st) := by
  intro fuel
  induction fuel with
  | zero =>
    intro groups token st h hd htok
    cases groups with
    | none => unfold listItemsLoop; exact Sat.ok ⟨Keeps.refl h, htok⟩
    | some g => unfold listItemsLoop; exact Sat.err
  | succ fuel ih =>
    intro groups token st h hd htok
    cases groups with
    | none => unfold listItemsLoop; exact Sat.ok ⟨Keeps.refl h, htok⟩
    | some g =>
      unfold listItemsLoop
      refine Sat.bind (parseListItem_ok cfg pm hpm hatx bullet hb g token st rules h htok (by rw [hd]; exact hr)) ?_
      rintro ⟨ng, tk, st1⟩ ⟨q1, q2⟩
      dsimp only at q1 q2 ⊢
      exact (ih ng tk st1 q1.1 (q1.2.1.trans hd) (by rw [q1.2.1]; exact q2)).mono (fun _ r => ItemPost.trans q1 r)

/-- the attributes `parse_list` starts from -/
theorem listAttrsB_init (depth : Nat) (ordered : Bool) :
    listAttrsB (Json.obj [("depth", .num depth), ("ordered", .bool ordered)]) = true := by
  simp [listAttrsB, Json.get?, List.lookup, isIntJ, attrsShape, plainJ]

/-- ... with the `start` of an ordered list that does not begin at 1 -/
theorem listAttrsB_start (depth : Nat) (ordered : Bool) (start : Int) :
    listAttrsB ((Json.obj [("depth", .num depth), ("ordered", .bool ordered)]).set "start" (.num start)) = true := by
  simp [listAttrsB, Json.get?, Json.set, List.lookup, isIntJ, attrsShape, plainJ]

theorem parseList_ok (cfg : MdCfg) (pm : ParseMethod) (hpm : PMGrammar cfg pm)
    (hatx : AtxSc cfg cfg.blockSpec) (hb : ∀ bullet lw, AtxSc cfg (listItemSc cfg bullet lw))
    (mt : RxMatch) (st : BlockState) (h : TokensOk cfg.maxNested st) (hd : st.depth < cfg.maxNested) :
    Sat (GPost cfg.maxNested st) (parseList cfg pm mt st) := by
  unfold parseList
  extract_lets text jp
  have hjp : ∀ res : Option Nat × BlockState, Keeps cfg.maxNested st res.2 → Sat (GPost cfg.maxNested st) (jp res) := by
    rintro ⟨early, st1⟩ hk
    dsimp only at hk
    refine Sat.ite (fun _ => Sat.pure hk) (fun _ => ?_)
    extract_lets marker ordered depth attrs rules jpLast
    have hLast : ∀ last, Sat (GPost cfg.maxNested st) (jpLast last) := by
      intro last
      unfold jpLast
      extract_lets +onlyGivenNames bullet jp2
      -- from the list token to the end: the item loop, `_transform_tight_list`, insertion at `_tok_index` or append
      have hjp2 : ∀ res : Option Nat × Json × BlockState, Keeps cfg.maxNested st res.2.2 →
          listAttrsB res.2.1 = true → Sat (GPost cfg.maxNested st) (jp2 res) := by
        rintro ⟨early2, attrs2, st2⟩ hk2 hattrs
        dsimp only at hk2 hattrs
        refine Sat.ite (fun _ => Sat.pure hk2) (fun _ => ?_)
        extract_lets +onlyGivenNames token st3 groups
        have hk3 : Keeps cfg.maxNested st st3 := Keeps.cursor _ hk2
        have hd3 : st3.depth < cfg.maxNested := by rw [hk3.2.1]; exact hd
        have htok0 : LTok cfg.maxNested st3.depth token := lTok_init _ _ hd3 _ hattrs _
        have hrules : RulesOk cfg.maxNested (st3.depth + 1) rules := by
          have e : st3.depth = depth := hk2.2.1.trans hk.2.1.symm
          rw [e]
          exact rulesOk_limit _ _ _
        refine Sat.bind (listItemsLoop_ok cfg pm hpm hatx bullet (hb bullet) rules st3.depth hrules (st3.cursorMax + 2)
          (some groups) token st3 hk3.1 rfl htok0) ?_
        rintro ⟨tk, st4⟩ ⟨r1, r2⟩
        dsimp only at r1 r2
        -- `-zeta`: the `let`s stay, for `extract_lets`
        dsimp -zeta only
        extract_lets +onlyGivenNames endPos tk2
        clear_value endPos
        have hk4 : Keeps cfg.maxNested st st4 := Keeps.trans hk3 r1
        refine Sat.bind (LTok.tight (r2.erase_other _ (by decide)) _) (fun tk3 htk3 => ?_)
        have htk3' : TokOk cfg.maxNested st4.depth tk3 := by
          rw [r1.2.1]; exact htk3
        refine Sat.ite (fun _ => ?_) (fun _ => Sat.pure (Keeps.append hk4 (by rw [← hk4.2.1]; exact htk3')))
        refine Sat.bind (Sat.triv _) (fun idx _ => ?_)
        extract_lets +onlyGivenNames tk4 jp4
        have hjp4 : ∀ i, Sat (GPost cfg.maxNested st) (jp4 i) := fun i =>
          Sat.pure ⟨tokensOk_insert _ hk4.1 (htk3'.erase_other _ (by decide)), hk4.2.1, hk4.2.2⟩
        clear_value jp4
        split
        · exact hjp4 _
        · exact Sat.throw
      clear_value jp2
      have hattrs0 : listAttrsB attrs = true := listAttrsB_init _ _
      refine Sat.ite (fun _ => ?_) (fun _ => hjp2 _ hk hattrs0)
      -- an ordered list: `start`
      extract_lets +onlyGivenNames jp3
      have hjp3 : ∀ start, Sat (GPost cfg.maxNested st) (jp3 start) := by
        intro start
        refine Sat.ite (fun _ => ?_) (fun _ => hjp2 _ hk hattrs0)
        refine Sat.bind (appendParagraph_ok _ cfg st1 hk.1) ?_
        rintro ⟨e, st2⟩ g1
        exact Sat.ite (fun _ => hjp2 _ (Keeps.trans hk g1) hattrs0)
          (fun _ => hjp2 _ (Keeps.trans hk g1) (listAttrsB_start _ _ _))
      clear_value jp3
      split
      · exact hjp3 _
      · exact Sat.throw
    clear_value jpLast
    split
    · exact hLast _
    · exact Sat.throw
  clear_value jp
  exact Sat.ite (fun _ => Sat.bind (appendParagraph_ok _ cfg st h) hjp) (fun _ => hjp _ (Keeps.refl h))

/-- `math.parse_block_math` -/
theorem parseBlockMath_ok (cfg : MdCfg) (mx : Nat) (mt : RxMatch) (st : BlockState) (h : TokensOk mx st) :
    Sat (GPost mx st) (parseBlockMath cfg mt st) := by
  unfold parseBlockMath
  refine Sat.ok (Keeps.append (Keeps.refl h) ?_)
  exact (tokOk_lit _ _ _ _).2 ⟨h.1, rfl, .raw _ (Or.inr (Or.inr rfl))⟩

/-- `speedup.parse_paragraph` -/
theorem parseParagraph_ok (mx : Nat) (mt : RxMatch) (st : BlockState) (h : TokensOk mx st) :
    Sat (GPost mx st) (parseParagraph mt st) := by
  unfold parseParagraph
  exact Sat.bind (addParagraph_ok _ _ _ h) (fun a ha => Sat.pure ha)

/-! ### induction on the nesting budget -/

/-- the ATX rules of the configuration (block specification, list-item break rules) capture one to six `#` -/
def CfgAtx (cfg : MdCfg) : Prop :=
  AtxSc cfg cfg.blockSpec ∧ ∀ bullet lw, AtxSc cfg (listItemSc cfg bullet lw)

/-- no uncovered block plugin rule is registered (decidable); covered: `paragraph` (speedup), `block_math` (math), the `spoiler` rebinding of
`block_quote` -/
def noBlockPlugins (cfg : MdCfg) : Bool :=
  !registered cfg "table" && !registered cfg "nptable" && !registered cfg "ref_footnote" &&
    !registered cfg "def_list" && !registered cfg "ref_abbr" && !fencedCodeRebound cfg &&
    !registered cfg "rst_directive" && !registered cfg "fenced_directive"

/-- **every instance of `parse_method` satisfies the grammar contract** -/
theorem parseMethod_grammar (cfg : MdCfg) (hatx : CfgAtx cfg) (hnp : noBlockPlugins cfg = true) :
    ∀ fuel, PMGrammar cfg (parseMethod cfg fuel) := by
  intro fuel
  simp only [noBlockPlugins, Bool.and_eq_true, Bool.not_eq_true'] at hnp
  obtain ⟨⟨⟨⟨⟨⟨⟨hTable, hNptable⟩, hRefFootnote⟩, hDefList⟩, hRefAbbr⟩, hFenceRebound⟩, hRst⟩, hFencedDir⟩ := hnp
  induction fuel with
  | zero =>
    intro name mt st _ _ _
    exact Sat.err
  | succ fuel ih =>
    intro name mt st h hc ha
    unfold parseMethod
    dsimp only
    split
    · -- "blank_line"
      exact parseBlankLine_ok _ mt st h
    · -- "atx_heading"
      exact parseAtxHeading_ok cfg _ mt st h (ha rfl)
    · -- "setex_heading"
      exact parseSetexHeading_ok cfg _ ih mt st h
    · -- "fenced_code"
      rw [hFenceRebound]; exact parseFencedCode_ok cfg _ mt st h
    · -- "indent_code"
      exact parseIndentCode_ok cfg _ mt st h
    · -- "thematic_break"
      exact parseThematicBreak_ok _ mt st h
    · -- "ref_link"
      exact parseRefLink_ok cfg _ mt st h
    · -- "block_quote", rebound by the plugin `spoiler` or not
      exact Sat.ite (fun _ => parseBlockSpoiler_ok cfg _ ih hatx.1 mt st h (hc (Or.inl rfl)))
        (fun _ => parseBlockQuote_ok cfg _ ih hatx.1 mt st h (hc (Or.inl rfl)))
    · -- "list"
      exact parseList_ok cfg _ ih hatx.1 hatx.2 mt st h (hc (Or.inr rfl))
    · -- "block_html"
      exact parseRawHtml_ok cfg _ mt st h
    · -- "raw_html"
      exact parseRawHtml_ok cfg _ mt st h
    · -- "table"
      rw [hTable]; exact Sat.err
    · -- "nptable"
      rw [hNptable]; exact Sat.err
    · -- "ref_footnote"
      rw [hRefFootnote]; exact Sat.err
    · -- "def_list"
      rw [hDefList]; exact Sat.err
    · -- "ref_abbr"
      rw [hRefAbbr]; exact Sat.err
    · -- "block_math"
      exact Sat.ite (fun _ => parseBlockMath_ok cfg _ mt st h) (fun _ => Sat.err)
    · -- "paragraph" (speedup)
      exact Sat.ite (fun _ => parseParagraph_ok _ mt st h) (fun _ => Sat.err)
    · -- "rst_directive"
      rw [hRst]; exact Sat.err
    · -- "fenced_directive"
      rw [hFencedDir]; exact Sat.err
    · -- any other name
      exact Sat.err

/-- **the block pass returns a token list of the block-pass grammar** (nesting clause included) -/
theorem blockParse_pre (cfg : MdCfg) (hatx : CfgAtx cfg) (hnp : noBlockPlugins cfg = true) (hmx : 1 ≤ cfg.maxNested)
    (src : Str) (toks : List Json) (env : Json) (h : Model.blockParse cfg src = .ok (toks, env)) :
    preSeq (2 * cfg.maxNested + 1) toks .block 0 cfg.maxNested = true ∧ EnvOk env := by
  have hroot : TokensOk cfg.maxNested (BlockState.root src) := by
    refine ⟨Nat.zero_le _, fun t ht => ?_, ?_⟩
    · simp [BlockState.root, BlockState.process] at ht
    · intro refLinks hr key e he
      simp [BlockState.root, BlockState.process, Json.get?, List.lookup] at hr
      subst hr
      simp [Json.get?, List.lookup] at he
  have hr : RulesOk cfg.maxNested (BlockState.root src).depth ((none : Option (List String)).getD cfg.blockRules) := by
    intro n _ _
    show 0 < cfg.maxNested
    omega
  have hsat : Sat (fun r => preSeq (2 * cfg.maxNested + 1) r.1 .block 0 cfg.maxNested = true ∧ EnvOk r.2)
      (Model.blockParse cfg src) := by
    refine Sat.bind (parse_ok cfg _ (parseMethod_grammar cfg hatx hnp (nestFuel cfg src)) hatx.1 (BlockState.root src)
      none hroot hr) (fun st hk => Sat.pure ?_)
    have hd : st.depth = 0 := hk.2.1
    have := hk.1.2.1
    rw [hd] at this
    unfold TokOk gF at this
    exact ⟨(preSeq_iff _ _ _ _ _).2 this, hk.1.2.2⟩
  exact hsat _ h

end G
end Blk
end Model
end Mistune

#print axioms Mistune.Model.Blk.G.blockParse_pre
