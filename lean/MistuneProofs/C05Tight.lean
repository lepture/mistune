/-
C05 (tight lists) — `_transform_tight_list`: in a tight list every `paragraph` child of an item becomes a
`block_text` and nothing else changes; a loose list is returned as it is (nested lists included).

The model function `transformTightList : Nat → Json → Except PyErr Json` (Mistune/Model/Block.lean) is shown equal,
on well-shaped list tokens (`listShape`), to an independent specification `tightSpec` written without the `Except`
monad and without `Json.set`.
-/
import Mistune.Model.Block
import MistuneProofs.C05
namespace Mistune
open Model Blk

/-! ### the shape of a list token -/

/-- a child of a list item: an object with a string `type`; a child of type `"list"` satisfies `rec` -/
def childShape (rec : Json → Bool) (c : Json) : Bool :=
  match c.get? "type" with
  | some (.str s) => if String.ofList s = "list" then rec c else true
  | _ => false

/-- a list item: an object whose `children` is an array of well-shaped children -/
def itemShape (rec : Json → Bool) (it : Json) : Bool :=
  match it.get? "children" with
  | some (.arr cs) => cs.all (childShape rec)
  | _ => false

/-- a list token: an object with a boolean `tight` whose `children` is an array of well-shaped items -/
def listShapeWith (rec : Json → Bool) (tok : Json) : Bool :=
  (match tok.get? "tight" with
   | some (.bool _) => true
   | _ => false) &&
  (match tok.get? "children" with
   | some (.arr items) => items.all (itemShape rec)
   | _ => false)

/-- `listShape d tok`: `tok` is a well-shaped list token whose lists nest at most `d` levels below it
(`listShape 0`: no item has a child of type `"list"`) -/
def listShape : Nat → Json → Bool
  | 0, tok => listShapeWith (fun _ => false) tok
  | d + 1, tok => listShapeWith (listShape d) tok

/-! ### the specification -/

/-- the keys of an object, in order -/
def Json.keys : Json → List String
  | .obj kv => kv.map Prod.fst
  | _ => []

/-- the same object with the value of every entry named `k` replaced by `v`; nothing is added, removed or moved -/
def replaceField (k : String) (v : Json) : Json → Json
  | .obj kv => .obj (kv.map fun p => if p.1 = k then (p.1, v) else p)
  | j => j

/-- the same token with type `"block_text"` -/
def retype (t : Json) : Json := replaceField "type" (Json.s "block_text") t

/-- what happens to a child of an item of a tight list (`rec` is the treatment of a nested list) -/
def specChild (rec : Json → Json) (c : Json) : Json :=
  if c.type = "paragraph" then retype c
  else if c.type = "list" then rec c
  else c

/-- what happens to an item of a tight list -/
def specItem (rec : Json → Json) (it : Json) : Json :=
  replaceField "children" (.arr ((it.getArr "children").map (specChild rec))) it

/-- the specification of `_transform_tight_list` -/
def tightSpec : Nat → Json → Json
  | 0, tok => tok
  | d + 1, tok =>
    if tok.getBool "tight" then
      replaceField "children" (.arr ((tok.getArr "children").map (specItem (tightSpec d)))) tok
    else tok

/-! ### `replaceField` -/

/-- `d[k] = v` for a key that is present is `replaceField` -/
theorem set_eq_replaceField (t : Json) (k : String) (v v0 : Json) (h : t.get? k = some v0) :
    t.set k v = replaceField k v t := by
  cases t with
  | obj kv =>
    simp only [Json.get?] at h
    simp only [Json.set, (any_key kv k).2 ⟨v0, lookup_some_mem kv k v0 h⟩, if_true, replaceField, Json.obj.injEq]
    apply List.map_congr_left
    intro p _
    by_cases hp : p.1 = k <;> simp [hp]
  | _ => simp [Json.get?] at h

/-- for a key that is absent, `replaceField` is the identity -/
theorem replaceField_of_none (t : Json) (k : String) (v : Json) (h : t.get? k = none) : replaceField k v t = t := by
  cases t with
  | obj kv =>
    have hk := lookup_none_key kv k h
    simp only [replaceField, Json.obj.injEq]
    exact (List.map_congr_left fun p hp => if_neg (hk p hp)).trans (List.map_id' kv)
  | _ => rfl

theorem get?_replaceField_ne (k : String) (v : Json) (t : Json) (k' : String) (h : k' ≠ k) :
    (replaceField k v t).get? k' = t.get? k' := by
  cases h0 : t.get? k with
  | none => rw [replaceField_of_none t k v h0]
  | some v0 => rw [← set_eq_replaceField t k v v0 h0, get?_set_ne t k k' v h]

theorem get?_replaceField_self (k : String) (v : Json) (t : Json) :
    (replaceField k v t).get? k = (t.get? k).map (fun _ => v) := by
  cases h0 : t.get? k with
  | none => rw [replaceField_of_none t k v h0, h0]; rfl
  | some v0 => rw [← set_eq_replaceField t k v v0 h0, get?_set_of_get? h0]; rfl

theorem keys_replaceField (k : String) (v : Json) (t : Json) : (replaceField k v t).keys = t.keys := by
  cases t <;> simp [replaceField, Json.keys]
  rename_i kv
  intro a b _
  by_cases h : a = k <;> simp [h]

theorem replaceField_replaceField (k : String) (v w : Json) (t : Json) :
    replaceField k v (replaceField k w t) = replaceField k v t := by
  cases t <;> simp [replaceField]
  rename_i kv
  intro a b _
  by_cases h : a = k <;> simp [h]

/-! ### the model function, one level at a time -/

/-- the body of the inner `for tok in list_item["children"]` loop -/
def childStep (fuel : Nat) (t : Json) : Except PyErr Json := do
  let ty ← typeOf t
  if ty == "paragraph" then pure (t.set "type" (Json.s "block_text"))
  else if ty == "list" then transformTightList fuel t
  else pure t

/-- the body of the outer `for list_item in token["children"]` loop -/
def itemStep (fuel : Nat) (listItem : Json) : Except PyErr Json := do
  let cs ← childrenOf listItem
  let cs ← cs.mapM (childStep fuel)
  pure (listItem.set "children" (.arr cs))

theorem transformTightList_succ (fuel : Nat) (token : Json) :
    transformTightList (fuel + 1) token = (do
      if (← getE token "tight").truthy then
        let items ← childrenOf token
        let items ← items.mapM (itemStep fuel)
        pure (token.set "children" (.arr items))
      else pure token) := by
  rfl

theorem getE_of_get? (t : Json) (k : String) (v : Json) (h : t.get? k = some v) : getE t k = .ok v := by
  simp [getE, h]

theorem childrenOf_of_get? (t : Json) (l : List Json) (h : t.get? "children" = some (.arr l)) :
    childrenOf t = .ok l := by
  simp [childrenOf, getE, h, bind, Except.bind, pure, Except.pure]

theorem typeOf_of_get? (t : Json) (s : Str) (h : t.get? "type" = some (.str s)) :
    typeOf t = .ok (String.ofList s) := by
  simp [typeOf, getE, h, bind, Except.bind, pure, Except.pure]

/-! ### shape, unfolded -/

theorem childShape_iff (rec : Json → Bool) (c : Json) :
    childShape rec c = true ↔ ∃ s, c.get? "type" = some (.str s) ∧ (String.ofList s = "list" → rec c = true) := by
  unfold childShape
  split
  · rename_i s hs
    by_cases hl : String.ofList s = "list" <;> simp [hs, hl]
  · rename_i hne
    constructor
    · intro h; cases h
    · rintro ⟨s, hs, _⟩; exact absurd hs (hne s)

theorem itemShape_iff (rec : Json → Bool) (it : Json) :
    itemShape rec it = true ↔ ∃ cs, it.get? "children" = some (.arr cs) ∧ ∀ c ∈ cs, childShape rec c = true := by
  unfold itemShape
  split
  · rename_i cs hcs
    simp [hcs]
  · rename_i hne
    constructor
    · intro h; cases h
    · rintro ⟨cs, hcs, _⟩; exact absurd hcs (hne cs)

theorem listShapeWith_iff (rec : Json → Bool) (tok : Json) :
    listShapeWith rec tok = true ↔
      ∃ b items, tok.get? "tight" = some (.bool b) ∧ tok.get? "children" = some (.arr items) ∧
        ∀ it ∈ items, itemShape rec it = true := by
  unfold listShapeWith
  rw [Bool.and_eq_true]
  constructor
  · rintro ⟨h1, h2⟩
    split at h1
    · rename_i b hb
      split at h2
      · rename_i items hitems
        exact ⟨b, items, hb, hitems, by simpa using h2⟩
      · cases h2
    · cases h1
  · rintro ⟨b, items, hb, hitems, h⟩
    simp [hb, hitems]
    exact h

/-- the shape, fully unfolded -/
theorem listShapeWith_unfold (rec : Json → Bool) (tok : Json) :
    listShapeWith rec tok = true ↔
      ∃ b items, tok.get? "tight" = some (.bool b) ∧ tok.get? "children" = some (.arr items) ∧
        ∀ it ∈ items, ∃ cs, it.get? "children" = some (.arr cs) ∧
          ∀ c ∈ cs, ∃ s, c.get? "type" = some (.str s) ∧ (String.ofList s = "list" → rec c = true) := by
  simp only [listShapeWith_iff, itemShape_iff, childShape_iff]

/-! ### the model agrees with the specification -/

theorem childStep_eq_spec (fuel : Nat) (recS : Json → Bool)
    (ih : ∀ c, recS c = true → transformTightList fuel c = .ok (tightSpec fuel c))
    (c : Json) (hc : childShape recS c = true) :
    childStep fuel c = .ok (specChild (tightSpec fuel) c) := by
  obtain ⟨s, hs, hrec⟩ := (childShape_iff recS c).1 hc
  unfold childStep specChild
  rw [typeOf_of_get? c s hs, type_of_get? c s hs]
  by_cases hp : String.ofList s = "paragraph"
  · simp [hp, bind, Except.bind, pure, Except.pure, retype, set_eq_replaceField c "type" _ _ hs]
  · by_cases hl : String.ofList s = "list"
    · simp [hl, bind, Except.bind, ih c (hrec hl)]
    · simp [hp, hl, bind, Except.bind, pure, Except.pure]

theorem itemStep_eq_spec (fuel : Nat) (recS : Json → Bool)
    (ih : ∀ c, recS c = true → transformTightList fuel c = .ok (tightSpec fuel c))
    (it : Json) (hit : itemShape recS it = true) :
    itemStep fuel it = .ok (specItem (tightSpec fuel) it) := by
  obtain ⟨cs, hcs, hall⟩ := (itemShape_iff recS it).1 hit
  unfold itemStep specItem
  rw [childrenOf_of_get? it cs hcs, getArr_of_get? it _ cs hcs]
  simp only [bind, Except.bind]
  rw [mapM_ok_of_forall (childStep fuel) (specChild (tightSpec fuel)) cs
    (fun c hc => childStep_eq_spec fuel recS ih c (hall c hc))]
  simp only [pure, Except.pure, set_eq_replaceField it "children" _ _ hcs]

theorem transform_step (fuel : Nat) (recS : Json → Bool)
    (ih : ∀ c, recS c = true → transformTightList fuel c = .ok (tightSpec fuel c))
    (tok : Json) (hs : listShapeWith recS tok = true) :
    transformTightList (fuel + 1) tok = .ok (tightSpec (fuel + 1) tok) := by
  obtain ⟨b, items, hb, hitems, hall⟩ := (listShapeWith_iff recS tok).1 hs
  rw [transformTightList_succ]
  unfold tightSpec
  rw [getE_of_get? tok _ _ hb, getBool_of_get? tok _ b hb]
  cases b with
  | false => simp [bind, Except.bind, pure, Except.pure, Json.truthy]
  | true =>
    simp only [bind, Except.bind, Json.truthy, if_true]
    rw [childrenOf_of_get? tok items hitems, getArr_of_get? tok _ items hitems]
    simp only
    rw [mapM_ok_of_forall (itemStep fuel) (specItem (tightSpec fuel)) items
      (fun it hit => itemStep_eq_spec fuel recS ih it (hall it hit))]
    simp only [pure, Except.pure, set_eq_replaceField tok "children" _ _ hitems]

/-- what `listShape d` asks of the nested lists: nothing can be nested at depth 0 -/
def recShape : Nat → Json → Bool
  | 0 => fun _ => false
  | d + 1 => listShape d

theorem listShape_eq (d : Nat) (tok : Json) : listShape d tok = listShapeWith (recShape d) tok := by
  cases d <;> rfl

/-- the nested lists of a well-shaped token are transformed with the remaining fuel -/
theorem recShape_ok : ∀ (d : Nat) (c : Json), recShape d c = true → transformTightList d c = .ok (tightSpec d c)
  | 0, _, h => by cases h
  | d + 1, c, h => transform_step d (recShape d) (recShape_ok d) c ((listShape_eq d c).symm.trans h)

/-- **the model is the specification** on well-shaped list tokens; the fuel needed is one more than the nesting
depth of lists below the token -/
theorem transform_eq_spec : ∀ (d : Nat) (tok : Json), listShape d tok = true →
    transformTightList (d + 1) tok = .ok (tightSpec (d + 1) tok) :=
  fun d => recShape_ok (d + 1)

/-- **totality**: no Python exception path (`KeyError`, `TypeError`) and no fuel exhaustion for a well-shaped token -/
theorem transform_total (d : Nat) (tok : Json) (hs : listShape d tok = true) :
    ∃ r, transformTightList (d + 1) tok = .ok r :=
  ⟨_, transform_eq_spec d tok hs⟩

/-! ### loose lists -/

theorem tightSpec_loose (n : Nat) (tok : Json) (ht : tok.getBool "tight" = false) : tightSpec n tok = tok := by
  cases n with
  | zero => rfl
  | succ n => simp [tightSpec, ht]

/-- **loose lists are untouched**, nested lists included; nothing is asked of the token but a falsy `tight` -/
theorem loose_id_truthy (fuel : Nat) (tok v : Json) (hv : tok.get? "tight" = some v) (hf : v.truthy = false) :
    transformTightList (fuel + 1) tok = .ok tok := by
  rw [transformTightList_succ, getE_of_get? tok _ _ hv]
  simp [bind, Except.bind, hf, pure, Except.pure]

/-- **loose lists are untouched**, nested lists included -/
theorem loose_id (fuel : Nat) (tok : Json) (ht : tok.get? "tight" = some (.bool false)) :
    transformTightList (fuel + 1) tok = .ok tok :=
  loose_id_truthy fuel tok _ ht rfl

/-! ### what `retype`, `specItem` and `tightSpec` keep -/

/-- `t'` is `t` but for the value of `k`: same keys in the same order, same values under the other keys -/
def sameExcept (k : String) (t t' : Json) : Prop :=
  t'.keys = t.keys ∧ ∀ k', k' ≠ k → t'.get? k' = t.get? k'

theorem sameExcept_refl (k : String) (t : Json) : sameExcept k t t := ⟨rfl, fun _ _ => rfl⟩

theorem sameExcept_replaceField (k : String) (v : Json) (t : Json) : sameExcept k t (replaceField k v t) :=
  ⟨keys_replaceField k v t, fun k' h => get?_replaceField_ne k v t k' h⟩

/-- `retype` changes the value of `type` and nothing else -/
theorem retype_same (c : Json) : sameExcept "type" c (retype c) := sameExcept_replaceField _ _ c

theorem type_eq_ne_empty (c : Json) (h : c.type ≠ "") : ∃ s, c.get? "type" = some (.str s) := by
  unfold Json.type Json.getStr at h
  split at h
  · rename_i s hs; exact ⟨s, hs⟩
  · exact absurd rfl h

theorem retype_get?_type (c v : Json) (h : c.get? "type" = some v) :
    (retype c).get? "type" = some (Json.s "block_text") := by
  simp [retype, get?_replaceField_self, h]

/-- a retyped paragraph is a `block_text` -/
theorem retype_type (c : Json) (h : c.type = "paragraph") : (retype c).type = "block_text" := by
  obtain ⟨s, hs⟩ := type_eq_ne_empty c (by rw [h]; decide)
  have := retype_get?_type c _ hs
  simp only [Json.type, Json.getStr, this, Json.s]
  decide

theorem type_congr (t t' : Json) (h : t'.get? "type" = t.get? "type") : t'.type = t.type := by
  simp [Json.type, Json.getStr, h]

theorem tightSpec_same (n : Nat) (tok : Json) : sameExcept "children" tok (tightSpec n tok) := by
  cases n with
  | zero => exact sameExcept_refl _ _
  | succ n =>
    unfold tightSpec
    split
    · exact sameExcept_replaceField _ _ _
    · exact sameExcept_refl _ _

theorem specItem_same (rec : Json → Json) (it : Json) : sameExcept "children" it (specItem rec it) :=
  sameExcept_replaceField _ _ _

/-- the transformation keeps the type of the list token -/
theorem tightSpec_type (n : Nat) (tok : Json) : (tightSpec n tok).type = tok.type :=
  type_congr _ _ ((tightSpec_same n tok).2 "type" (by decide))

theorem getArr_replaceField_self (k : String) (l : List Json) (t v0 : Json) (h : t.get? k = some v0) :
    (replaceField k (.arr l) t).getArr k = l := by
  simp [Json.getArr, get?_replaceField_self, h]

theorem specItem_children (rec : Json → Json) (it : Json) (cs : List Json)
    (h : it.get? "children" = some (.arr cs)) :
    (specItem rec it).getArr "children" = cs.map (specChild rec) := by
  unfold specItem
  rw [getArr_replaceField_self _ _ _ _ h, getArr_of_get? _ _ _ h]

theorem tightSpec_children (n : Nat) (tok : Json) (items : List Json)
    (ht : tok.getBool "tight" = true) (h : tok.get? "children" = some (.arr items)) :
    (tightSpec (n + 1) tok).getArr "children" = items.map (specItem (tightSpec n)) := by
  unfold tightSpec
  rw [if_pos ht, getArr_replaceField_self _ _ _ _ h, getArr_of_get? _ _ _ h]

/-- the type of a transformed child -/
theorem specChild_type (n : Nat) (c : Json) :
    (specChild (tightSpec n) c).type = if c.type = "paragraph" then "block_text" else c.type := by
  unfold specChild
  by_cases hp : c.type = "paragraph"
  · simp [hp, retype_type]
  · by_cases hl : c.type = "list"
    · simp [hl, tightSpec_type]
    · simp [hp, hl]

/-! ### tight lists: the readable corollaries -/

/-- the relation between a child `c` of an item of a tight list and what replaces it (`fuel`: what is left for the
nested lists) -/
def childRel (fuel : Nat) (c c' : Json) : Prop :=
  (c.type = "paragraph" ∧ c' = retype c) ∨
  (c.type = "list" ∧ transformTightList fuel c = .ok c') ∨
  (c.type ≠ "paragraph" ∧ c.type ≠ "list" ∧ c' = c)

/-- two lists of the same length whose elements are related position by position -/
inductive Forall₂ {α β : Type} (R : α → β → Prop) : List α → List β → Prop
  | nil : Forall₂ R [] []
  | cons {a b l l'} : R a b → Forall₂ R l l' → Forall₂ R (a :: l) (b :: l')

theorem Forall₂.length_eq {α β : Type} {R : α → β → Prop} {l : List α} {l' : List β} (h : Forall₂ R l l') :
    l'.length = l.length := by
  induction h with
  | nil => rfl
  | cons _ _ ih => simp [ih]

theorem forall₂_map {α β : Type} (R : α → β → Prop) (f : α → β) :
    ∀ (l : List α), (∀ a ∈ l, R a (f a)) → Forall₂ R l (l.map f)
  | [], _ => .nil
  | a :: l, h => .cons (h a List.mem_cons_self) (forall₂_map R f l (fun b hb => h b (List.mem_cons_of_mem _ hb)))

/-- The result on a tight list, level by level: the items are mapped by `specItem`, the children of every item by
`specChild`, and the nested lists among them are transformed with the remaining fuel. -/
theorem tight_children (d : Nat) (tok r : Json) (hs : listShape d tok = true)
    (hr : transformTightList (d + 1) tok = .ok r) (ht : tok.getBool "tight" = true) :
    r = tightSpec (d + 1) tok ∧
    r.getArr "children" = (tok.getArr "children").map (specItem (tightSpec d)) ∧
    ∀ it ∈ tok.getArr "children",
      (specItem (tightSpec d) it).getArr "children" = (it.getArr "children").map (specChild (tightSpec d)) ∧
      ∀ c ∈ it.getArr "children", c.type = "list" → transformTightList d c = .ok (tightSpec d c) := by
  rw [transform_eq_spec d tok hs] at hr
  injection hr with hr
  subst hr
  obtain ⟨b, items, _, hitems, hall⟩ := (listShapeWith_unfold _ tok).1 ((listShape_eq d tok).symm.trans hs)
  rw [tightSpec_children d tok items ht hitems, getArr_of_get? _ _ _ hitems]
  refine ⟨rfl, rfl, fun it hit => ?_⟩
  obtain ⟨cs, hcs, hc⟩ := hall it hit
  rw [specItem_children _ it cs hcs, getArr_of_get? _ _ _ hcs]
  refine ⟨rfl, fun c hcm hl => ?_⟩
  obtain ⟨s, hsty, hrec⟩ := hc c hcm
  exact recShape_ok d c (hrec (by rw [← type_of_get? c s hsty]; exact hl))

/-- **tight lists, item by item and child by child**: the list token and every item keep their keys, their order
and every value but `children`; items and children correspond one to one, in order; a `paragraph` child is replaced
by its `retype`, a `list` child by the result of `_transform_tight_list` on it, any other child by itself. -/
theorem tight_pointwise (d : Nat) (tok r : Json) (hs : listShape d tok = true)
    (hr : transformTightList (d + 1) tok = .ok r) (ht : tok.getBool "tight" = true) :
    sameExcept "children" tok r ∧
    Forall₂
      (fun it it' => sameExcept "children" it it' ∧
        Forall₂ (childRel d) (it.getArr "children") (it'.getArr "children"))
      (tok.getArr "children") (r.getArr "children") := by
  obtain ⟨rfl, hitems, hall⟩ := tight_children d tok r hs hr ht
  refine ⟨tightSpec_same _ _, ?_⟩
  rw [hitems]
  apply forall₂_map
  intro it hit
  refine ⟨specItem_same _ _, ?_⟩
  rw [(hall it hit).1]
  apply forall₂_map
  intro c hcm
  unfold childRel specChild
  by_cases hp : c.type = "paragraph"
  · simp [hp]
  · by_cases hl : c.type = "list"
    · simp [hl, (hall it hit).2 c hcm hl]
    · simp [hp, hl]

/-- **no paragraph is left** among the children of the items of a tight list -/
theorem tight_no_paragraph (d : Nat) (tok r : Json) (hs : listShape d tok = true)
    (hr : transformTightList (d + 1) tok = .ok r) (ht : tok.getBool "tight" = true) :
    ∀ it ∈ r.getArr "children", ∀ c ∈ it.getArr "children", c.type ≠ "paragraph" := by
  obtain ⟨_, hitems, hall⟩ := tight_children d tok r hs hr ht
  rw [hitems]
  intro it' hit' c' hc'
  obtain ⟨it, hit, rfl⟩ := List.mem_map.1 hit'
  rw [(hall it hit).1] at hc'
  obtain ⟨c, _, rfl⟩ := List.mem_map.1 hc'
  rw [specChild_type]
  split
  · decide
  · assumption

/-- **every former paragraph is a block_text** and the types of the other children are unchanged:
the types of the children of the items, read in order -/
theorem tight_types (d : Nat) (tok r : Json) (hs : listShape d tok = true)
    (hr : transformTightList (d + 1) tok = .ok r) (ht : tok.getBool "tight" = true) :
    (r.getArr "children").map (fun it => (it.getArr "children").map Json.type) =
    (tok.getArr "children").map (fun it => (it.getArr "children").map
      (fun c => if c.type = "paragraph" then "block_text" else c.type)) := by
  obtain ⟨_, hitems, hall⟩ := tight_children d tok r hs hr ht
  rw [hitems, List.map_map]
  apply List.map_congr_left
  intro it hit
  simp only [Function.comp]
  rw [(hall it hit).1, List.map_map]
  exact List.map_congr_left (fun c _ => specChild_type d c)

/-- **counts**: the number of items and the number of children of every item are unchanged -/
theorem tight_counts (d : Nat) (tok r : Json) (hs : listShape d tok = true)
    (hr : transformTightList (d + 1) tok = .ok r) :
    (r.getArr "children").length = (tok.getArr "children").length ∧
    (r.getArr "children").map (fun it => (it.getArr "children").length) =
      (tok.getArr "children").map (fun it => (it.getArr "children").length) := by
  cases ht : tok.getBool "tight" with
  | false =>
    rw [transform_eq_spec d tok hs, tightSpec_loose _ _ ht] at hr
    injection hr with hr
    subst hr
    exact ⟨rfl, rfl⟩
  | true =>
    have h := congrArg (List.map List.length) (tight_types d tok r hs hr ht)
    simp only [List.map_map, Function.comp_def, List.length_map] at h
    exact ⟨by simpa using congrArg List.length h, h⟩

/-! ### idempotence -/

theorem specItem_def (rec : Json → Json) (it : Json) :
    specItem rec it = replaceField "children" (.arr ((it.getArr "children").map (specChild rec))) it := rfl

theorem tightSpec_tight (n : Nat) (tok : Json) (ht : tok.getBool "tight" = true) :
    tightSpec (n + 1) tok =
      replaceField "children" (.arr ((tok.getArr "children").map (specItem (tightSpec n)))) tok := by
  simp [tightSpec, ht]

theorem map_id_of_forall {α : Type} (f g : α → α) (l : List α) (h : ∀ a ∈ l, f (g a) = g a) :
    (l.map g).map f = l.map g := by
  rw [List.map_map]
  exact List.map_congr_left (fun a ha => h a ha)

/-! the specification is idempotent on EVERY value and for every fuel (no shape is needed) -/

theorem getArr_replaceField_arr (k : String) (l : List Json) (t : Json) :
    (replaceField k (.arr l) t).getArr k = l ∨ ((replaceField k (.arr l) t).getArr k = [] ∧ t.getArr k = []) := by
  cases h : t.get? k with
  | none => right; simp [Json.getArr, get?_replaceField_self, h]
  | some v0 => left; exact getArr_replaceField_self k l t v0 h

theorem specChild_idem_all (rec : Json → Json) (hrec : ∀ c, rec (rec c) = rec c)
    (htype : ∀ c, (rec c).type = c.type) (c : Json) : specChild rec (specChild rec c) = specChild rec c := by
  by_cases hp : c.type = "paragraph"
  · have h1 : specChild rec c = retype c := by simp [specChild, hp]
    rw [h1]
    simp [specChild, retype_type c hp]
  · by_cases hl : c.type = "list"
    · have h1 : specChild rec c = rec c := by simp [specChild, hl]
      rw [h1]
      simp [specChild, htype, hl, hrec]
    · simp [specChild, hp, hl]

theorem specItem_idem_all (rec : Json → Json) (hrec : ∀ c, rec (rec c) = rec c)
    (htype : ∀ c, (rec c).type = c.type) (it : Json) : specItem rec (specItem rec it) = specItem rec it := by
  rw [specItem_def rec (specItem rec it), specItem_def rec it, replaceField_replaceField]
  rcases getArr_replaceField_arr "children" ((it.getArr "children").map (specChild rec)) it with h | ⟨h1, h2⟩
  · rw [h, map_id_of_forall _ _ _ (fun c _ => specChild_idem_all rec hrec htype c)]
  · rw [h1, h2]

theorem tightSpec_idem_all : ∀ (n : Nat) (tok : Json), tightSpec n (tightSpec n tok) = tightSpec n tok
  | 0, _ => rfl
  | n + 1, tok => by
    cases ht : tok.getBool "tight" with
    | false => rw [tightSpec_loose _ tok ht, tightSpec_loose _ tok ht]
    | true =>
      have ht' : (tightSpec (n + 1) tok).getBool "tight" = true := by
        rw [← ht]
        simp only [Json.getBool]
        rw [(tightSpec_same (n + 1) tok).2 "tight" (by decide)]
      rw [tightSpec_tight n (tightSpec (n + 1) tok) ht', tightSpec_tight n tok ht, replaceField_replaceField]
      rcases getArr_replaceField_arr "children" ((tok.getArr "children").map (specItem (tightSpec n))) tok
        with h | ⟨h1, h2⟩
      · rw [h, map_id_of_forall _ _ _
          (fun it _ => specItem_idem_all (tightSpec n) (tightSpec_idem_all n) (tightSpec_type n) it)]
      · rw [h1, h2]

/-- **idempotence of the specification** on well-shaped tokens -/
theorem tightSpec_idem : ∀ (d : Nat) (tok : Json), listShape d tok = true →
    tightSpec (d + 1) (tightSpec (d + 1) tok) = tightSpec (d + 1) tok :=
  fun d tok _ => tightSpec_idem_all (d + 1) tok

/-! ### the result is well shaped again, and the model function is idempotent -/

theorem childShape_specChild (fuel : Nat) (recS : Json → Bool)
    (ih : ∀ c, recS c = true → recS (tightSpec fuel c) = true)
    (c : Json) (hc : childShape recS c = true) : childShape recS (specChild (tightSpec fuel) c) = true := by
  obtain ⟨s, hs, hrec⟩ := (childShape_iff recS c).1 hc
  unfold specChild
  by_cases hp : c.type = "paragraph"
  · rw [if_pos hp, childShape_iff]
    have hne : ¬ String.ofList "block_text".toList = "list" := by decide
    exact ⟨_, retype_get?_type c _ hs, fun h => absurd h hne⟩
  · rw [if_neg hp]
    by_cases hl : c.type = "list"
    · rw [if_pos hl, childShape_iff]
      refine ⟨s, ?_, fun h => ih c (hrec h)⟩
      rw [(tightSpec_same fuel c).2 "type" (by decide), hs]
    · rw [if_neg hl]; exact hc

theorem itemShape_specItem (fuel : Nat) (recS : Json → Bool)
    (ih : ∀ c, recS c = true → recS (tightSpec fuel c) = true)
    (it : Json) (hit : itemShape recS it = true) : itemShape recS (specItem (tightSpec fuel) it) = true := by
  obtain ⟨cs, hcs, hall⟩ := (itemShape_iff recS it).1 hit
  rw [itemShape_iff]
  refine ⟨cs.map (specChild (tightSpec fuel)), ?_, ?_⟩
  · rw [specItem_def, get?_replaceField_self, hcs, getArr_of_get? _ _ _ hcs]; rfl
  · intro c' hc'
    obtain ⟨c, hc, rfl⟩ := List.mem_map.1 hc'
    exact childShape_specChild fuel recS ih c (hall c hc)

theorem listShapeWith_tightSpec (fuel : Nat) (recS : Json → Bool)
    (ih : ∀ c, recS c = true → recS (tightSpec fuel c) = true)
    (tok : Json) (hs : listShapeWith recS tok = true) : listShapeWith recS (tightSpec (fuel + 1) tok) = true := by
  obtain ⟨b, items, hb, hitems, hall⟩ := (listShapeWith_iff recS tok).1 hs
  cases b with
  | false => rw [tightSpec_loose _ tok (getBool_of_get? tok _ _ hb)]; exact hs
  | true =>
    rw [listShapeWith_iff]
    refine ⟨true, items.map (specItem (tightSpec fuel)), ?_, ?_, ?_⟩
    · rw [(tightSpec_same (fuel + 1) tok).2 "tight" (by decide), hb]
    · rw [tightSpec_tight fuel tok (getBool_of_get? tok _ _ hb), get?_replaceField_self, hitems,
        getArr_of_get? _ _ _ hitems]
      rfl
    · intro it' hit'
      obtain ⟨it, hit, rfl⟩ := List.mem_map.1 hit'
      exact itemShape_specItem fuel recS ih it (hall it hit)

/-- the transformed token is well shaped again, with the same depth -/
theorem listShape_tightSpec : ∀ (d : Nat) (tok : Json), listShape d tok = true →
    listShape d (tightSpec (d + 1) tok) = true
  | 0, tok, hs => listShapeWith_tightSpec 0 (fun _ => false) (fun _ h => by cases h) tok hs
  | d + 1, tok, hs =>
    listShapeWith_tightSpec (d + 1) (listShape d) (fun c hc => listShape_tightSpec d c hc) tok hs

/-- **idempotence of the model function**: transforming the result again returns it -/
theorem transform_idem (d : Nat) (tok r : Json) (hs : listShape d tok = true)
    (hr : transformTightList (d + 1) tok = .ok r) : transformTightList (d + 1) r = .ok r := by
  rw [transform_eq_spec d tok hs] at hr
  injection hr with hr
  subst hr
  rw [transform_eq_spec d _ (listShape_tightSpec d tok hs), tightSpec_idem d tok hs]

/-! ### more fuel changes nothing -/

theorem listShapeWith_mono (rec rec' : Json → Bool) (h : ∀ c, rec c = true → rec' c = true)
    (tok : Json) (hs : listShapeWith rec tok = true) : listShapeWith rec' tok = true := by
  rw [listShapeWith_unfold] at hs ⊢
  obtain ⟨b, items, hb, hitems, hall⟩ := hs
  refine ⟨b, items, hb, hitems, fun it hit => ?_⟩
  obtain ⟨cs, hcs, hc⟩ := hall it hit
  refine ⟨cs, hcs, fun c hcm => ?_⟩
  obtain ⟨s, hs, hrec⟩ := hc c hcm
  exact ⟨s, hs, fun hl => h c (hrec hl)⟩

theorem listShape_succ : ∀ (d : Nat) (tok : Json), listShape d tok = true → listShape (d + 1) tok = true
  | 0, tok, hs => listShapeWith_mono _ _ (fun _ h => by cases h) tok hs
  | d + 1, tok, hs => listShapeWith_mono _ _ (fun c hc => listShape_succ d c hc) tok hs

theorem listShape_le (d e : Nat) (h : d ≤ e) (tok : Json) (hs : listShape d tok = true) : listShape e tok = true := by
  induction h with
  | refl => exact hs
  | step _ ih => exact listShape_succ _ tok ih

theorem tightSpec_fuel_step (fuel1 fuel2 : Nat) (recS : Json → Bool)
    (ih : ∀ c, recS c = true → tightSpec fuel1 c = tightSpec fuel2 c)
    (tok : Json) (hs : listShapeWith recS tok = true) : tightSpec (fuel1 + 1) tok = tightSpec (fuel2 + 1) tok := by
  obtain ⟨b, items, hb, hitems, hall⟩ := (listShapeWith_unfold recS tok).1 hs
  have ht := getBool_of_get? tok _ _ hb
  cases b with
  | false => rw [tightSpec_loose _ tok ht, tightSpec_loose _ tok ht]
  | true =>
    rw [tightSpec_tight _ tok ht, tightSpec_tight _ tok ht, getArr_of_get? _ _ _ hitems]
    congr 2
    apply List.map_congr_left
    intro it hit
    obtain ⟨cs, hcs, hc⟩ := hall it hit
    rw [specItem_def, specItem_def, getArr_of_get? _ _ _ hcs]
    congr 2
    apply List.map_congr_left
    intro c hcm
    obtain ⟨s, hs, hrec⟩ := hc c hcm
    unfold specChild
    by_cases hl : c.type = "list"
    · rw [ih c (hrec (by rw [← type_of_get? c s hs]; exact hl))]
    · simp [hl]

/-- the specification does not depend on the fuel once it exceeds the depth -/
theorem tightSpec_fuel : ∀ (d n : Nat) (tok : Json), listShape d tok = true → d < n →
    tightSpec n tok = tightSpec (d + 1) tok
  | _, 0, _, _, h => absurd h (Nat.not_lt_zero _)
  | 0, n + 1, tok, hs, _ => tightSpec_fuel_step n 0 (fun _ => false) (fun _ h => by cases h) tok hs
  | d + 1, n + 1, tok, hs, h =>
    tightSpec_fuel_step n (d + 1) (listShape d)
      (fun c hc => tightSpec_fuel d n c hc (Nat.lt_of_succ_lt_succ h)) tok hs

/-- **the fuel relation**: any fuel above the depth gives the answer of fuel `d + 1`
(`parse_list` calls with `max_nested_level + 3`) -/
theorem transform_fuel (d n : Nat) (tok : Json) (hs : listShape d tok = true) (h : d < n) :
    transformTightList n tok = .ok (tightSpec (d + 1) tok) := by
  obtain ⟨m, rfl⟩ : ∃ m, n = m + 1 := ⟨n - 1, by omega⟩
  rw [transform_eq_spec m tok (listShape_le d m (by omega) tok hs), tightSpec_fuel d (m + 1) tok hs h]

/-! ### a concrete token: a tight list whose first item holds a paragraph, a code block and a nested LOOSE list
(whose paragraphs stay paragraphs), and whose second item holds a paragraph -/

def exPara (t : String) : Json := tok "paragraph" [("text", Json.s t)]
def exBlockText (t : String) : Json := tok "block_text" [("text", Json.s t)]
def exCode : Json := tok "block_code" [("raw", Json.s "c\n"), ("style", Json.s "indent")]

def exLoose : Json :=
  tok "list" [
    ("children", .arr [tok "list_item" [("children", .arr [exPara "x", tok "blank_line" [], exPara "y"])]]),
    ("tight", .bool false), ("bullet", Json.s "-"),
    ("attrs", .obj [("depth", .num 1), ("ordered", .bool false)])]

def exTight : Json :=
  tok "list" [
    ("children", .arr [
      tok "list_item" [("children", .arr [exPara "a", exCode, exLoose])],
      tok "list_item" [("children", .arr [exPara "b"])]]),
    ("tight", .bool true), ("bullet", Json.s "-"),
    ("attrs", .obj [("depth", .num 0), ("ordered", .bool false)])]

/-- the expected result: the two paragraphs of the tight list are block_texts, the loose list is the SAME token -/
def exTightOut : Json :=
  tok "list" [
    ("children", .arr [
      tok "list_item" [("children", .arr [exBlockText "a", exCode, exLoose])],
      tok "list_item" [("children", .arr [exBlockText "b"])]]),
    ("tight", .bool true), ("bullet", Json.s "-"),
    ("attrs", .obj [("depth", .num 0), ("ordered", .bool false)])]

/-- the same list, but the nested list is tight: its paragraphs become block_texts too -/
def exTightTight : Json :=
  tok "list" [
    ("children", .arr [tok "list_item" [("children", .arr [exPara "a", exTight])]]),
    ("tight", .bool true)]

example : listShape 1 exTight = true := by decide +kernel
example : listShape 0 exTight = false := by decide +kernel      -- depth 0 means: no nested list
example : listShape 0 exLoose = true := by decide +kernel
example : listShape 2 exTightTight = true := by decide +kernel
example : transformTightList 2 exTight = .ok exTightOut := rfl
example : tightSpec 2 exTight = exTightOut := rfl
example : transformTightList 2 exLoose = .ok exLoose := rfl
example : transformTightList 2 exTightOut = .ok exTightOut := rfl
example : transformTightList 3 exTightTight =
    .ok (tok "list" [
      ("children", .arr [tok "list_item" [("children", .arr [exBlockText "a", exTightOut])]]),
      ("tight", .bool true)]) := rfl
example : retype (exPara "a") = exBlockText "a" := rfl

/-! the hypotheses are needed -/

-- fuel `d` is not enough for depth `d`: the nested call (made for loose nested lists too) has no fuel left
example : transformTightList 1 exTight = .error .depthExceeded := rfl
-- a loose list without the key `tight`: `KeyError`
example : transformTightList 1 (tok "list" [("children", .arr [])]) = .error .keyError := rfl
-- a tight list whose item has no `children`: `KeyError`; whose `children` is not an array: the model's `typeError`
example : transformTightList 1 (tok "list" [("children", .arr [tok "list_item" []]), ("tight", .bool true)])
    = .error .keyError := rfl
example : transformTightList 1 (tok "list" [("children", .null), ("tight", .bool true)]) = .error .typeError := rfl
-- a child without `type`: `KeyError`
example : transformTightList 1
    (tok "list" [("children", .arr [tok "list_item" [("children", .arr [.obj []])]]), ("tight", .bool true)])
    = .error .keyError := rfl
-- a truthy `tight` that is not a boolean: Python (and the model) transform, `tightSpec` reads a boolean
example : transformTightList 1
    (tok "list" [("children", .arr [tok "list_item" [("children", .arr [exPara "a"])]]), ("tight", .num 1)])
    = .ok (tok "list" [("children", .arr [tok "list_item" [("children", .arr [exBlockText "a"])]]), ("tight", .num 1)]) :=
  rfl
example : tightSpec 1
    (tok "list" [("children", .arr [tok "list_item" [("children", .arr [exPara "a"])]]), ("tight", .num 1)])
    = tok "list" [("children", .arr [tok "list_item" [("children", .arr [exPara "a"])]]), ("tight", .num 1)] := rfl


end Mistune
