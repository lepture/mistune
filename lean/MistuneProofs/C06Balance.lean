/-
C06 (a) — "every non-void element closed in order", for the template model: the rendering of every token tree that
meets the decidable hypotheses is balanced, at every depth.  Same hypothesis as C02Tags (`StripAgrees`), proved in
`MistuneProofs/C02Strip.lean`, where the hypothesis-free corollary `render_balanced_closed` stands.

The checker `balRunPieces` has a hole: an integer argument met inside a tag after the name part resets `lastSlash`,
although the argument may be absent and print nothing, so `<a /` + k + `></a>` passes the checker and renders as
`<a /></a>`.  The tree theorem `renderTok_balanced` is therefore false for an arbitrary `TagTable` that passes the checker
(kernel-checked counterexample `ceBal` at the end); it has one more decidable table hypothesis (`TagTable.balStrict`:
every template that passes `tmplBalOk` also passes `tmplBalOkS`, the same check with that case rejected), kernel-decided
for the working tree, so `render_balanced` does not have it.
`balRunPieces_sound` / `evalTmpl_balanced` speak of the strict run, and of states that satisfy the invariants of the
reachable symbolic states (`SBS.Inv`; from arbitrary states they are false: in character data the record must be
`SBS.init`, and the holes of the name being read must be integer arguments, otherwise `b` + hole could print `br`).
The walk through the pieces of a template is `PieceRun` (C02Tags), instantiated with the symbolic states.
-/
import Mistune.TmplBalance
import Mistune.Generated.Templates
import MistuneProofs.C02Tags
namespace Mistune
open Mistune.Generated

theorem bsRun_append (b : BS) (x y : Str) : bsRun b (x ++ y) = (bsRun b x).bind (fun b' => bsRun b' y) := by
  induction x generalizing b with
  | nil => simp [bsRun]
  | cons c cs ih =>
    simp only [List.cons_append, bsRun]
    cases bsStep b c with
    | none => simp
    | some s => exact ih s

/-- the scanner transitions at which the stack automaton does something of its own: `<`, the first character of a
tag, a further character of the tag, `>` -/
def tagArm : TS → TS → Bool
  | .text, .lt | .lt, .tag | .tag, .tag | .tag, .text => true
  | _, _ => false

theorem tagArm_cases (ts ts' : TS) : (ts = .text ∧ ts' = .lt) ∨ (ts = .lt ∧ ts' = .tag) ∨ (ts = .tag ∧ ts' = .tag) ∨
    (ts = .tag ∧ ts' = .text) ∨ tagArm ts ts' = false := by
  cases ts <;> cases ts' <;> simp [tagArm]

/-- at every other transition the automaton follows the scanner -/
theorem bsStep_other {b : BS} {c : Char} {ts' : TS} (hts : tsStep b.ts c = some ts') (h : tagArm b.ts ts' = false) :
    bsStep b c = some { b with ts := ts', reading := false, lastSlash := false } := by
  obtain ⟨ts, name, reading, closing, lastSlash, stack⟩ := b
  simp only [bsStep, hts]
  cases ts <;> cases ts' <;> first | rfl | cases h

section Follows
variable {α β : Type} {R : α → β → Prop}

/-- `o'` follows `o`: whenever `o` gives a value, `o'` gives a related one.  The steppers are nests of `if`s with
`some` at the leaves; two of them are compared leaf by leaf. -/
def Follows (R : α → β → Prop) (o : Option α) (o' : Option β) : Prop :=
  ∀ a, o = some a → ∃ b, o' = some b ∧ R a b

theorem Follows.some {a : α} {b : β} (h : R a b) : Follows R (some a) (some b) := by
  intro a' ha
  cases ha
  exact ⟨b, rfl, h⟩

theorem Follows.none {o' : Option β} : Follows R none o' :=
  fun _ ha => nomatch ha

/-- a test made on the left only -/
theorem Follows.ite_left {p : Prop} [Decidable p] {x y : Option α} {o' : Option β}
    (h1 : p → Follows R x o') (h2 : ¬ p → Follows R y o') : Follows R (if p then x else y) o' := by
  split
  · exact h1 ‹_›
  · exact h2 ‹_›

/-- the same test on both sides -/
theorem Follows.ite {p : Prop} [Decidable p] {x y : Option α} {x' y' : Option β}
    (h1 : p → Follows R x x') (h2 : ¬ p → Follows R y y') :
    Follows R (if p then x else y) (if p then x' else y') :=
  .ite_left (fun hp => by rw [if_pos hp]; exact h1 hp) (fun hp => by rw [if_neg hp]; exact h2 hp)

end Follows

/-- a step reads the stack only to pop it, and carries the scanner's step -/
theorem bsStep_frame_ts (b b' : BS) (c : Char) (base : List Str) (h : bsStep b c = some b') :
    tsStep b.ts c = some b'.ts ∧
      bsStep { b with stack := b.stack ++ base } c = some { b' with stack := b'.stack ++ base } := by
  obtain ⟨ts, name, reading, closing, lastSlash, stack⟩ := b
  cases hts : tsStep ts c with
  | none => simp [bsStep, hts] at h
  | some ts' =>
    suffices Follows (fun b1 b2 : BS => b1.ts = ts' ∧ b2 = { b1 with stack := b1.stack ++ base })
        (bsStep ⟨ts, name, reading, closing, lastSlash, stack⟩ c)
        (bsStep ⟨ts, name, reading, closing, lastSlash, stack ++ base⟩ c) by
      obtain ⟨_, h2, rfl, rfl⟩ := this b' h
      exact ⟨rfl, h2⟩
    rcases tagArm_cases ts ts' with ⟨rfl, rfl⟩ | ⟨rfl, rfl⟩ | ⟨rfl, rfl⟩ | ⟨rfl, rfl⟩ | harm
    · simp only [bsStep, hts]
      exact .some ⟨rfl, rfl⟩
    · simp only [bsStep, hts]
      exact .ite (fun _ => .some ⟨rfl, rfl⟩) (fun _ => .some ⟨rfl, rfl⟩)
    · simp only [bsStep, hts]
      refine .ite (fun _ => ?_) (fun _ => .some ⟨rfl, rfl⟩)
      exact .ite (fun _ => .some ⟨rfl, rfl⟩) (fun _ => .some ⟨rfl, rfl⟩)
    · -- `>`: a closing tag pops the stack, an opening tag pushes on it
      simp only [bsStep, hts]
      refine .ite (fun _ => ?_) (fun _ => .ite (fun _ => .some ⟨rfl, rfl⟩) (fun _ => .some ⟨rfl, rfl⟩))
      cases stack with
      | nil => exact .none
      | cons top rest => exact .ite (fun _ => .some ⟨rfl, rfl⟩) (fun _ => .none)
    · rw [bsStep_other (b := ⟨ts, name, reading, closing, lastSlash, stack⟩) hts harm,
        bsStep_other (b := ⟨ts, name, reading, closing, lastSlash, stack ++ base⟩) hts harm]
      exact .some ⟨rfl, rfl⟩

theorem bsRun_frame (b b' : BS) (x : Str) (base : List Str) (h : bsRun b x = some b') :
    bsRun { b with stack := b.stack ++ base } x = some { b' with stack := b'.stack ++ base } := by
  induction x generalizing b with
  | nil => simp only [bsRun, Option.some.injEq] at h ⊢; subst h; rfl
  | cons c cs ih =>
    simp only [bsRun] at h ⊢
    cases hs : bsStep b c with
    | none => simp [hs] at h
    | some b1 =>
      rw [hs] at h
      rw [(bsStep_frame_ts b b1 c base hs).2]
      exact ih b1 h

/-- a string is *neutral* if, read in character data on any stack, it ends in character data on the same stack -/
def Neutral (s : Str) : Prop := ∀ stk, bsRun (BS.init stk) s = some (BS.init stk)

theorem bsRun_seq {b b1 b2 : BS} {x y : Str} (h1 : bsRun b x = some b1) (h2 : bsRun b1 y = some b2) :
    bsRun b (x ++ y) = some b2 := by
  rw [bsRun_append, h1]; exact h2

theorem bsRun_stable (b : BS) (s : Str) (h : ∀ c ∈ s, bsStep b c = some b) : bsRun b s = some b := by
  induction s with
  | nil => rfl
  | cons c cs ih =>
    simp only [bsRun, h c List.mem_cons_self]
    exact ih (fun d hd => h d (List.mem_cons_of_mem _ hd))

/-- in character data and in a double-quoted value, out of the name and not behind a `/`, a character other than
`<`, `>`, `"` changes nothing -/
theorem bsStep_plain (b : BS) (c : Char) (hts : b.ts = .text ∨ b.ts = .dq) (hr : b.reading = false)
    (hl : b.lastSlash = false) (hc : plain3 c = true) : bsStep b c = some b := by
  obtain ⟨ts, name, reading, closing, lastSlash, stack⟩ := b
  simp only at hts hr hl; subst hr hl
  rcases hts with rfl | rfl
  · exact bsStep_other (b := ⟨.text, name, false, closing, false, stack⟩) (tsStep_text_of_plain3 c hc) rfl
  · exact bsStep_other (b := ⟨.dq, name, false, closing, false, stack⟩) (tsStep_dq_of_plain3 c hc) rfl

theorem bsRun_plain (b : BS) (s : Str) (hts : b.ts = .text ∨ b.ts = .dq) (hr : b.reading = false)
    (hl : b.lastSlash = false) (h : ∀ c ∈ s, plain3 c = true) : bsRun b s = some b :=
  bsRun_stable _ _ (fun c hc => bsStep_plain b c hts hr hl (h c hc))

theorem neutral_of_plain (s : Str) (h : ∀ c ∈ s, plain3 c = true) : Neutral s :=
  fun _ => bsRun_plain _ s (Or.inl rfl) rfl rfl h

theorem bsRun_ts (b b' : BS) (s : Str) (h : bsRun b s = some b') : tsRun b.ts s = some b'.ts := by
  induction s generalizing b with
  | nil => simp only [bsRun, Option.some.injEq] at h; subst h; rfl
  | cons c cs ih =>
    simp only [bsRun] at h
    cases hs : bsStep b c with
    | none => simp [hs] at h
    | some b1 =>
      rw [hs] at h
      simp only [tsRun, (bsStep_frame_ts b b1 c [] hs).1]
      exact ih b1 h

theorem Neutral.wellTagged {s : Str} (h : Neutral s) : WellTagged s := bsRun_ts _ _ s (h [])

theorem Neutral.append {x y : Str} (hx : Neutral x) (hy : Neutral y) : Neutral (x ++ y) :=
  fun stk => bsRun_seq (hx stk) (hy stk)

theorem Neutral.nil : Neutral [] := fun _ => rfl

theorem balanced_of_neutral {s : Str} (h : Neutral s) : Balanced s := h []

theorem intChar_props (c : Char) (h : intChar c = true) : plainC c = true ∧ nameEnd c = false ∧ (c == '/') = false := by
  refine ⟨intChar_plainC c h, ?_⟩
  simp only [intChar, Bool.or_eq_true, beq_iff_eq] at h
  rcases h with h | h
  · simp only [nameEnd, Bool.or_eq_false_iff, beq_eq_false_iff_ne]
    refine ⟨⟨⟨⟨?_, ?_⟩, ?_⟩, ?_⟩, ?_⟩ <;> rintro rfl <;> simp at h
  · subst h; decide

/-! ### concretisation of symbolic names -/

theorem concName_nil (env : TEnv) : concName env [] = [] := rfl

theorem concName_append (env : TEnv) (a b : SName) : concName env (a ++ b) = concName env a ++ concName env b := by
  simp [concName]

theorem concName_c (env : TEnv) (c : Char) : concName env [.c c] = [c] := by
  simp [concName, SymC.conc]

theorem concName_hole (env : TEnv) (n : String) : concName env [.hole n] = (env.get n).toTStr.erase := by
  simp [concName, SymC.conc]

theorem concName_lit (env : TEnv) (t : Str) : concName env (t.map SymC.c) = t := by
  induction t with
  | nil => rfl
  | cons c cs ih =>
    simp only [List.map_cons, concName, List.flatMap_cons, SymC.conc, List.singleton_append, List.cons.injEq, true_and]
    exact ih

def notHole : SymC → Bool := fun x => match x with | .hole _ => false | _ => true

/-- a name none of whose characters is a digit or `-`: its integer holes print nothing -/
theorem filter_of_no_intChar (env : TEnv) (name : SName) (hh : ∀ n, SymC.hole n ∈ name → IntVal env n)
    (hc : ∀ c ∈ concName env name, intChar c = false) :
    name.filter notHole = (concName env name).map SymC.c := by
  induction name with
  | nil => rfl
  | cons x xs ih =>
    have hxs : concName env (x :: xs) = SymC.conc env x ++ concName env xs := by simp [concName]
    rw [hxs] at hc ⊢
    have ih' := ih (fun n hn => hh n (List.mem_cons_of_mem _ hn)) (fun c h => hc c (List.mem_append_right _ h))
    cases x with
    | c ch =>
      simp only [List.filter_cons, notHole, if_true, SymC.conc, List.singleton_append, List.map_cons, List.cons.injEq, true_and]
      exact ih'
    | hole n =>
      have hn := (hh n List.mem_cons_self).chars
      have hempty : SymC.conc env (.hole n) = [] := by
        simp only [SymC.conc]
        cases hs : (env.get n).toTStr.erase with
        | nil => rfl
        | cons c cs =>
          have h1 := hn c (by rw [hs]; exact List.mem_cons_self)
          have h2 := hc c (List.mem_append_left _ (by simp only [SymC.conc]; rw [hs]; exact List.mem_cons_self))
          rw [h1] at h2; cases h2
      rw [hempty]
      simp only [List.filter_cons, notHole, Bool.false_eq_true, if_false, List.nil_append]
      exact ih'

theorem voidTags_no_intChar : ∀ t ∈ voidTags, ∀ c ∈ t, intChar c = false := by decide

/-- the void test of the symbolic automaton decides the void test of the concrete one -/
theorem void_conc (env : TEnv) (name : SName) (hh : ∀ n, SymC.hole n ∈ name → IntVal env n)
    (h2 : voidSym.contains (name.filter notHole) = false) :
    voidTags.contains (concName env name) = false := by
  cases hv : voidTags.contains (concName env name) with
  | false => rfl
  | true =>
    simp only [List.contains_eq_mem, decide_eq_true_eq] at hv
    have := filter_of_no_intChar env name hh (voidTags_no_intChar _ hv)
    rw [this] at h2
    simp only [voidSym, List.contains_eq_mem, decide_eq_false_iff_not, List.mem_map, not_exists, not_and] at h2
    exact absurd rfl (h2 _ hv)

theorem void_conc_pos (env : TEnv) (name : SName) (h : voidSym.contains name = true) :
    voidTags.contains (concName env name) = true := by
  simp only [voidSym, List.contains_eq_mem, decide_eq_true_eq, List.mem_map] at h ⊢
  obtain ⟨t, ht, rfl⟩ := h
  rw [concName_lit]; exact ht

/-! ### one character of a literal: the symbolic step is the concrete step -/

/-- what the symbolic states reached from `SBS.init` satisfy -/
structure SBS.Inv (env : TEnv) (b : SBS) : Prop where
  text : b.ts = .text → b.name = [] ∧ b.reading = false ∧ b.closing = false ∧ b.lastSlash = false
  quote : b.ts = .dq ∨ b.ts = .sq → b.reading = false ∧ b.lastSlash = false
  holes : ∀ n, SymC.hole n ∈ b.name → IntVal env n

theorem SBS.Inv.init (env : TEnv) (stk : List SName) : (SBS.init stk).Inv env :=
  ⟨fun _ => ⟨rfl, rfl, rfl, rfl⟩, fun _ => ⟨rfl, rfl⟩, fun n hn => by cases hn⟩

theorem SBS.conc_init (env : TEnv) (stk : List SName) : (SBS.init stk).conc env = BS.init (stk.map (concName env)) := rfl

theorem SBS.conc_mk (env : TEnv) (ts : TS) (name : SName) (r cl ls : Bool) (stk : List SName) :
    SBS.conc env ⟨ts, name, r, cl, ls, stk⟩ = ⟨ts, concName env name, r, cl, ls, stk.map (concName env)⟩ := rfl

theorem sbsStep_other {b : SBS} {c : Char} {ts' : TS} (hts : tsStep b.ts c = some ts') (h : tagArm b.ts ts' = false) :
    sbsStep b c = some { b with ts := ts', reading := false, lastSlash := false } := by
  obtain ⟨ts, name, reading, closing, lastSlash, stack⟩ := b
  simp only [sbsStep, hts]
  cases ts <;> cases ts' <;> first | rfl | cases h

/-- only from character data does the scanner come to character data without closing a tag -/
theorem text_of_other {ts : TS} {c : Char} (hts : tsStep ts c = some .text) (h : tagArm ts .text = false) : ts = .text := by
  cases ts with
  | text => rfl
  | tag => cases h
  | lt => simp only [tsStep] at hts; split at hts <;> cases hts
  | dq => simp only [tsStep] at hts; split at hts <;> cases hts
  | sq => simp only [tsStep] at hts; split at hts <;> cases hts

/-- inside a tag the invariant only speaks of the holes of the name -/
theorem SBS.Inv.of_tag {env : TEnv} {b : SBS} (hts : b.ts = .tag) (hh : ∀ n, SymC.hole n ∈ b.name → IntVal env n) :
    b.Inv env where
  text := fun h => by rw [hts] at h; cases h
  quote := fun h => by rw [hts] at h; rcases h with h | h <;> cases h
  holes := hh

theorem sbsStep_sound (env : TEnv) (b b' : SBS) (c : Char) (hi : b.Inv env) (h : sbsStep b c = some b') :
    bsStep (b.conc env) c = some (b'.conc env) ∧ b'.Inv env := by
  obtain ⟨ts, name, reading, closing, lastSlash, stack⟩ := b
  suffices Follows (fun (s : SBS) (b : BS) => b = s.conc env ∧ s.Inv env)
      (sbsStep ⟨ts, name, reading, closing, lastSlash, stack⟩ c)
      (bsStep ⟨ts, concName env name, reading, closing, lastSlash, stack.map (concName env)⟩ c) by
    obtain ⟨_, h1, rfl, hi'⟩ := this b' h
    exact ⟨h1, hi'⟩
  cases hts : tsStep ts c with
  | none => simp only [sbsStep, hts]; exact .none
  | some ts' =>
    rcases tagArm_cases ts ts' with ⟨rfl, rfl⟩ | ⟨rfl, rfl⟩ | ⟨rfl, rfl⟩ | ⟨rfl, rfl⟩ | harm
    · -- `<`
      simp only [sbsStep, bsStep, hts]
      refine .some ⟨rfl, ?_, ?_, ?_⟩
      · intro ht; cases ht
      · intro ht; rcases ht with ht | ht <;> cases ht
      · intro n hn; cases hn
    · -- the first character of the tag: `/`, or the first character of the name
      simp only [sbsStep, bsStep, hts]
      refine .ite (fun _ => ?_) (fun _ => ?_)
      · exact .some ⟨rfl, SBS.Inv.of_tag rfl hi.holes⟩
      · refine .some ⟨?_, SBS.Inv.of_tag rfl (fun n hn => ?_)⟩
        · rw [SBS.conc_mk, concName_c]
        · simp at hn
    · -- a further character of the tag: the name ends, the name grows, or the name has ended before
      simp only [sbsStep, bsStep, hts]
      refine .ite (fun _ => .ite (fun _ => ?_) (fun _ => ?_)) (fun _ => ?_)
      · exact .some ⟨rfl, SBS.Inv.of_tag rfl hi.holes⟩
      · refine .some ⟨?_, SBS.Inv.of_tag rfl (fun n hn => ?_)⟩
        · rw [SBS.conc_mk, concName_append, concName_c]
        · simp only [List.mem_append, List.mem_singleton, reduceCtorEq, or_false] at hn
          exact hi.holes n hn
      · exact .some ⟨rfl, SBS.Inv.of_tag rfl hi.holes⟩
    · -- `>`: the symbolic comparisons decide the concrete ones
      simp only [sbsStep, bsStep, hts]
      refine .ite (fun _ => ?_) (fun _ => .ite_left (fun hv => ?_) (fun hv => .ite_left (fun _ => .none) (fun hv2 => ?_)))
      · -- a closing tag: the names are equal already as symbolic names
        cases stack with
        | nil => exact .none
        | cons top rest =>
          refine .ite_left (fun heq => ?_) (fun _ => .none)
          rw [List.map_cons, eq_of_beq heq]
          simp only [beq_self_eq_true, if_true]
          exact .some ⟨rfl, SBS.Inv.init env rest⟩
      · -- void, or closed by `/`
        have : (lastSlash || voidTags.contains (concName env name)) = true := by
          simp only [Bool.or_eq_true] at hv ⊢
          exact hv.imp_right (void_conc_pos env name)
        rw [if_pos this]
        exact .some ⟨rfl, SBS.Inv.init env stack⟩
      · -- an opening tag: its name is not void whatever its holes print
        simp only [Bool.or_eq_true, not_or, Bool.not_eq_true] at hv hv2
        have : ¬ (lastSlash || voidTags.contains (concName env name)) = true := by
          simp only [Bool.or_eq_true, not_or, Bool.not_eq_true]
          exact ⟨hv.1, void_conc env name hi.holes hv2⟩
        rw [if_neg this]
        exact .some ⟨rfl, SBS.Inv.init env _⟩
    · -- the record is kept, out of the name and not behind a `/`
      rw [sbsStep_other (b := ⟨ts, name, reading, closing, lastSlash, stack⟩) hts harm,
        bsStep_other (b := ⟨ts, concName env name, reading, closing, lastSlash, stack.map (concName env)⟩) hts harm]
      refine .some ⟨rfl, ?_, fun _ => ⟨rfl, rfl⟩, hi.holes⟩
      intro ht
      cases (show ts' = .text from ht)
      cases text_of_other hts harm
      exact ⟨(hi.text rfl).1, rfl, (hi.text rfl).2.2.1, rfl⟩

/-! ### runs -/

theorem sbsRunLit_sound (env : TEnv) (s : Str) : ∀ (b b' : SBS), b.Inv env → sbsRunLit b s = some b' →
    bsRun (b.conc env) s = some (b'.conc env) ∧ b'.Inv env := by
  induction s with
  | nil =>
    intro b b' hi h
    simp only [sbsRunLit, Option.some.injEq] at h; subst h
    exact ⟨rfl, hi⟩
  | cons c cs ih =>
    intro b b' hi h
    simp only [sbsRunLit] at h
    cases hs : sbsStep b c with
    | none => simp [hs] at h
    | some b1 =>
      rw [hs] at h
      obtain ⟨h1, hi1⟩ := sbsStep_sound env b b1 c hi hs
      obtain ⟨h2, hi2⟩ := ih b1 b' hi1 h
      refine ⟨?_, hi2⟩
      simp only [bsRun, h1]
      exact h2

theorem bsStep_tag_name (b : BS) (c : Char) (hts : b.ts = .tag) (hr : b.reading = true) (hc : intChar c = true) :
    bsStep b c = some { b with name := b.name ++ [c] } := by
  obtain ⟨ts, name, reading, closing, lastSlash, stack⟩ := b
  simp only at hts hr; subst hts hr
  obtain ⟨h1, h2, _⟩ := intChar_props c hc
  simp [bsStep, tsStep_tag_of_plainC c h1, h2]

theorem bsRun_tag_name (s : Str) : ∀ (b : BS), b.ts = .tag → b.reading = true → (∀ c ∈ s, intChar c = true) →
    bsRun b s = some { b with name := b.name ++ s } := by
  induction s with
  | nil => intro b _ _ _; simp [bsRun]
  | cons c cs ih =>
    intro b hts hr h
    simp only [bsRun, bsStep_tag_name b c hts hr (h c List.mem_cons_self)]
    rw [ih { b with name := b.name ++ [c] } hts hr (fun d hd => h d (List.mem_cons_of_mem _ hd))]
    simp

theorem bsStep_tag_rest (b : BS) (c : Char) (hts : b.ts = .tag) (hr : b.reading = false) (hl : b.lastSlash = false)
    (hc : intChar c = true) : bsStep b c = some b := by
  obtain ⟨ts, name, reading, closing, lastSlash, stack⟩ := b
  simp only at hts hr hl; subst hts hr hl
  obtain ⟨h1, _, h3⟩ := intChar_props c hc
  simp [bsStep, tsStep_tag_of_plainC c h1, h3]

theorem intChar_plain3 (c : Char) (h : intChar c = true) : plain3 c = true :=
  plain3_of_plainC c (intChar_plainC c h)

/-! ### the checker with its hole closed

The hole: where `balRunPieces` meets an integer argument inside a tag after the name part, it sets
`lastSlash := false` — but an integer argument may be absent (`None` prints nothing), and then the `/` before it is still the
last character when `>` comes: `<a /` + k + `></a>` passes `balRunPieces` (it pushes `a` and pops it), and renders as
`<a /></a>` for a token without `k` — not balanced (`ceBal` below).  `balRunStrict` is `balRunPieces` with that single case
rejected; the templates of the working tree pass both (`templates_strict`). -/

def balRunStrict (info : TagInfo) : SBS → List TPiece → Option SBS
  | b, [] => some b
  | b, .lit s :: rest => match sbsRunLit b s with
    | some b' => balRunStrict info b' rest
    | none => none
  | b, .arg n ops :: rest =>
    if n == "$text" && info.textIsChildren then
      if (ops == [] && b.ts == .text) || (ops == [.striptags] && (b.ts == .text || b.ts == .dq)) then balRunStrict info b rest else none
    else if info.intArgs.contains n && ops.all (fun o => o == .str) then
      if b.ts == .text || b.ts == .dq then balRunStrict info b rest
      else if b.ts == .tag then
        (if b.reading then balRunStrict info { b with name := b.name ++ [.hole n] } rest
         else if b.lastSlash then none      -- the argument may print nothing: the `/` stays the last character
         else balRunStrict info b rest)
      else none
    else if (!info.dataArgs.contains n || hasEscaper ops) && (b.ts == .text || b.ts == .dq) then balRunStrict info b rest
    else none
  | b, .sub ops _ :: rest =>
    if hasEscaper ops && (b.ts == .text || b.ts == .dq) then balRunStrict info b rest else none
  | _, .toc _ :: _ => none
  | _, .replaceFirst _ _ _ :: _ => none

theorem SBS.Inv.flags {env : TEnv} {sb : SBS} (hi : sb.Inv env) (hst : sb.ts = .text ∨ sb.ts = .dq) :
    sb.reading = false ∧ sb.lastSlash = false := by
  rcases hst with h | h
  · exact ⟨(hi.text h).2.1, (hi.text h).2.2.2⟩
  · exact hi.quote (Or.inl h)

theorem conc_plain_run (env : TEnv) (sb : SBS) (hi : sb.Inv env) (hst : sb.ts = .text ∨ sb.ts = .dq) (t : TStr)
    (h : t.Plain) : bsRun (sb.conc env) t.erase = some (sb.conc env) :=
  bsRun_plain _ _ hst (hi.flags hst).1 (hi.flags hst).2 h.erase

theorem conc_neutral_run (env : TEnv) (sb : SBS) (hi : sb.Inv env) (hst : sb.ts = .text) (s : Str) (h : Neutral s) :
    bsRun (sb.conc env) s = some (sb.conc env) := by
  obtain ⟨ts, name, reading, closing, lastSlash, stack⟩ := sb
  obtain ⟨h1, h2, h3, h4⟩ := hi.text hst
  simp only at hst h1 h2 h3 h4
  subst hst h1 h2 h3 h4
  exact h _

/-- What the balance checkers do at an integer argument.  In character data and in quoted values it is plain text; in
the name of a tag it is a hole of the name; behind the name it is nothing to the checker, except that `strict` rejects
it behind a `/`. -/
def balInt (strict : Bool) (n : String) (b : SBS) : Option SBS :=
  if b.ts == .text || b.ts == .dq then some b
  else if b.ts == .tag then
    if b.reading then some { b with name := b.name ++ [.hole n] }
    else if strict && b.lastSlash then none
    else some { b with lastSlash := false }
  else none

/-- the balance checker as a run through the pieces (C02Tags) -/
def balPieceRun (strict : Bool) : PieceRun SBS where
  ts := SBS.ts
  lit := sbsRunLit
  int := balInt strict
  toc := fun _ => false

theorem SBS.lastSlash_false {b : SBS} (h : ¬ b.lastSlash = true) : { b with lastSlash := false } = b := by
  cases b
  simp_all

theorem balRunPieces_eq_run (info : TagInfo) (b : SBS) (e : List TPiece) :
    balRunPieces info b e = (balPieceRun false).run info b e := by
  induction e generalizing b with
  | nil => rfl
  | cons p rest ih =>
    cases p with
    | lit s =>
      simp only [balRunPieces, PieceRun.run, PieceRun.step, balPieceRun, ih]
      cases sbsRunLit b s <;> rfl
    | _ =>
      simp only [balRunPieces, PieceRun.run, PieceRun.step, balPieceRun, balInt, Option.ite_bind, allow_bind,
        Option.bind_none, Option.bind_some, Bool.false_and, Bool.false_eq_true, if_false, ih]

theorem balRunStrict_eq_run (info : TagInfo) (b : SBS) (e : List TPiece) :
    balRunStrict info b e = (balPieceRun true).run info b e := by
  induction e generalizing b with
  | nil => rfl
  | cons p rest ih =>
    cases p with
    | lit s =>
      simp only [balRunStrict, PieceRun.run, PieceRun.step, balPieceRun, ih]
      cases sbsRunLit b s <;> rfl
    | _ =>
      -- where the strict run goes on behind the name of a tag, `lastSlash` is `false` already
      have hb : ∀ k : SBS → Option SBS, (if b.lastSlash = true then none else k { b with lastSlash := false }) =
          if b.lastSlash = true then none else k b := by
        intro k
        split
        · rfl
        · rw [SBS.lastSlash_false ‹_›]
      simp only [balRunStrict, PieceRun.run, PieceRun.step, balPieceRun, balInt, Option.ite_bind, allow_bind,
        Option.bind_none, Option.bind_some, Bool.true_and, Bool.false_eq_true, if_false, hb, ih]

theorem balInt_le {n : String} {b b' : SBS} (h : balInt true n b = some b') : balInt false n b = some b' := by
  suffices Follows Eq (balInt true n b) (balInt false n b) by
    obtain ⟨_, h', rfl⟩ := this b' h
    exact h'
  unfold balInt
  refine .ite (fun _ => .some rfl) (fun _ => .ite (fun _ => .ite (fun _ => .some rfl) (fun _ => ?_)) (fun _ => .none))
  -- behind the name: only the strict run tests `lastSlash`
  rw [Bool.false_and, if_neg Bool.false_ne_true]
  exact .ite_left (fun _ => .none) (fun _ => .some rfl)

/-- the strict run is a restriction of the checker's run -/
theorem balRunStrict_le (info : TagInfo) (e : List TPiece) (b b' : SBS)
    (h : balRunStrict info b e = some b') : balRunPieces info b e = some b' := by
  rw [balRunStrict_eq_run] at h
  rw [balRunPieces_eq_run]
  exact PieceRun.run_mono (M := balPieceRun true) info (fun _ _ _ => balInt_le) e b b' h

/-- the strict checker at an integer argument, against the stack automaton -/
theorem balInt_sound {env : TEnv} {n : String} {sb sb' : SBS} (hi : sb.Inv env) (hiv : IntVal env n)
    (hr : balInt true n sb = some sb') :
    bsRun (sb.conc env) (env.get n).toTStr.erase = some (sb'.conc env) ∧ sb'.Inv env := by
  suffices Follows (fun (s : SBS) (b : BS) => b = s.conc env ∧ s.Inv env) (balInt true n sb)
      (bsRun (sb.conc env) (env.get n).toTStr.erase) by
    obtain ⟨_, h1, rfl, hi'⟩ := this sb' hr
    exact ⟨h1, hi'⟩
  unfold balInt
  refine .ite_left (fun hst => ?_) (fun _ => .ite_left (fun htag => ?_) (fun _ => .none))
  · simp only [Bool.or_eq_true, beq_iff_eq] at hst
    rw [bsRun_plain _ _ hst (hi.flags hst).1 (hi.flags hst).2 (fun c hc => intChar_plain3 c (hiv.chars c hc))]
    exact .some ⟨rfl, hi⟩
  · rw [beq_iff_eq] at htag
    refine .ite_left (fun hrd => ?_) (fun hrd => .ite_left (fun _ => .none) (fun hls => ?_))
    · -- in the name of the tag: the name gains a hole
      rw [bsRun_tag_name _ (sb.conc env) htag hrd hiv.chars]
      refine .some ⟨?_, SBS.Inv.of_tag htag (fun m hm => ?_)⟩
      · simp [SBS.conc, concName_append, concName_hole]
      · simp only [List.mem_append, List.mem_singleton, SymC.hole.injEq] at hm
        rcases hm with hm | hm
        · exact hi.holes m hm
        · subst hm; exact hiv
    · -- behind the name, not behind a `/`: nothing changes
      rw [Bool.true_and] at hls
      have hrd' : (sb.conc env).reading = false := by simpa [SBS.conc] using hrd
      have hls' : (sb.conc env).lastSlash = false := by simpa [SBS.conc] using hls
      rw [SBS.lastSlash_false hls, bsRun_stable _ _ (fun c hc => bsStep_tag_rest _ c htag hrd' hls' (hiv.chars c hc))]
      exact .some ⟨rfl, hi⟩

/-- soundness of the strict checker for the stack automaton, on the states that meet `SBS.Inv` -/
theorem balPieceRun_sound (env : TEnv) : (balPieceRun true).Sound bsRun (SBS.conc env) (SBS.Inv env) Neutral env where
  nil := fun _ => rfl
  seq := bsRun_seq
  lit := fun sb sb' x hi hr => sbsRunLit_sound env x sb sb' hi hr
  children := fun sb x hi hst hx => conc_neutral_run env sb hi hst x hx
  plain := fun sb t hi hst ht => conc_plain_run env sb hi hst t ht
  int := fun _ _ _ hi hiv hr => balInt_sound hi hiv hr

/-- soundness of the strict symbolic run on a piece list -/
theorem balRunStrict_core (info : TagInfo) (env : TEnv) (h : EnvCore info env)
    (hchildren : info.textIsChildren = true → Neutral (env.get "$text").toTStr.erase)
    (e : List TPiece) (sb sb' : SBS) (hi : sb.Inv env) (hr : balRunStrict info sb e = some sb') :
    bsRun (sb.conc env) (evalPieces env e).erase = some (sb'.conc env) ∧ sb'.Inv env :=
  PieceRun.run_sound (balPieceRun_sound env) h hchildren e (fun _ _ _ hs => by cases hs) sb sb' hi
    (balRunStrict_eq_run info sb e ▸ hr)

/-- soundness of the symbolic run for one template body, on top of any stack (`base`); `hchildren`: the rendered children are
neutral.  It speaks of the strict run (the checker's own run has a hole, see above), from a state that satisfies the
invariants of the reachable states (`SBS.Inv`: the statement is false from arbitrary states). -/
theorem balRunPieces_sound (info : TagInfo) (env : TEnv) (h : EnvTagged info env)
    (hchildren : info.textIsChildren = true → Neutral (env.get "$text").toTStr.erase) :
    ∀ (e : List TPiece) (sb sb' : SBS), sb.Inv env → balRunStrict info sb e = some sb' →
      ∀ base, bsRun { (sb.conc env) with stack := (sb.conc env).stack ++ base } (evalPieces env e).erase
        = some { (sb'.conc env) with stack := (sb'.conc env).stack ++ base } :=
  fun e sb sb' hi hr base =>
    bsRun_frame _ _ _ base (balRunStrict_core info env h.toEnvCore hchildren e sb sb' hi hr).1

/-- `tmplBalOk` over the strict run -/
def tmplBalOkS (info : TagInfo) : Tmpl → Bool
  | .seq e => balRunStrict info (SBS.init []) e == some (SBS.init [])
  | .ite .flagEscape t _ => tmplBalOkS info t
  | .ite (.not .flagEscape) _ e => tmplBalOkS info e
  | .ite (.isDigit n) t e => tmplBalOkS { info with dataArgs := info.dataArgs.filter (· != n) } t && tmplBalOkS info e
  | .ite (.notNone n) t e => tmplBalOkS info t && tmplBalOkS { info with dataArgs := info.dataArgs.filter (· != n) } e
  | .ite _ t e => tmplBalOkS info t && tmplBalOkS info e
  | .opaque => false

theorem tmplBalOkS_eq_check (info : TagInfo) (T : Tmpl) :
    tmplBalOkS info T =
      tmplCheck TagInfo.narrow (fun info e => balRunStrict info (SBS.init []) e == some (SBS.init [])) info T := by
  fun_induction tmplBalOkS info T <;> simp [tmplCheck, *]

theorem tmplBalOk_eq_check (info : TagInfo) (T : Tmpl) :
    tmplBalOk info T =
      tmplCheck TagInfo.narrow (fun info e => balRunPieces info (SBS.init []) e == some (SBS.init [])) info T := by
  fun_induction tmplBalOk info T <;> simp [tmplCheck, *]

theorem evalTmpl_some_balanced (info : TagInfo) (env : TEnv) (T : Tmpl) (h : EnvCore info env)
    (hchildren : info.textIsChildren = true → Neutral (env.get "$text").toTStr.erase)
    (hok : tmplBalOkS info T = true) : ∃ out, evalTmpl env T = some out ∧ Neutral out.erase := by
  rw [tmplBalOkS_eq_check] at hok
  refine tmplCheck_sound h.esc
    (P := fun info _ => EnvCore info env ∧ (info.textIsChildren = true → Neutral (env.get "$text").toTStr.erase))
    (fun _ _ _ _ hP => hP) (fun _ _ _ _ hP => hP) (fun _ _ _ hP hn => ⟨hP.1.filter hn, hP.2⟩) ?_
    info T ⟨h, hchildren⟩ hok
  intro info e hP hok stk
  have := bsRun_frame _ _ _ stk
    (balRunStrict_core info env hP.1 hP.2 e _ _ (SBS.Inv.init env []) (beq_iff_eq.1 hok)).1
  simpa [SBS.conc_init, BS.init] using this

theorem evalTmpl_balanced (info : TagInfo) (env : TEnv) (T : Tmpl) (h : EnvTagged info env)
    (hchildren : info.textIsChildren = true → Neutral (env.get "$text").toTStr.erase)
    (hok : tmplBalOkS info T = true) : ∀ out, evalTmpl env T = some out → Neutral out.erase :=
  forall_of_exists_some (evalTmpl_some_balanced info env T h.toEnvCore hchildren hok)

/-- the strict check is a restriction of the checker -/
theorem tmplBalOkS_le (info : TagInfo) (T : Tmpl) (h : tmplBalOkS info T = true) : tmplBalOk info T = true := by
  rw [tmplBalOkS_eq_check] at h
  rw [tmplBalOk_eq_check]
  refine tmplCheck_mono (fun info e he => ?_) info T h
  rw [beq_iff_eq] at he ⊢
  exact balRunStrict_le info e _ _ he

/-! ### token trees -/

theorem Neutral.flatMap {α : Type} (l : List α) (f : α → TStr) (h : ∀ x ∈ l, Neutral (f x).erase) :
    Neutral (TStr.erase (l.flatMap f)) :=
  flatMap_of_append (Q := fun t => Neutral t.erase) Neutral.nil
    (fun a b ha hb => by rw [TStr.erase_append]; exact ha.append hb) l f h

/-- decidable table condition (the tree theorem is false without it, `ceBal` below): every template that passes the
checker also passes it with the hole closed -/
def TagTable.balStrict (tt : TagTable) : Bool :=
  tt.tbl.tmpls.all (fun p => !tmplBalOk (tt.infoOf p.1) p.2 || tmplBalOkS (tt.infoOf p.1) p.2)

/-- **Tree theorem**.  `hstrict` is a decidable condition on the table; the statement is false without it (section
"counterexample").  It is kernel-decided for the working tree. -/
theorem renderTok_balanced (tt : TagTable) (mk : List (String × TVal) → TEnv)
    (hmk : ∀ args, (mk args).escapeFlag = true ∧ (mk args).args = args)
    (hstrip : ∀ args, StripAgrees (mk args).striptagsRe)
    (hnd : (tt.tbl.tmpls.map (·.1)).Nodup) (hwf : tt.wf = true) (hstrict : tt.balStrict = true) :
    ∀ fuel t, refinedOk tt.tbl fuel t = true → balTreeOk tt fuel t = true →
      Neutral (renderTok tt.tbl mk fuel t).erase := by
  intro fuel t h1 h2
  refine renderTok_induct tt.tbl mk (Q := fun s => Neutral s.erase)
    (ok := fun fuel t => refinedOk tt.tbl fuel t = true ∧ balTreeOk tt fuel t = true)
    Neutral.nil (fun a b ha hb => by rw [TStr.erase_append]; exact ha.append hb)
    (fun _ _ cs h hcs c hc => ⟨(refinedOk_succ h.1).2.2.2 cs hcs c hc, (treeOk_succ h.2).2.2 cs hcs c hc⟩)
    ?_ fuel t ⟨h1, h2⟩
  intro fuel t T h hT hch
  obtain ⟨hokT, hints, _⟩ := treeOk_succ h.2
  obtain ⟨hV, henv, _⟩ := EnvCore.of_token tt mk hmk hstrip hwf hT h.1 hints (fun cs hcs => (hch cs hcs).wellTagged)
  -- the template passes the balance check, hence the strict one
  have hTok : tmplBalOkS (tt.infoOf t.type) T = true := by
    have hs := List.all_eq_true.1 hstrict _ (mem_of_lookup_eq_some _ _ T hT)
    rw [of_filter_names_contains _ hnd (fun p => tmplBalOk (tt.infoOf p.1) p.2) hT hokT] at hs
    exact hs
  exact evalTmpl_some_balanced _ _ T henv
    (token_children hmk hV neutral_of_plain (TagTable.wf_entry hwf hT).2.2 hch) hTok

/-- kernel-decided: every template of the working tree is balanced, except the four that are outside the checker -/
theorem templates_balOk :
    (templates.tmpls.map (·.1)).filter (fun ty => !tagTable.balTypes.contains ty) = ["block_error", "footnote_item", "task_list_item", "toc"] := by
  decide +kernel

/-- kernel-decided: no template of the working tree runs into the hole of the checker -/
theorem templates_strict : tagTable.balStrict = true := by decide +kernel

/-- **C06 (a), balance, on the templates of the working tree** (the table conditions of `renderTok_balanced` are
kernel-decided: `templates_nodup`, `tagTable_wf`, `templates_strict`) -/
theorem render_balanced (fuel : Nat) (toks : List Json)
    (hstrip : StripAgrees ((namedRx.lookup "mistune.util._striptags_re").getD .fail))
    (h1 : toks.all (refinedOk templates fuel) = true) (h2 : toks.all (balTreeOk tagTable fuel) = true) :
    Balanced (renderToks templates (fun a => mkTEnv a true) fuel toks).erase := by
  apply balanced_of_neutral
  unfold renderToks
  apply Neutral.flatMap
  intro t ht
  exact renderTok_balanced tagTable (fun a => mkTEnv a true) (fun _ => ⟨rfl, rfl⟩)
    (fun _ => by rw [mkTEnv_striptagsRe]; exact hstrip)
    templates_nodup tagTable_wf templates_strict fuel t (List.all_eq_true.1 h1 t ht) (List.all_eq_true.1 h2 t ht)

/-- non-vacuity -/
example : Balanced "<p>a <img src=\"x\" /><br />\n<h2 id=\"k\">t</h2></p>\n".toList ∧ ¬ Balanced "<p>a</li>".toList := by
  unfold Balanced
  exact ⟨by decide +kernel, by decide +kernel⟩

/-! ### counterexample: why `renderTok_balanced` needs `hstrict`

The table below passes `Nodup`, `wf`, and its only template passes `tmplBalOk`; the token passes `refinedOk` and `balTreeOk`;
the rendering is NOT balanced.  (`StripAgrees` plays no role: the template does not use `striptags`.) -/

section Counterexample

/-- hole of `balRunPieces`: an integer argument after the name part of a tag resets `lastSlash`, but may print nothing -/
def ceBalTable : TagTable :=
  { tbl := { tmpls := [("x", .seq [.lit "<a /".toList, .arg "k" [], .lit "></a>".toList])], rawTypes := [], dataArgs := [],
             exempt := [] },
    intArgs := [("x", ["k"])] }
/-- a token of that type without the argument `k` (`None`) -/
def ceBalTok : Json := .obj [("type", .str "x".toList)]

theorem ceBal :
    (ceBalTable.tbl.tmpls.map (·.1)).Nodup ∧ ceBalTable.wf = true ∧ ceBalTable.balTypes = ["x"] ∧ ceBalTable.balStrict = false ∧
    refinedOk ceBalTable.tbl 1 ceBalTok = true ∧ balTreeOk ceBalTable 1 ceBalTok = true ∧
    (renderTok ceBalTable.tbl (fun a => mkTEnv a true) 1 ceBalTok).erase = "<a /></a>".toList ∧
    bsRun (BS.init []) (renderTok ceBalTable.tbl (fun a => mkTEnv a true) 1 ceBalTok).erase = none := by
  decide +kernel

/-- the tree theorem without `hstrict` is false -/
theorem renderTok_balanced_without_strict_false
    (hstrip : StripAgrees ((namedRx.lookup "mistune.util._striptags_re").getD .fail)) :
    ¬ (∀ (tt : TagTable) (mk : List (String × TVal) → TEnv),
        (∀ args, (mk args).escapeFlag = true ∧ (mk args).args = args) →
        (∀ args, StripAgrees (mk args).striptagsRe) →
        (tt.tbl.tmpls.map (·.1)).Nodup → tt.wf = true →
        ∀ fuel t, refinedOk tt.tbl fuel t = true → balTreeOk tt fuel t = true →
          Neutral (renderTok tt.tbl mk fuel t).erase) := by
  intro H
  obtain ⟨hnd, hwf, -, -, hrefined, htree, -, hrun⟩ := ceBal
  have h := H ceBalTable (fun a => mkTEnv a true) (fun _ => ⟨rfl, rfl⟩)
    (fun _ => by rw [mkTEnv_striptagsRe]; exact hstrip) hnd hwf 1 ceBalTok hrefined htree []
  rw [hrun] at h
  cases h

end Counterexample

end Mistune
