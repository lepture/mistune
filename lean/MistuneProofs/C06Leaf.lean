/-
C06 (c) — every text / code / raw-HTML leaf of the token tree appears in the HTML, in document order, as the operations
of its template leave it: proved for the template model, for every token tree and every depth, with no hypothesis on
the tree.  Which token types hand their children's text through and what each leaf type does to its raw text is
COMPUTED from the regenerated templates (`passOkT`, `leafOpsT`); the kernel-decided obligations at the end state those
computed facts for the templates of the working tree: `templates_leafOps` has `escape` for every leaf type except
`block_error` and `ruby`, which put the raw text out as it is.
-/
import Mistune.TmplLeaf
import Mistune.Generated.Templates
import MistuneProofs.C02Tmpl
namespace Mistune
open Mistune.Generated

theorem InOrder.padLeft (w : TStr) {bs : List TStr} {out : TStr} (h : InOrder bs out) : InOrder bs (w ++ out) := by
  cases h with
  | nil _ => exact InOrder.nil _
  | cons w' b rest out' h' =>
    have e : w ++ (w' ++ b ++ out') = (w ++ w') ++ b ++ out' := by simp only [List.append_assoc]
    rw [e]
    exact InOrder.cons _ b rest _ h'

theorem InOrder.append {as bs : List TStr} {x y : TStr} (ha : InOrder as x) (hb : InOrder bs y) : InOrder (as ++ bs) (x ++ y) := by
  induction ha with
  | nil w => exact InOrder.padLeft w hb
  | cons w b rest out _ ih =>
    have e : w ++ b ++ out ++ y = w ++ b ++ (out ++ y) := by simp only [List.append_assoc]
    rw [e]
    exact InOrder.cons w b _ _ ih

theorem InOrder.pad (w v : TStr) {bs : List TStr} {out : TStr} (h : InOrder bs out) : InOrder bs (w ++ out ++ v) := by
  have := InOrder.append (InOrder.padLeft w h) (InOrder.nil v)
  rwa [List.append_nil] at this

theorem InOrder.flatMap {α : Type} (l : List α) (f : α → List TStr) (g : α → TStr) (h : ∀ a ∈ l, InOrder (f a) (g a)) :
    InOrder (l.flatMap f) (l.flatMap g) := by
  induction l with
  | nil => exact InOrder.nil _
  | cons a l ih =>
    simp only [List.flatMap_cons]
    exact InOrder.append (h a List.mem_cons_self) (ih (fun c hc => h c (List.mem_cons_of_mem _ hc)))

theorem applyOps_nil (env : TEnv) (t : TStr) : applyOps env [] t = t := by simp [applyOps]

theorem evalPieces_pass (env : TEnv) (e : List TPiece) (h : piecesPassText e = true) :
    ∃ pre post, evalPieces env e = pre ++ (env.get "$text").toTStr ++ post := by
  fun_induction piecesPassText e with
  | case1 => simp at h
  | case2 rest =>
    refine ⟨[], evalPieces env rest, ?_⟩
    simp [evalPieces, evalPiece, applyOps_nil]
  | case3 p rest _ ih =>
    obtain ⟨pre, post, hp⟩ := ih h
    refine ⟨evalPiece env p ++ pre, post, ?_⟩
    simp only [evalPieces, hp, List.append_assoc]

theorem evalPieces_leaf (env : TEnv) (e : List TPiece) (ops : List TOp) (h : piecesTextOps e = some ops) :
    ∃ pre post, evalPieces env e = pre ++ applyOps env ops (env.get "$text").toTStr ++ post := by
  fun_induction piecesTextOps e with
  | case1 => simp at h
  | case2 ops' rest =>
    simp only [Option.some.injEq] at h
    subst h
    refine ⟨[], evalPieces env rest, ?_⟩
    simp [evalPieces, evalPiece]
  | case3 p rest _ ih =>
    obtain ⟨pre, post, hp⟩ := ih h
    refine ⟨evalPiece env p ++ pre, post, ?_⟩
    simp only [evalPieces, hp, List.append_assoc]

theorem passOkT_eq_check (T : Tmpl) :
    passOkT T = tmplCheck (fun (_ : Unit) _ => ()) (fun _ e => piecesPassText e) () T := by
  fun_induction passOkT T with
  | case4 c t e _ _ ih1 ih2 =>
    -- `passOkT` has one arm for every other condition, `tmplCheck` three, which agree where nothing is narrowed
    cases c <;> simp_all [tmplCheck]
  | _ => simp [tmplCheck, *]

/-- a template that passes the static test puts its first argument, untouched, into its result -/
theorem evalTmpl_pass (env : TEnv) (T : Tmpl) (hesc : env.escapeFlag = true) (h : passOkT T = true) :
    ∃ pre post, evalTmpl env T = some (pre ++ (env.get "$text").toTStr ++ post) := by
  rw [passOkT_eq_check] at h
  obtain ⟨out, ho, pre, post, hp⟩ := tmplCheck_sound hesc (P := fun _ _ => True)
    (Q := fun out => ∃ pre post, out = pre ++ (env.get "$text").toTStr ++ post)
    (fun _ _ _ _ _ => trivial) (fun _ _ _ _ _ => trivial) (fun _ _ _ _ _ => trivial)
    (fun _ e _ he => evalPieces_pass env e he) () T trivial h
  exact ⟨pre, post, hp ▸ ho⟩

/-- a leaf template puts `ops(first argument)` into its result -/
theorem evalTmpl_leaf (env : TEnv) (T : Tmpl) (ops : List TOp) (hesc : env.escapeFlag = true) (h : leafOpsT T = some ops) :
    ∃ pre post, evalTmpl env T = some (pre ++ applyOps env ops (env.get "$text").toTStr ++ post) := by
  fun_induction leafOpsT T generalizing ops with
  | case1 e =>
    obtain ⟨pre, post, hp⟩ := evalPieces_leaf env e ops h
    exact ⟨pre, post, by simp only [evalTmpl, hp]⟩
  | case2 t e ih =>
    have hc : evalCond env .flagEscape = true := by simp only [evalCond, hesc]
    simp only [evalTmpl]
    rw [if_pos hc]
    exact ih ops h
  | case3 t e ih =>
    have hc : ¬ evalCond env (.not .flagEscape) = true := by simp [evalCond, hesc]
    simp only [evalTmpl]
    rw [if_neg hc]
    exact ih ops h
  | case4 c t e _ _ a b h2 h1 hab ih1 ih2 =>
    simp only [Option.some.injEq] at h
    subst h
    have hb : b = a := (eq_of_beq hab).symm
    subst hb
    simp only [evalTmpl]
    split
    · exact ih1 _ h1
    · exact ih2 _ h2
  | case5 => simp at h
  | case6 => simp at h
  | case7 => simp at h

/-- **Leaves in document order**, for every template table, token and depth. -/
theorem leaves_in_order (tbl : TmplTable) (mk : List (String × TVal) → TEnv)
    (hmk : ∀ args, (mk args).escapeFlag = true ∧ (mk args).args = args) :
    ∀ fuel t, InOrder (leafBlocks tbl mk fuel t) (renderTok tbl mk fuel t) := by
  intro fuel
  induction fuel with
  | zero => intro t; exact InOrder.nil _
  | succ fuel ih =>
    intro t
    have hget : ∀ x, (mk (("$text", TVal.str x) :: tokAttrs t)).get "$text" = TVal.str x := fun x => by
      rw [get_mk hmk, get_cons_text, if_pos rfl]
    unfold renderTok leafBlocks
    simp only
    cases hT : tbl.tmpls.lookup t.type with
    | none => exact InOrder.nil _
    | some T =>
      simp only
      by_cases hr : tbl.rawTypes.contains t.type = true
      · -- a leaf shows what its template makes of the raw text
        simp only [hr, if_true]
        cases hraw : t.getStr? "raw" with
        | none => exact InOrder.nil _
        | some raw =>
          cases hops : leafOpsT T with
          | none => exact InOrder.nil _
          | some ops =>
            obtain ⟨pre, post, hp⟩ := evalTmpl_leaf (mk (("$text", .str (TStr.ofData raw)) :: tokAttrs t)) T ops (hmk _).1 hops
            simp only [Option.map_some, hp, hget, Option.getD_some, TVal.toTStr]
            exact InOrder.cons _ _ _ _ (InOrder.nil _)
      · -- a container whose template hands the text through shows the leaves of its children
        simp only [hr, Bool.false_eq_true, if_false]
        by_cases hpass : passOkT T = true
        · simp only [hpass, if_true]
          cases hch : t.get? "children" with
          | none => exact InOrder.nil _
          | some j =>
            cases j with
            | arr cs =>
              obtain ⟨pre, post, hp⟩ := evalTmpl_pass (mk (("$text", .str (cs.flatMap (renderTok tbl mk fuel))) :: tokAttrs t)) T
                (hmk _).1 hpass
              simp only [hp, hget, Option.getD_some, TVal.toTStr]
              exact InOrder.pad _ _ (InOrder.flatMap cs _ _ (fun c _ => ih c))
            | _ => exact InOrder.nil _
        · simp only [hpass, Bool.false_eq_true, if_false]
          exact InOrder.nil _

theorem leaves_in_order_doc (tbl : TmplTable) (mk : List (String × TVal) → TEnv)
    (hmk : ∀ args, (mk args).escapeFlag = true ∧ (mk args).args = args) (fuel : Nat) (toks : List Json) :
    InOrder (toks.flatMap (leafBlocks tbl mk fuel)) (renderToks tbl mk fuel toks) := by
  unfold renderToks
  exact InOrder.flatMap toks _ _ (fun t _ => leaves_in_order tbl mk hmk fuel t)

/-- what `InOrder` gives on the erased strings: each block is found after the end of the previous one -/
theorem InOrder.erase_split {bs : List TStr} {out : TStr} (h : InOrder bs out) :
    ∀ b ∈ bs, ∃ u v, out.erase = u ++ b.erase ++ v := by
  induction h with
  | nil w => intro b hb; cases hb
  | cons w b0 rest out _ ih =>
    intro b hb
    rcases List.mem_cons.1 hb with hb | hb
    · subst hb
      exact ⟨w.erase, out.erase, by simp [TStr.erase]⟩
    · obtain ⟨u, v, huv⟩ := ih b hb
      refine ⟨w.erase ++ b0.erase ++ u, v, ?_⟩
      simp only [TStr.erase, List.map_append, List.append_assoc] at huv ⊢
      rw [huv]

/-- the image of an escaped leaf is `escape(raw)` -/
theorem leaf_image_escape (env : TEnv) (raw : Str) : (applyOps env [.escape] (TStr.ofData raw)).erase = escape true raw := by
  rw [escape_eq_flatMap]
  simp only [applyOps, List.foldl_cons, List.foldl_nil, applyOp, tEscape, TStr.ofData, TStr.erase]
  induction raw with
  | nil => rfl
  | cons c r ih =>
    simp only [List.map_cons, List.flatMap_cons, List.map_append, ih, List.map_map]
    congr 1
    simp [Function.comp_def]

/-! ### obligations on the templates of the working tree (kernel-decided) -/

/-- the container types that must hand their children's text through (every type with children except those whose
template transforms the text: image → alt attribute, footnote_item / task_list_item → string surgery, toc) -/
def expectedPass : List String :=
  ["abbr", "admonition", "admonition_content", "admonition_title", "block_quote", "block_spoiler", "block_text", "def_list",
   "def_list_head", "def_list_item", "emphasis", "figcaption", "figure", "footnotes", "heading", "inline_spoiler", "insert",
   "legend", "link", "list", "list_item", "mark", "paragraph", "strikethrough", "strong", "subscript", "superscript",
   "table", "table_body", "table_cell", "table_head", "table_row"]

theorem templates_passTypes : expectedPass.all (fun ty => templates.passTypes.contains ty) = true := by decide +kernel

theorem templates_leafOps :
    templates.leafOps = [("block_code", [.escape]), ("block_error", []), ("block_html", [.strip, .escape]), ("block_math", [.escape]),
      ("codespan", [.escape]), ("include", [.escape]), ("inline_html", [.escape]), ("inline_math", [.escape]), ("ruby", []), ("text", [.escape])] := by
  decide +kernel

/-- non-vacuity: the blocks of a small tree and its rendering -/
example :
    let tok := Json.obj [("type", .str "paragraph".toList), ("children", .arr [
      Json.obj [("type", .str "text".toList), ("raw", .str "a<b".toList)],
      Json.obj [("type", .str "emphasis".toList), ("children", .arr [Json.obj [("type", .str "codespan".toList), ("raw", .str "x&y".toList)]])]])]
    (leafBlocks templates (fun a => mkTEnv a true) 5 tok).map TStr.erase = ["a&lt;b".toList, "x&amp;y".toList] ∧
    (renderTok templates (fun a => mkTEnv a true) 5 tok).erase = "<p>a&lt;b<em><code>x&amp;y</code></em></p>\n".toList := by
  decide +kernel

end Mistune
