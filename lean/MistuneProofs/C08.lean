/-
C08 — conversions are isolated from each other: for every history of conversions on one converter and for
every interleaving of concurrent conversions, each conversion returns its one-shot result.
-/
import Mistune.Conv
namespace Mistune

variable {K V Out : Type} [DecidableEq K] (compile : K → V)

/-- Storing what the key compiles to keeps the cache coherent. -/
theorem coherent_cons {c : Cache K V} (h : Coherent compile c) (k : K) :
    Coherent compile ((k, compile k) :: c) := by
  intro k' v hv
  rw [List.lookup_cons] at hv
  by_cases hk : k' = k
  · subst hk
    simp at hv
    exact hv.symm
  · have : (k' == k) = false := by simpa using hk
    rw [this] at hv
    exact h k' v hv

/-- **C08 (one call).** From a coherent cache a conversion returns its fresh-converter result and leaves the
cache coherent. -/
theorem run_indep (p : Prog K V Out) (c : Cache K V) (h : Coherent compile c) :
    (p.run compile c).2 = p.eval compile ∧ Coherent compile (p.run compile c).1 := by
  induction p generalizing c with
  | ret o => exact ⟨rfl, h⟩
  | getSc k cont ih =>
    unfold Prog.run Prog.eval
    split
    · next v hk =>
      have hv := h k v hk
      subst hv
      exact ih _ c h
    · next hk =>
      exact ih _ _ (coherent_cons compile h k)

/-- **C08 (histories).** For every sequence of conversions fed to one converter, starting from any coherent
cache (in particular the empty one), the i-th output equals the output of the i-th conversion alone on a
fresh converter. -/
theorem history_indep (ps : List (Prog K V Out)) (c : Cache K V) (h : Coherent compile c) :
    (runHistory compile ps c).2 = ps.map (fun p => p.eval compile) ∧
    Coherent compile (runHistory compile ps c).1 := by
  induction ps generalizing c with
  | nil => exact ⟨rfl, h⟩
  | cons p ps ih =>
    have hr := run_indep compile p c h
    have hi := ih _ hr.2
    simp only [runHistory, List.map_cons]
    exact ⟨by rw [hr.1, hi.1], hi.2⟩

theorem coherent_nil : Coherent compile ([] : Cache K V) := by
  intro k v h; simp at h

/-- A thread in state `t` can only ever return `o`, whatever coherent answers the cache gives. -/
def Good : Act K V Out → Out → Prop
  | .ret o', o => o' = o
  | .lookup k cont, o => Good (cont none) o ∧ Good (cont (some (compile k))) o
  | .insert k v cont, o => v = compile k ∧ Good cont o

omit [DecidableEq K] in
theorem good_toAct (p : Prog K V Out) : Good compile (p.toAct compile) (p.eval compile) := by
  induction p with
  | ret o => simp [Prog.toAct, Prog.eval, Good]
  | getSc k cont ih =>
    simp only [Prog.toAct, Prog.eval, Good]
    exact ⟨⟨trivial, ih _⟩, ih _⟩

theorem step_good {c : Cache K V} (h : Coherent compile c) (t : Act K V Out) (o : Out)
    (hg : Good compile t o) :
    Coherent compile (stepThread c t).1 ∧ Good compile (stepThread c t).2 o := by
  cases t with
  | ret o' => exact ⟨h, hg⟩
  | lookup k cont =>
    simp only [stepThread]
    refine ⟨h, ?_⟩
    simp only [Good] at hg
    cases hk : c.lookup k with
    | none => exact hg.1
    | some v =>
      have hv := h k v hk
      subst hv
      exact hg.2
  | insert k v cont =>
    simp only [stepThread]
    simp only [Good] at hg
    obtain ⟨hv, hg⟩ := hg
    subst hv
    exact ⟨coherent_cons compile h k, hg⟩

theorem schedule_gen (ps : List (Prog K V Out)) (sched : List Nat) :
    ∀ (c : Cache K V) (ts : List (Act K V Out)), Coherent compile c →
      (∀ (i : Nat) t, ts[i]? = some t → ∃ p : Prog K V Out, ps[i]? = some p ∧ Good compile t (p.eval compile)) →
      Coherent compile (runSchedule sched c ts).1 ∧
      ∀ (i : Nat) t, (runSchedule sched c ts).2[i]? = some t →
        ∃ p : Prog K V Out, ps[i]? = some p ∧ Good compile t (p.eval compile) := by
  induction sched with
  | nil => intro c ts h inv; exact ⟨h, inv⟩
  | cons i sched ih =>
    intro c ts h inv
    unfold runSchedule
    split
    · exact ih c ts h inv
    · next t hi =>
      obtain ⟨p, hp, hg⟩ := inv i t hi
      have hs := step_good compile h t _ hg
      refine ih _ _ hs.1 ?_
      intro j t' hj
      rw [List.getElem?_set] at hj
      by_cases hij : i = j
      · subst hij
        rw [if_pos rfl] at hj
        split at hj
        · injection hj with hj
          subst hj
          exact ⟨p, hp, hs.2⟩
        · cases hj
      · rw [if_neg hij] at hj
        exact inv j t' hj

/-- **C08 (schedules).** For every pool of concurrent conversions, every schedule of their atomic cache
accesses (any length, any fairness) and every coherent starting cache: each thread that has finished returned
exactly its one-shot result, and the cache is still coherent. -/
theorem schedule_indep (ps : List (Prog K V Out)) (sched : List Nat) (c : Cache K V)
    (h : Coherent compile c) :
    Coherent compile (runSchedule sched c (ps.map (fun p => p.toAct compile))).1 ∧
    ∀ (i : Nat) o, (runSchedule sched c (ps.map (fun p => p.toAct compile))).2[i]? = some (Act.ret o) →
      ∃ p : Prog K V Out, ps[i]? = some p ∧ o = p.eval compile := by
  have key := schedule_gen compile ps sched c (ps.map (fun p => p.toAct compile)) h (by
    intro i t hi
    rw [List.getElem?_map] at hi
    cases hp : ps[i]? with
    | none => rw [hp] at hi; cases hi
    | some p =>
      rw [hp] at hi
      simp only [Option.map_some] at hi
      injection hi with hi
      subst hi
      exact ⟨p, rfl, good_toAct compile p⟩)
  exact ⟨key.1, fun i _ hi => key.2 i _ hi⟩

/-- the number of cache accesses on the path a conversion takes -/
def Prog.depth (compile : K → V) : Prog K V Out → Nat
  | .ret _ => 0
  | .getSc k cont => (cont (compile k)).depth compile + 1

theorem runSchedule_append (s1 s2 : List Nat) (c : Cache K V) (ts : List (Act K V Out)) :
    runSchedule (s1 ++ s2) c ts = runSchedule s2 (runSchedule s1 c ts).1 (runSchedule s1 c ts).2 := by
  induction s1 generalizing c ts with
  | nil => rfl
  | cons i s1 ih =>
    cases hi : ts[i]? with
    | none =>
      simp only [List.cons_append, runSchedule, hi]
      exact ih c ts
    | some t =>
      simp only [List.cons_append, runSchedule, hi]
      exact ih _ _

theorem runSchedule_single (s : List Nat) (c : Cache K V) (t : Act K V Out) :
    runSchedule (0 :: s) c [t] = runSchedule s (stepThread c t).1 [(stepThread c t).2] := by
  simp [runSchedule]

/-- …and a thread scheduled often enough does finish (no thread can be blocked by another): running it alone for
`2 * depth` steps ends it.  Two steps per cache access: the `lookup` and, on a miss, the `insert`; after a hit the
spare step comes last and finds the thread finished, which does not move. -/
theorem thread_finishes (p : Prog K V Out) (c : Cache K V) (h : Coherent compile c) :
    ∃ c', runSchedule (List.replicate (2 * p.depth compile) 0) c [p.toAct compile]
      = (c', [Act.ret (p.eval compile)]) := by
  induction p generalizing c with
  | ret o => exact ⟨c, rfl⟩
  | getSc k cont ih =>
    have hd : 2 * Prog.depth compile (Prog.getSc k cont)
        = 2 * Prog.depth compile (cont (compile k)) + 1 + 1 := by
      simp only [Prog.depth]; omega
    rw [hd, List.replicate_succ, runSchedule_single]
    simp only [Prog.toAct, stepThread, Prog.eval]
    cases hk : c.lookup k with
    | some v =>
      have hv := h k v hk
      subst hv
      obtain ⟨c', hc'⟩ := ih (compile k) c h
      refine ⟨c', ?_⟩
      simp only []
      rw [List.replicate_succ', runSchedule_append, hc']
      rfl
    | none =>
      obtain ⟨c', hc'⟩ := ih (compile k) _ (coherent_cons compile h k)
      refine ⟨c', ?_⟩
      simp only []
      rw [List.replicate_succ, runSchedule_single]
      exact hc'

end Mistune
