/-
C10 (a plugin rule whose required character is absent cannot change what the scanner finds) and
C09 (inside a text chunk claimed by the speedup rule no other rule can start): generic theorems over any
subject and any rule table, from the soundness of the matcher (`Engine/Sound`) and of the analyses `needs` /
`firstChars` (`needs_occur`, `firstChars_sound` in `Engine/Analyses`).
-/
import Mistune.Scanner
import MistuneProofs.Engine.Sound
import MistuneProofs.Engine.Analyses
namespace Mistune

/-- a regex one of whose needed characters does not occur in the subject matches nowhere -/
theorem no_match_without_needed (x : RxCtx) (r : Rx) (ch : Nat) (hch : ch ∈ r.needs)
    (habs : ∀ p, p < x.n → x.chr p ≠ ch) (q : Nat) : r.matchAt x q = none := by
  cases hm : r.matchAt x q with
  | none => rfl
  | some mt =>
    exfalso
    obtain ⟨_, hs⟩ := matchAt_sound x r q mt hm
    obtain ⟨p, _, _, hp, hpc⟩ := needs_occur x r _ _ _ _ hs ch hch
    exact habs p hp hpc

theorem scanAt_irrelevant_rule (x : RxCtx) (rules1 rules2 : List (String × Rx)) (name : String) (r : Rx)
    (hno : ∀ q, r.matchAt x q = none) (q : Nat) :
    scanAt x (rules1 ++ (name, r) :: rules2) q = scanAt x (rules1 ++ rules2) q := by
  induction rules1 with
  | nil => simp only [List.nil_append, scanAt, hno q]
  | cons hd tl ih =>
    obtain ⟨nm, r'⟩ := hd
    simp only [List.cons_append, scanAt, ih]

theorem scanFrom_congr (x : RxCtx) (rs rs' : List (String × Rx))
    (hq : ∀ q, scanAt x rs q = scanAt x rs' q) :
    ∀ fuel pos, scanFrom x rs fuel pos = scanFrom x rs' fuel pos := by
  intro fuel
  induction fuel with
  | zero => intro pos; simp only [scanFrom]
  | succ fuel ih =>
    intro pos
    simp only [scanFrom, hq, ih]

/-- **C10 (scanner level).** Adding, at any place of the rule list, a rule that needs a character the
subject does not contain leaves every scanner result unchanged. -/
theorem scan_irrelevant_rule (x : RxCtx) (rules1 rules2 : List (String × Rx)) (name : String) (r : Rx)
    (ch : Nat) (hch : ch ∈ r.needs) (habs : ∀ p, p < x.n → x.chr p ≠ ch) (pos : Nat) :
    scan x (rules1 ++ (name, r) :: rules2) pos = scan x (rules1 ++ rules2) pos := by
  unfold scan
  exact scanFrom_congr x _ _
    (scanAt_irrelevant_rule x rules1 rules2 name r (no_match_without_needed x r ch hch habs)) _ _

/-- **C09 (scanner level).** If every rule of a table can only start with a stop character and consumes at
least one character, then at a position whose character is not a stop character no rule matches. -/
theorem no_rule_at_nonstop (x : RxCtx) (rules : List (String × Rx)) (stops : List Nat)
    (hr : ∀ p ∈ rules, ∃ l, p.2.firstChars = some l ∧ ∀ ch ∈ l, ch ∈ stops)
    (hc : rulesConsume rules = true) (q : Nat) (hq : x.chr q ∉ stops) : scanAt x rules q = none := by
  induction rules with
  | nil => simp only [scanAt]
  | cons hd tl ih =>
    obtain ⟨nm, r⟩ := hd
    simp only [rulesConsume, List.all_cons, Bool.and_eq_true, decide_eq_true_eq] at hc
    have htl : scanAt x tl q = none :=
      ih (fun p hp => hr p (List.mem_cons_of_mem _ hp)) (by simpa [rulesConsume] using hc.2)
    simp only [scanAt]
    cases hm : r.matchAt x q with
    | none => simpa using htl
    | some mt =>
      exfalso
      obtain ⟨_, hs⟩ := matchAt_sound x r q mt hm
      have hlt := nonempty_of_minLen x r _ _ _ _ hs hc.1
      obtain ⟨l, hl1, hl2⟩ := hr (nm, r) (List.mem_cons_self ..)
      exact hq (hl2 _ (firstChars_sound x r l hl1 _ _ _ _ hs hlt))

theorem clsTest_anything (t : CatTables) (ch : Nat) :
    clsTest t false [.cat false .space, .cat true .space] ch = true := by
  cases hsp : t.isSpace ch <;> simp [clsTest, ClsItem.test, hsp]

/-- the lazy `+?` loop over a body that accepts every character, after at least one iteration: the
continuation succeeds at the first position where it can -/
theorem lazyLoop_first {R : Type} (x : RxCtx)
    (mr : Nat → Caps → (Nat → Caps → Option R) → Option R)
    (hmr : ∀ i c k, mr i c k = if i < x.n then k (i + 1) c else none)
    (k : Nat → Caps → Option R) (res : R) :
    ∀ fuel cnt i c, 1 ≤ cnt → i ≤ x.n → repLoop mr 1 none false k fuel cnt true i c = some res →
      ∃ j, i ≤ j ∧ j ≤ x.n ∧ k j c = some res ∧ ∀ q, i ≤ q → q < j → k q c = none := by
  intro fuel
  induction fuel with
  | zero => intro cnt i c _ _ h; simp [repLoop] at h
  | succ fuel ih =>
    intro cnt i c hcnt hi h
    simp only [repLoop, Bool.false_eq_true, if_false, ge_iff_le, hcnt, if_true, Bool.true_and,
      Bool.or_true, Bool.true_or] at h
    cases hk : k i c with
    | some r =>
      rw [hk] at h
      simp only [Option.some.injEq] at h
      subst h
      exact ⟨i, Nat.le_refl _, hi, hk, fun q h1 h2 => by omega⟩
    | none =>
      rw [hk] at h
      simp only [hmr] at h
      split at h
      · rename_i hlt
        have hadv : (i + 1 != i) = true := by simp
        rw [hadv] at h
        obtain ⟨j, j1, j2, j3, j4⟩ := ih (cnt + 1) (i + 1) c (by omega) (by omega) h
        refine ⟨j, by omega, j2, j3, ?_⟩
        intro q q1 q2
        by_cases hqi : q = i
        · subst hqi; exact hk
        · exact j4 q (by omega) q2
      · simp at h

/-- The lazy `[\s\S]+?` followed by a look-ahead `la` stops at the FIRST position after the start where the
look-ahead holds (priority semantics of the lazy repeat, proved for this shape). -/
theorem lazy_text_first (x : RxCtx) (la : Rx) (w : Nat) (p : Nat) (mt : RxMatch)
    (h : (Rx.seq (.rep (.cls false [.cat false .space, .cat true .space]) 1 none false)
            (.look true false w la)).matchAt x p = some mt) :
    p < mt.stop ∧ mt.stop ≤ x.n ∧
    (la.m x mt.stop [] (fun _ c => some c)).isSome = true ∧
    ∀ q, p < q → q < mt.stop → la.m x q [] (fun _ c => some c) = none := by
  unfold Rx.matchAt at h
  simp only [Rx.m] at h
  have hmr : ∀ (i : Nat) (c : Caps) (k : Nat → Caps → Option RxMatch),
      (fun i c k => if (decide (i < x.n) && clsTest x.t false [.cat false .space, .cat true .space] (x.chr i)) = true
        then k (i + 1) c else none) i c k = if i < x.n then k (i + 1) c else none := by
    intro i c k
    simp [clsTest_anything]
  generalize (fun (i : Nat) (c : Caps) (k : Nat → Caps → Option RxMatch) =>
      if (decide (i < x.n) && clsTest x.t false [.cat false .space, .cat true .space] (x.chr i)) = true
        then k (i + 1) c else none) = mr at h hmr
  generalize hfuel : x.n + 1 + 2 - p = fuel at h
  cases fuel with
  | zero => simp [repLoop] at h
  | succ fuel =>
    have h10 : ¬ (1 ≤ 0) := by omega
    simp only [repLoop, Bool.false_eq_true, if_false, ge_iff_le, h10,
      Nat.lt_add_one, decide_true, Bool.true_and, Bool.true_or, if_true, hmr] at h
    by_cases hlt : p < x.n
    · have hadv : (p + 1 != p) = true := by simp
      simp only [hlt, if_true, hadv] at h
      obtain ⟨j, j1, j2, j3, j4⟩ :=
        lazyLoop_first x mr hmr _ mt fuel 1 (p + 1) [] (Nat.le_refl _) (by omega) h
      cases hla : la.m x j [] (fun _ c' => some c') with
      | none => rw [hla] at j3; simp at j3
      | some c'' =>
        rw [hla] at j3
        simp only [Option.some.injEq] at j3
        subst j3
        refine ⟨by show p < j; omega, j2, by show (la.m x j [] _).isSome = true; rw [hla]; rfl, ?_⟩
        intro q q1 q2
        have := j4 q (by omega) q2
        cases hq : la.m x q [] (fun _ c' => some c') with
        | none => rfl
        | some cq => rw [hq] at this; simp at this
    · simp only [hlt, if_false] at h
      cases h

/-- a look-ahead whose first alternative is the stop class holds at every stop character inside the subject -/
theorem stop_class_holds (x : RxCtx) (items : List ClsItem) (rest : Rx) (q : Nat) (hq : q < x.n)
    (hs : clsTest x.t false items (x.chr q) = true) :
    ((Rx.alt (.cls false items) rest).m x q [] (fun _ c => some c)).isSome = true := by
  simp only [Rx.m, hq, hs, decide_true, Bool.and_self, if_true, Option.isSome_some]

/-- **C09 (chunk is clean).** Combining the three: inside the span claimed by the speedup text rule, strictly
after its first character, no rule of a table that can only start with stop characters matches. -/
theorem speedup_chunk_clean (x : RxCtx) (rules : List (String × Rx)) (items : List ClsItem) (rest : Rx) (w : Nat)
    (stops : List Nat) (hst : expandItems items = some stops)
    (hr : ∀ p ∈ rules, ∃ l, p.2.firstChars = some l ∧ ∀ ch ∈ l, ch ∈ stops)
    (hc : rulesConsume rules = true) (p : Nat) (mt : RxMatch)
    (h : (Rx.seq (.rep (.cls false [.cat false .space, .cat true .space]) 1 none false)
            (.look true false w (.alt (.cls false items) rest))).matchAt x p = some mt) :
    ∀ q, p < q → q < mt.stop → scanAt x rules q = none := by
  intro q hq1 hq2
  obtain ⟨_, h2, _, h4⟩ := lazy_text_first x _ w p mt h
  have hnone := h4 q hq1 hq2
  apply no_rule_at_nonstop x rules stops hr hc q
  intro hmem
  have hs := (expandItems_mem_iff x.t items stops hst (x.chr q)).2 hmem
  have := stop_class_holds x items rest q (by omega) hs
  rw [hnone] at this
  simp at this

end Mistune

