/-
C10 "a plugin only affects documents that use its syntax", for the CONCRETE inline parser model
(`Mistune.Model.Inl`): a configuration `cfg'` that differs from `cfg` by ONE more inline rule `name` whose pattern
NEEDS a character `ch` (`Rx.needs`) parses every `ch`-free source exactly as `cfg` does (tokens and errors).

The heart is the closure invariant `PX ch st.x` ("the subject of the state contains no `ch`"): every source the
inline parser is run on while it parses `src` (children of emphasis / strong / link / image / plugin spans, the
speculative calls of `precedence_scan`) is built from characters of the parent subject.  The two parses run in
lock-step (`Agree`): induction on the nesting budget of `recAt`.
-/
import Mistune.Model.Inline
import MistuneProofs.C09C10
import MistuneProofs.C01Loops
import MistuneProofs.C10InlineFrame
namespace Mistune
namespace Model
namespace Inl

/-! ### character-freeness -/

/-- no character of `s` has code `ch` -/
def CF (ch : Nat) (s : Str) : Prop := ∀ c ∈ s, c.toNat ≠ ch

instance (ch : Nat) (s : Str) : Decidable (CF ch s) := by unfold CF; exact inferInstance

/-- the matching context has a `ch`-free subject (and a sane end position) -/
def PX (ch : Nat) (x : RxCtx) : Prop := CF ch x.s.toList ∧ x.n ≤ x.s.size

theorem CF.mono {ch : Nat} {s t : Str} (h : CF ch s) (hsub : ∀ c ∈ t, c ∈ s) : CF ch t := fun c hc => h c (hsub c hc)

theorem cf_slice {ch : Nat} {a : Array Char} (h : CF ch a.toList) (i j : Nat) : CF ch (Py.slice a i j) := by
  refine h.mono (fun c hc => ?_)
  unfold Py.slice at hc
  rw [Array.toList_extract, List.extract] at hc
  exact List.mem_of_mem_drop (List.mem_of_mem_take hc)

theorem CF.dropLast {ch : Nat} {s : Str} (h : CF ch s) : CF ch s.dropLast :=
  h.mono (fun _ hc => (List.dropLast_sublist s).subset hc)

theorem CF.drop {ch : Nat} {s : Str} (h : CF ch s) (k : Nat) : CF ch (s.drop k) :=
  h.mono (fun _ hc => List.mem_of_mem_drop hc)

theorem px_mkCtx {ch : Nat} {t : Str} (h : CF ch t) : PX ch (mkCtx t t.length) := by
  refine ⟨?_, ?_⟩
  · simpa [mkCtx] using h
  · simp [mkCtx]

theorem px_habs {ch : Nat} {x : RxCtx} (h : PX ch x) : ∀ p, p < x.n → x.chr p ≠ ch := by
  intro p hp
  have hp' : p < x.s.size := Nat.lt_of_lt_of_le hp h.2
  unfold RxCtx.chr
  rw [Array.getD_eq_getD_getElem?, Array.getElem?_eq_getElem hp']
  exact h.1 _ (by simp)

/-- truncating the end position keeps `PX` -/
theorem px_trunc {ch : Nat} {x : RxCtx} (h : PX ch x) (e : Nat) : PX ch { x with n := min e x.n } :=
  ⟨h.1, Nat.le_trans (Nat.min_le_right _ _) h.2⟩

theorem startsWith_mem : ∀ (s p : Str), Py.startsWith s p = true → ∀ c ∈ p, c ∈ s
  | _, [], _, c, hc => by cases hc
  | [], _ :: _, h, _, _ => by simp [Py.startsWith] at h
  | a :: s, b :: p, h, c, hc => by
    simp only [Py.startsWith, Bool.and_eq_true, beq_iff_eq] at h
    rcases List.mem_cons.1 hc with rfl | hc
    · rw [← h.1]; exact List.mem_cons_self
    · exact List.mem_cons_of_mem _ (startsWith_mem s p h.2 c hc)

theorem replaceAll_go_mem (old new : Str) (hnew : ∀ c ∈ new, c ∈ old) :
    ∀ (fuel : Nat) (s : Str), ∀ c ∈ Py.replaceAll.go old new s fuel, c ∈ s := by
  intro fuel
  induction fuel with
  | zero =>
    intro s c hc
    cases s with
    | nil => simp [Py.replaceAll.go] at hc
    | cons a r => simpa [Py.replaceAll.go] using hc
  | succ fuel ih =>
    intro s c hc
    cases s with
    | nil => simp [Py.replaceAll.go] at hc
    | cons a r =>
      simp only [Py.replaceAll.go] at hc
      split at hc
      · rename_i hsw
        rcases List.mem_append.1 hc with h | h
        · exact startsWith_mem _ _ hsw c (hnew c h)
        · exact List.mem_of_mem_drop (ih _ c h)
      · rcases List.mem_cons.1 hc with rfl | h
        · exact List.mem_cons_self
        · exact List.mem_cons_of_mem _ (ih _ c h)

/-- `s.replace(old, new)` brings in no new character when every character of `new` occurs in `old` -/
theorem cf_replaceAll {ch : Nat} (old new : Str) (hnew : ∀ c ∈ new, c ∈ old) {s : Str} (h : CF ch s) :
    CF ch (Py.replaceAll old new s) := by
  unfold Py.replaceAll
  split
  · exact h
  · exact h.mono (replaceAll_go_mem old new hnew _ _)

theorem cf_scriptText {ch : Nat} {s : Str} (h : CF ch s) : CF ch (scriptText s) := by
  unfold scriptText
  exact cf_replaceAll _ _ (by decide) (h.drop 1).dropLast

theorem cf_groupNamed {ch : Nat} (cfg : MdCfg) {a : Array Char} (h : CF ch a.toList) (m : RxMatch) (g : String) :
    CF ch (groupNamed cfg a m g) := by
  unfold groupNamed
  split
  · unfold Py.groupStr
    cases m.group _ with
    | none => intro c hc; cases hc
    | some p => exact cf_slice h _ _
  · intro c hc; cases hc


/-! ### the two configurations -/

/-- `cfg` with another name and other inline tables (`inline.rules`, `inline.specification`); everything else
(block tables, module-level patterns, group indices, hooks, flags) is `cfg`'s -/
def withInline (cfg : MdCfg) (nm : String) (rules : List String) (spec : List (String × Rx)) : MdCfg :=
  { cfg with name := nm, inlineRules := rules, inlineSpec := spec }

/-- the rule names `precedence_scan` is called with, and what it turns them into (`lastgroup.replace("prec_", "")`) -/
def precNames : List String := ["codespan", "link", "prec_auto_link", "prec_inline_html"]

abbrev precStrip (n : String) : String := String.ofList (Py.replaceAll "prec_".toList [] n.toList)

/-- what the proof needs from the pair of inline tables: they agree away from `name`, and `name` is none of the
rule names that handlers look up themselves (`precedence_scan`; the fallback of `_ruby_re`) -/
structure Side (cfg : MdCfg) (rules : List String) (spec : List (String × Rx)) (name : String) : Prop where
  spec : ∀ n, n ≠ name → spec.lookup n = cfg.inlineSpec.lookup n
  rules : ∀ n, n ≠ name → rules.contains n = cfg.inlineRules.contains n
  prec : ∀ n ∈ precNames, n ≠ name ∧ precStrip n ≠ name
  ruby : name ≠ "ruby" ∨ (cfg.named.lookup "mistune.plugins.ruby._ruby_re").isSome = true

section
variable {cfg : MdCfg} {nm : String} {rules : List String} {spec : List (String × Rx)} {name : String} {ch : Nat}

local notation "cfg'" => withInline cfg nm rules spec

theorem compileSc_eq (hs : Side cfg rules spec name) (rs : List String) (h : name ∉ rs) :
    compileSc cfg' rs = compileSc cfg rs := by
  unfold compileSc
  induction rs with
  | nil => rfl
  | cons a l ih =>
    have ha : a ≠ name := fun e => h (e ▸ List.mem_cons_self)
    simp only [List.mapM_cons]
    rw [ih (fun hm => h (List.mem_cons_of_mem _ hm))]
    have : (withInline cfg nm rules spec).inlineSpec.lookup a = cfg.inlineSpec.lookup a := hs.spec a ha
    rw [this]

theorem compileSc_names (cfg : MdCfg) : ∀ (rs : List String) (sc : List (String × Rx)),
    compileSc cfg rs = .ok sc → ∀ p ∈ sc, p.1 ∈ rs := by
  intro rs
  unfold compileSc
  induction rs with
  | nil =>
    intro sc h p hp
    simp only [List.mapM_nil, pure, Except.pure, Except.ok.injEq] at h
    subst h; cases hp
  | cons a l ih =>
    intro sc h p hp
    simp only [List.mapM_cons] at h
    cases hl : cfg.inlineSpec.lookup a with
    | none => simp only [hl, bind, Except.bind] at h; cases h
    | some r =>
      simp only [hl, bind, Except.bind] at h
      split at h
      · cases h
      · rename_i bs hm
        simp only [pure, Except.pure, Except.ok.injEq] at h
        subst h
        rcases List.mem_cons.1 hp with rfl | hp
        · exact List.mem_cons_self
        · exact List.mem_cons_of_mem _ (ih bs hm p hp)

theorem parseLinkTextLoop_cfg (x : RxCtx) : ∀ fuel pos level,
    parseLinkTextLoop cfg' x fuel pos level = parseLinkTextLoop cfg x fuel pos level := by
  intro fuel
  induction fuel with
  | zero => intro pos level; rfl
  | succ f ih =>
    intro pos level
    simp only [parseLinkTextLoop, ih]
    rfl

theorem parseLinkText_cfg (x : RxCtx) (pos : Nat) : parseLinkText cfg' x pos = parseLinkText cfg x pos := by
  unfold parseLinkText
  rw [parseLinkTextLoop_cfg]

theorem rubyRe_cfg (hs : Side cfg rules spec name) : rubyRe cfg' = rubyRe cfg := by
  unfold rubyRe
  rcases hs.ruby with h | h
  · have : (withInline cfg nm rules spec).inlineSpec.lookup "ruby" = cfg.inlineSpec.lookup "ruby" :=
      hs.spec "ruby" (Ne.symm h)
    rw [this]
    rfl
  · have hn : (withInline cfg nm rules spec).named = cfg.named := rfl
    rw [hn]
    cases hl : cfg.named.lookup "mistune.plugins.ruby._ruby_re" with
    | none => rw [hl] at h; cases h
    | some r => rfl

theorem rubyLoop_cfg (hs : Side cfg rules spec name) : ∀ fuel m st,
    rubyLoop cfg' fuel m st = rubyLoop cfg fuel m st := by
  intro fuel
  induction fuel with
  | zero => intro m st; rfl
  | succ f ih =>
    intro m st
    simp only [rubyLoop, ih, rubyRe_cfg hs]

theorem parseRuby_cfg (hs : Side cfg rules spec name) (m : RxMatch) (st : InlineState) :
    parseRuby cfg' m st = parseRuby cfg m st := by
  unfold parseRuby
  rw [rubyLoop_cfg hs]
  rfl

/-! ### the recursive entry points agree on `ch`-free subjects -/

/-- the entry points of the two parsers agree on every state whose subject is `ch`-free (for the speculative handler
call: for every rule but the additional one) -/
structure Agree (ch : Nat) (name : String) (R' R : Rec) : Prop where
  renderSt : ∀ st, PX ch st.x → R'.renderSt st = R.renderSt st
  call : ∀ n m st, n ≠ name → PX ch st.x → R'.call n m st = R.call n m st

variable {R' R : Rec}

theorem renderIn_eq (hR : Agree ch name R' R) (child st : InlineState) (h : PX ch child.x) :
    R'.renderIn child st = R.renderIn child st := by
  unfold Rec.renderIn
  rw [hR.renderSt _ h]

theorem bind_congr_ok {ε α β : Type} {x : Except ε α} {f g : α → Except ε β}
    (h : ∀ a, x = .ok a → f a = g a) : x >>= f = x >>= g := by
  cases x with
  | error e => rfl
  | ok a => exact h a rfl

theorem ite_bind {ε α β : Type} {c : Prop} [Decidable c] (a b : Except ε α) (k : α → Except ε β) :
    (if c then a >>= k else b >>= k) = (if c then a else b) >>= k := by
  split <;> rfl

/-- a child state whose subject is a `ch`-free text: the two `render`s agree -/
theorem renderIn_child (hR : Agree ch name R' R) {child st : InlineState} {t : Str}
    (hx : child.x = mkCtx t t.length) (ht : CF ch t) : R'.renderIn child st = R.renderIn child st :=
  renderIn_eq hR _ _ (hx ▸ px_mkCtx ht)

theorem cf_stslice {st : InlineState} (hst : PX ch st.x) (i j : Nat) : CF ch (st.slice i j) := cf_slice hst.1 i j

/-! ### children sources are `ch`-free: handler by handler -/

theorem parseToEnd_eq (hR : Agree ch name R' R) (ty : String) (re : Rx) (m : RxMatch) (st : InlineState)
    (hst : PX ch st.x) : parseToEnd R' ty re m st = parseToEnd R ty re m st := by
  unfold parseToEnd renderChildren
  dsimp only
  cases re.search st.x m.stop with
  | none => rfl
  | some m1 =>
    dsimp only
    rw [renderIn_child hR rfl (cf_stslice hst _ _)]

theorem parseScript_eq (hR : Agree ch name R' R) (ty : String) (m : RxMatch) (st : InlineState)
    (hst : PX ch st.x) : parseScript R' ty m st = parseScript R ty m st := by
  unfold parseScript renderChildren group0
  dsimp only
  rw [renderIn_child hR rfl (cf_scriptText (cf_stslice hst _ _))]

theorem parseInlineSpoiler_eq (hR : Agree ch name R' R) (m : RxMatch) (st : InlineState)
    (hst : PX ch st.x) : parseInlineSpoiler cfg' R' m st = parseInlineSpoiler cfg R m st := by
  unfold parseInlineSpoiler renderChildren
  dsimp only
  rw [renderIn_child hR rfl (cf_groupNamed _ hst.1 m _)]
  rfl

theorem precedenceScan_eq (hs : Side cfg rules spec name) (hR : Agree ch name R' R) (m : RxMatch)
    (st : InlineState) (endPos : Nat) (rs : List String) (hrs : ∀ n ∈ rs, n ∈ precNames) (hst : PX ch st.x) :
    precedenceScan cfg' R' m st endPos rs = precedenceScan cfg R m st endPos rs := by
  have hnot : name ∉ rs := fun h => (hs.prec _ (hrs _ h)).1 rfl
  unfold precedenceScan
  dsimp only
  rw [compileSc_eq hs rs hnot]
  refine bind_congr_ok (fun sc hsc => ?_)
  cases hscan : scan { st.x with n := min endPos st.x.n } sc m.stop with
  | none => rfl
  | some p =>
    obtain ⟨lg, m1⟩ := p
    dsimp only
    have hlg : lg ∈ rs := by
      obtain ⟨_, _, _, ⟨r, hmem, _⟩, _⟩ := scan_sound _ _ _ _ _ hscan
      exact compileSc_names cfg rs sc hsc _ hmem
    have hne : precStrip lg ≠ name := (hs.prec _ (hrs _ hlg)).2
    rw [compileSc_eq hs [precStrip lg] (by simp only [List.mem_singleton]; exact fun h => hne h.symm)]
    refine bind_congr_ok (fun sc2 _ => ?_)
    cases scanAt st.x sc2 m1.start with
    | none => rfl
    | some q =>
      obtain ⟨_, m2⟩ := q
      dsimp only
      rw [hR.call _ m2 (st.copy.setSrcOf st) hne hst]

theorem wi_named : (withInline cfg nm rules spec).named = cfg.named := rfl

theorem parseEmphasis_eq (hs : Side cfg rules spec name) (hR : Agree ch name R' R) (m : RxMatch)
    (st : InlineState) (hst : PX ch st.x) : parseEmphasis cfg' R' m st = parseEmphasis cfg R m st := by
  unfold parseEmphasis
  rw [wi_named]
  dsimp only
  refine ite_congr rfl (fun _ => rfl) (fun _ => ?_)
  refine ite_congr rfl (fun _ => rfl) (fun _ => ?_)
  split
  case h_2 => rfl
  refine bind_congr_ok (fun endRe _ => ?_)
  cases endRe.search st.x m.stop with
  | none => rfl
  | some m1 =>
    dsimp only
    rw [precedenceScan_eq hs hR _ _ _ _ (by decide) hst]
    refine bind_congr_ok (fun ps _ => ?_)
    -- the children of all three token shapes are parsed from a slice of the subject
    have hc : CF ch (st.slice m.stop (m1.stop - (group0 st m).length)) := cf_stslice hst _ _
    refine ite_congr rfl (fun _ => rfl) (fun _ => ?_)
    refine ite_congr rfl (fun _ => ?_) (fun _ => ite_congr rfl (fun _ => ?_) (fun _ => ?_))
    · rw [renderIn_child hR rfl hc]
    · rw [renderIn_child hR rfl hc]
    · rw [renderIn_child hR rfl hc]

theorem parseLinkToken_eq (hR : Agree ch name R' R) (isImage : Bool) (text : Str) (attrs : Json) (st : InlineState)
    (ht : CF ch text) : parseLinkToken R' isImage text attrs st = parseLinkToken R isImage text attrs st := by
  unfold parseLinkToken
  dsimp only
  split
  · rw [renderIn_child hR rfl ht]
  · rw [renderIn_child hR rfl ht]

theorem parseLinkRef_eq (hR : Agree ch name R' R) (isImage : Bool) (text : Str) (label : Option Str) (endPos : Nat)
    (st : InlineState) (ht : CF ch text) :
    parseLinkRef R' isImage text label endPos st = parseLinkRef R isImage text label endPos st := by
  unfold parseLinkRef
  simp only [parseLinkToken_eq hR _ _ _ _ ht]

theorem parseLinkLabel_cf {x : RxCtx} (h : PX ch x) (c : MdCfg) (p : Nat) (l : Str) (e : Nat)
    (hl : parseLinkLabel c x p = some (l, e)) : CF ch l := by
  unfold parseLinkLabel at hl
  split at hl
  · simp only [Option.some.injEq, Prod.mk.injEq] at hl
    rw [← hl.1]; exact (cf_slice h.1 _ _).dropLast
  · cases hl

theorem parseLinkText_cf {x : RxCtx} (h : PX ch x) (c : MdCfg) (p : Nat) (t : Str) (e : Nat)
    (hl : parseLinkText c x p = .ok (some (t, e))) : CF ch t := by
  unfold parseLinkText at hl
  cases hloop : parseLinkTextLoop c x (x.s.size + 1 - p) p 1 with
  | error err => rw [hloop] at hl; cases hl
  | ok o =>
    rw [hloop] at hl
    cases o with
    | none => simp [bind, Except.bind, pure, Except.pure] at hl
    | some q =>
      simp only [bind, Except.bind, pure, Except.pure, Except.ok.injEq, Option.some.injEq, Prod.mk.injEq] at hl
      rw [← hl.1]; exact cf_slice h.1 _ _

theorem parseLinkLabel_cfg (x : RxCtx) (p : Nat) : parseLinkLabel cfg' x p = parseLinkLabel cfg x p := rfl
theorem parseLinkH_cfg (x : RxCtx) (p : Nat) : parseLinkH cfg' x p = parseLinkH cfg x p := rfl

theorem parseLink_eq (hs : Side cfg rules spec name) (hR : Agree ch name R' R) (m : RxMatch)
    (st : InlineState) (hst : PX ch st.x) : parseLink cfg' R' m st = parseLink cfg R m st := by
  unfold parseLink
  dsimp only
  rw [parseLinkLabel_cfg, parseLinkText_cfg]
  cases group0 st m with
  | nil => exact bind_congr_ok (fun _ h => nomatch h)
  | cons c tl =>
    refine bind_congr_ok (fun c0 _ => ite_congr rfl (fun _ => rfl) (fun _ => ite_congr rfl (fun _ => rfl) (fun _ => ?_)))
    -- the link text is the label or the bracketed text: a slice of the subject either way
    cases hlab : parseLinkLabel cfg st.x m.stop with
    | some le =>
      have ht : CF ch le.1 := parseLinkLabel_cf hst cfg m.stop le.1 le.2 hlab
      refine bind_congr_ok (fun te hte => ?_)
      cases hte
      refine ite_congr rfl (fun _ => rfl) (fun _ => ?_)
      rw [precedenceScan_eq hs hR _ _ _ _ (by decide) hst]
      refine bind_congr_ok (fun ps _ => ?_)
      simp only [parseLinkToken_eq hR _ _ _ _ ht, parseLinkRef_eq hR _ _ _ _ _ ht, parseLinkH_cfg, parseLinkLabel_cfg]
    | none =>
      refine bind_congr_ok (fun te hte => ?_)
      cases te with
      | none => rfl
      | some p =>
        have ht : CF ch p.1 := parseLinkText_cf hst cfg m.stop p.1 p.2 hte
        refine ite_congr rfl (fun _ => rfl) (fun _ => ?_)
        rw [precedenceScan_eq hs hR _ _ _ _ (by decide) hst]
        refine bind_congr_ok (fun ps _ => ?_)
        simp only [parseLinkToken_eq hR _ _ _ _ ht, parseLinkRef_eq hR _ _ _ _ _ ht, parseLinkH_cfg, parseLinkLabel_cfg]

/-- **the dispatcher**: every rule but the additional one has the same handler result in both parsers -/
theorem parseMethod_eq (hs : Side cfg rules spec name) (hR : Agree ch name R' R) (n : String) (hn : n ≠ name)
    (m : RxMatch) (st : InlineState) (hst : PX ch st.x) :
    parseMethod cfg' R' n m st = parseMethod cfg R n m st := by
  unfold parseMethod
  rw [show (withInline cfg nm rules spec).inlineRules.contains n = cfg.inlineRules.contains n from hs.rules n hn]
  split
  · rfl
  split
  · rfl                                            -- escape
  · rfl                                            -- codespan
  · exact parseEmphasis_eq hs hR m st hst
  · exact parseLink_eq hs hR m st hst
  · rfl                                            -- auto_link
  · rfl                                            -- auto_email
  · rfl                                            -- inline_html
  · rfl                                            -- linebreak
  · rfl                                            -- softbreak
  · rfl                                            -- footnote
  · exact parseToEnd_eq hR _ _ m st hst            -- strikethrough
  · exact parseToEnd_eq hR _ _ m st hst            -- mark
  · exact parseToEnd_eq hR _ _ m st hst            -- insert
  · exact parseScript_eq hR _ m st hst             -- superscript
  · exact parseScript_eq hR _ m st hst             -- subscript
  · rfl                                            -- url_link
  · rfl                                            -- inline_math
  · rfl                                            -- text
  · exact parseRuby_cfg hs m st
  · exact parseInlineSpoiler_eq hR m st hst
  · rfl

/-! ### the scanning loop, `parse`, and the induction on the nesting budget -/

theorem ptc_x (t : Str) (st st1 : InlineState)
    (h : processTextC cfg t st = .ok st1) : st1.x = st.x := (processTextC_frame cfg t st st1 h).x

theorem parseLoop_eq (hs : Side cfg rules spec name) (hR : Agree ch name R' R) (s1 s2 : List (String × Rx)) (r : Rx) (hch : ch ∈ r.needs)
    (hfresh : ∀ p ∈ s1 ++ s2, p.1 ≠ name) :
    ∀ (fuel pos : Nat) (st : InlineState), PX ch st.x →
      parseLoop cfg' R' (s1 ++ (name, r) :: s2) fuel pos st = parseLoop cfg R (s1 ++ s2) fuel pos st := by
  intro fuel
  induction fuel with
  | zero => intro pos st _; rfl
  | succ f ih =>
    intro pos st hst
    unfold parseLoop
    rw [scan_irrelevant_rule st.x s1 s2 name r ch hch (px_habs hst)]
    refine ite_congr rfl (fun _ => ?_) (fun _ => rfl)
    cases hscan : scan st.x (s1 ++ s2) pos with
    | none => rfl
    | some p =>
      obtain ⟨n, m⟩ := p
      obtain ⟨_, _, _, ⟨r0, hmem, _⟩, _⟩ := scan_sound _ _ _ _ _ hscan
      have hn : n ≠ name := hfresh _ hmem
      dsimp only
      -- the text before the match, the handler, the text after it: every step keeps the subject
      rw [ite_bind, ite_bind]
      refine bind_congr_ok (fun st1 h1 => ?_)
      have hst1 : PX ch st1.x := by
        split at h1
        · exact ptc_x _ _ _ h1 ▸ hst
        · cases h1; exact hst
      rw [parseMethod_eq hs hR n hn m st1 hst1]
      refine bind_congr_ok (fun res h2 => ?_)
      obtain ⟨newPos, st2⟩ := res
      have hst2 : PX ch st2.x := parseMethod_x cfg R n m st1 newPos st2 h2 ▸ hst1
      cases newPos with
      | none => exact bind_congr_ok (fun st3 h3 => ih _ st3 (ptc_x _ _ _ h3 ▸ hst2))
      | some q =>
        refine ite_congr rfl (fun _ => ite_congr rfl (fun _ => rfl) (fun _ => ih _ st2 hst2)) (fun _ => ?_)
        exact bind_congr_ok (fun st3 h3 => ih _ st3 (ptc_x _ _ _ h3 ▸ hst2))

theorem compileSc_append (c : MdCfg) (a b : List String) :
    compileSc c (a ++ b) = (do let x ← compileSc c a; let y ← compileSc c b; pure (x ++ y)) := by
  unfold compileSc
  rw [List.mapM_append]

theorem compileSc_cons (c : MdCfg) (a : String) (b : List String) (r : Rx) (h : c.inlineSpec.lookup a = some r) :
    compileSc c (a :: b) = (do let y ← compileSc c b; pure ((a, r) :: y)) := by
  unfold compileSc
  rw [List.mapM_cons, h]
  rfl

theorem parse_eq (hs : Side cfg rules spec name) (hR : Agree ch name R' R) (pre post : List String) (hrules : rules = pre ++ name :: post)
    (hcr : cfg.inlineRules = pre ++ post) (r : Rx) (hr : spec.lookup name = some r) (hch : ch ∈ r.needs)
    (hfresh : name ∉ pre ++ post) (st : InlineState) (hst : PX ch st.x) : parse cfg' R' st = parse cfg R st := by
  have hpre : name ∉ pre := fun h => hfresh (List.mem_append_left _ h)
  have hpost : name ∉ post := fun h => hfresh (List.mem_append_right _ h)
  have hl : (withInline cfg nm rules spec).inlineSpec.lookup name = some r := hr
  have e1 : compileSc cfg' (withInline cfg nm rules spec).inlineRules = compileSc cfg' (pre ++ name :: post) :=
    congrArg _ hrules
  unfold parse
  rw [e1, hcr, compileSc_append, compileSc_append, compileSc_cons _ _ _ r hl, compileSc_eq hs pre hpre,
    compileSc_eq hs post hpost]
  simp only [bind_assoc, pure_bind]
  -- the two rule tables are `s1 ++ (name, r) :: s2` and `s1 ++ s2`
  refine bind_congr_ok (fun s1 h1 => bind_congr_ok (fun s2 h2 => ?_))
  have hfr : ∀ p ∈ s1 ++ s2, p.1 ≠ name := by
    intro p hp he
    rcases List.mem_append.1 hp with h | h
    · exact hpre (he ▸ compileSc_names cfg pre s1 h1 p h)
    · exact hpost (he ▸ compileSc_names cfg post s2 h2 p h)
  rw [parseLoop_eq hs hR s1 s2 r hch hfr _ _ st hst]
  rfl

/-- **the closure invariant, by induction on the nesting budget**: the recursive entry points of the two parsers agree
on every `ch`-free subject, at every depth -/
theorem recAt_agree (hs : Side cfg rules spec name)
    (pre post : List String) (hrules : rules = pre ++ name :: post)
    (hcr : cfg.inlineRules = pre ++ post) (r : Rx) (hr : spec.lookup name = some r) (hch : ch ∈ r.needs)
    (hfresh : name ∉ pre ++ post) : ∀ k, Agree ch name (recAt cfg' k) (recAt cfg k) := by
  intro k
  induction k with
  | zero => exact ⟨fun _ _ => rfl, fun _ _ _ _ _ => rfl⟩
  | succ k ih =>
    refine ⟨fun st hst => ?_, fun n m st hn hst => ?_⟩
    · exact parse_eq hs ih pre post hrules hcr r hr hch hfresh st hst
    · exact parseMethod_eq hs ih n hn m st hst

end

/-! ### the headline theorem -/

/-- `cfg'` is `cfg` with ONE more inline rule `name` (pattern `r`), registered between `pre` and `post`:
all other fields equal (the configuration name aside); `inline.specification` of `cfg` is that of `cfg'` without the
entries of `name`. -/
structure AddsInlineRule (cfg cfg' : MdCfg) (name : String) (r : Rx) (pre post : List String) : Prop where
  same : cfg' = withInline cfg cfg'.name cfg'.inlineRules cfg'.inlineSpec
  rules' : cfg'.inlineRules = pre ++ name :: post
  rules : cfg.inlineRules = pre ++ post
  fresh : name ∉ pre ++ post
  specName : cfg'.inlineSpec.lookup name = some r
  specOther : cfg.inlineSpec = cfg'.inlineSpec.filter (fun p => p.1 != name)

/-- decidable side conditions on the rule NAME: it has a modelled handler (otherwise `cfg'` is a `KeyError` by
construction), and it is none of the names other handlers look up by themselves (`precedence_scan`: `codespan`,
`link`, `auto_link`, `inline_html` and their `prec_` forms; `ruby`: the fallback of `_ruby_re`) -/
def nameOk (cfg : MdCfg) (name : String) : Bool :=
  handlerNames.contains name && precNames.all (fun n => n != name && precStrip n != name) &&
    (name != "ruby" || (cfg.named.lookup "mistune.plugins.ruby._ruby_re").isSome)

theorem lookup_filter_ne (name : String) (n : String) (hn : n ≠ name) : ∀ l : List (String × Rx),
    (l.filter (fun p => p.1 != name)).lookup n = l.lookup n
  | [] => rfl
  | (a, b) :: l => by
    by_cases ha : a = name
    · subst ha
      have h1 : (n == a) = false := by simpa using hn
      simp only [List.filter, bne_self_eq_false, List.lookup, h1]
      exact lookup_filter_ne a n hn l
    · have h1 : (a != name) = true := by simpa using ha
      simp only [List.filter, h1, List.lookup]
      rw [lookup_filter_ne name n hn l]

theorem side_of (cfg cfg' : MdCfg) (name : String) (r : Rx) (pre post : List String)
    (h : AddsInlineRule cfg cfg' name r pre post) (hn : nameOk cfg name = true) :
    Side cfg cfg'.inlineRules cfg'.inlineSpec name := by
  unfold nameOk at hn
  simp only [Bool.and_eq_true, Bool.or_eq_true, List.all_eq_true, bne_iff_ne, ne_eq] at hn
  refine ⟨fun n hne => ?_, fun n hne => ?_, fun n hmem => ?_, hn.2⟩
  · rw [h.specOther, lookup_filter_ne name n hne]
  · rw [h.rules', h.rules]
    have : (n == name) = false := by simpa using hne
    simp only [List.contains_eq_mem, List.mem_append, List.mem_cons, hne, false_or]
  · exact hn.1.2 n hmem

/-- **C10 for the concrete inline parser.**  If `cfg'` is `cfg` plus one inline rule `name` whose pattern needs the
character `ch`, then on every source without `ch` the two inline parsers return the same tokens / the same error.
Side conditions, both decidable on regenerated data: `AddsInlineRule` (the relation between the two configurations)
and `nameOk name`.  Nothing is assumed about `env`, the block tables or the `abbr` plugin: "a handler keeps the
subject" is `parseMethod_x` (`MistuneProofs.C10InlineFrame`), which holds unconditionally. -/
theorem inlineParseEnv_irrelevant_rule (cfg cfg' : MdCfg) (name : String) (r : Rx) (pre post : List String)
    (h : AddsInlineRule cfg cfg' name r pre post) (hn : nameOk cfg name = true)
    (ch : Nat) (hch : ch ∈ r.needs) (env : Json) (src : Str) (hsrc : CF ch src) :
    Inl.inlineParseEnv cfg' env src = Inl.inlineParseEnv cfg env src := by
  have hs := side_of cfg cfg' name r pre post h hn
  have hh : handlerNames.contains name = true := by
    unfold nameOk at hn
    simp only [Bool.and_eq_true] at hn
    exact hn.1.1
  have hany : cfg'.inlineRules.any (fun n => !handlerNames.contains n) =
      cfg.inlineRules.any (fun n => !handlerNames.contains n) := by
    rw [h.rules', h.rules]
    simp only [List.any_append, List.any_cons, hh, Bool.not_true, Bool.false_or]
  have hst : PX ch ((InlineState.new env).setSrc src).x := px_mkCtx hsrc
  have key := parse_eq (nm := cfg'.name) hs
    (recAt_agree (nm := cfg'.name) hs pre post h.rules' h.rules r h.specName hch h.fresh inlineFuel)
    pre post h.rules' h.rules r h.specName hch h.fresh _ hst
  rw [← h.same] at key
  unfold Inl.inlineParseEnv renderSt
  dsimp only
  rw [hany, key]

theorem inlineParse_irrelevant_rule (cfg cfg' : MdCfg) (name : String) (r : Rx) (pre post : List String)
    (h : AddsInlineRule cfg cfg' name r pre post) (hn : nameOk cfg name = true)
    (ch : Nat) (hch : ch ∈ r.needs) (env : Json) (src : Str) (hsrc : CF ch src) :
    Model.inlineParse cfg' env src = Model.inlineParse cfg env src := by
  unfold Model.inlineParse Inl.inlineParse
  rw [inlineParseEnv_irrelevant_rule cfg cfg' name r pre post h hn ch hch env src hsrc]

end Inl
end Model
end Mistune
