/-
Every inline handler bound by `Inl.parseMethod` returns a state with the SAME matching context (`st.x`): handlers only
append tokens, write `env` or flip `in_link`; children and speculative calls run on their own states.  No hypothesis on
the configuration, on `env` or on the recursive entry points (in particular none on the `abbr` plugin).

Used by C10 (`C10Inline`: both runs see the same subject) and by C01 (`C01ProgressInline`: the positions a handler
returns refer to the subject of the incoming state).  Same walk over the handlers as `EnvRelInline` (`_env`/`_rel`,
what happens to `env`) and `C01ProgressInline` (`_good`, progress), here with the invariant `XS st` (`_x`).
-/
import Mistune.Model.Inline
import MistuneProofs.C01Plugins
namespace Mistune
namespace Model
namespace Inl

/-- the result state (if any) has the matching context of `st` -/
def XS (st : InlineState) : HRes → Prop
  | .ok (_, st') => st'.x = st.x
  | .error _ => True

theorem XS.bind {α : Type} {st : InlineState} {e : Except PyErr α} {f : α → HRes}
    (h : ∀ a, e = .ok a → XS st (f a)) : XS st (e >>= f) := by
  cases e with
  | error err => exact True.intro
  | ok a => exact h a rfl

theorem XS.of {st : InlineState} {e : HRes} (h : XS st e) (r : Option Nat) (st' : InlineState)
    (he : e = .ok (r, st')) : st'.x = st.x := by
  subst he; exact h

theorem foldl_appendToken_x (l : List Json) (st : InlineState) :
    (l.foldl (fun s t => s.appendToken t) st).x = st.x := (foldl_appendToken_extends l st).frame.x

theorem renderIn_x (R : Rec) (child st : InlineState) (c : Array Json) (st' : InlineState)
    (h : R.renderIn child st = .ok (c, st')) : st'.x = st.x := (renderChildren_ext R child st (c, st') h).frame.x

theorem XS.ite {c : Prop} [Decidable c] {st : InlineState} {a b : HRes} (ha : XS st a) (hb : XS st b) :
    XS st (if c then a else b) := by
  split
  · exact ha
  · exact hb

theorem XS.trans {st st1 : InlineState} {e : HRes} (h1 : st1.x = st.x) (h : XS st1 e) : XS st e := by
  cases e with
  | error err => exact True.intro
  | ok a => exact (show a.2.x = st1.x from h).trans h1

theorem precedenceScan_x (cfg : MdCfg) (R : Rec) (m : RxMatch) (st : InlineState) (endPos : Nat)
    (rules : List String) : XS st (precedenceScan cfg R m st endPos rules) := by
  unfold precedenceScan
  dsimp only
  refine XS.bind (fun sc _ => ?_)
  cases scan { st.x with n := min endPos st.x.n } sc m.stop with
  | none => exact rfl
  | some p =>
    refine XS.bind (fun sc2 _ => ?_)
    cases scanAt st.x sc2 p.2.start with
    | none => exact rfl
    | some q =>
      refine XS.bind (fun res _ => ?_)
      cases res.1 with
      | none => exact rfl
      | some p =>
        refine XS.ite rfl ?_
        -- the tokens of the speculative call are appended to `st`
        show InlineState.x (Array.foldl _ _ _) = _
        rw [← Array.foldl_toList]
        exact (foldl_appendToken_x _ _).trans rfl

theorem parseLinkToken_x (R : Rec) (isImage : Bool) (text : Str) (attrs : Json) (st : InlineState) (t : Json)
    (st' : InlineState) (h : parseLinkToken R isImage text attrs st = .ok (t, st')) : st'.x = st.x := by
  unfold parseLinkToken at h
  dsimp only at h
  split at h
  · cases hr : R.renderIn _ st with
    | error e => rw [hr] at h; cases h
    | ok cs => rw [hr] at h; cases h; exact renderIn_x _ _ _ _ _ hr
  · cases hr : R.renderIn _ st with
    | error e => rw [hr] at h; cases h
    | ok cs => rw [hr] at h; cases h; exact renderIn_x _ _ _ _ _ hr

theorem XS.linkTok {R : Rec} {i : Bool} {text : Str} {attrs : Json} {st : InlineState}
    {k : Json × InlineState → HRes} (hk : ∀ t s, s.x = st.x → XS st (k (t, s))) :
    XS st (parseLinkToken R i text attrs st >>= k) :=
  XS.bind (fun a ha => hk a.1 a.2 (parseLinkToken_x _ _ _ _ _ _ _ ha))

theorem XS.renderIn {R : Rec} {child st : InlineState} {k : Array Json × InlineState → HRes}
    (hk : ∀ c s, s.x = st.x → XS st (k (c, s))) : XS st (R.renderIn child st >>= k) :=
  XS.bind (fun a ha => hk a.1 a.2 (renderIn_x _ _ _ _ _ ha))

theorem XS.ptc {cfg : MdCfg} {t : Str} {st : InlineState} {k : InlineState → HRes}
    (hk : ∀ s, s.x = st.x → XS st (k s)) : XS st (processTextC cfg t st >>= k) :=
  XS.bind (fun s hs => hk s (processTextC_frame cfg t st s hs).x)

/-- after `precedenceScan` the walk continues from the state `s` it returned, so the continuation is asked to keep the
subject of `s` (which is that of `st`), not of `st` -/
theorem XS.prec {cfg : MdCfg} {R : Rec} {m : RxMatch} {st : InlineState} {endPos : Nat} {rules : List String}
    {k : Option Nat × InlineState → HRes} (hk : ∀ p s, s.x = st.x → XS s (k (p, s))) :
    XS st (precedenceScan cfg R m st endPos rules >>= k) :=
  XS.bind (fun a ha =>
    have h1 : a.2.x = st.x := (precedenceScan_x cfg R m st endPos rules).of a.1 a.2 ha
    XS.trans h1 (hk a.1 a.2 h1))

theorem parseLinkRef_x (R : Rec) (isImage : Bool) (text : Str) (label : Option Str) (endPos : Nat)
    (st : InlineState) : XS st (parseLinkRef R isImage text label endPos st) := by
  unfold parseLinkRef
  cases label with
  | none => exact rfl
  | some label =>
    dsimp only
    cases st.env.get? "ref_links" with
    | none => exact rfl
    | some refLinks =>
      refine XS.ite rfl ?_
      cases refLinks.get? (String.ofList (unikeyPy label)) with
      | none => exact rfl
      | some env =>
        refine XS.ite rfl ?_
        cases env.get? "url" with
        | none => exact True.intro
        | some u => exact XS.bind (fun url _ => XS.linkTok (fun t s hs => hs))

theorem parseLink_tail_x (cfg : MdCfg) (R : Rec) (m : RxMatch) (st : InlineState) (isImage : Bool) (text : Str)
    (endPos : Nat) (label : Option Str) (rules : List String) :
    XS st (do
      let (precPos, st) ← precedenceScan cfg R m st endPos rules
      if posTruthy precPos then pure (precPos, st) else
      if endPos < st.len then
        let c := st.x.s.getD endPos ' '
        if c == '(' then
          match ← parseLinkH cfg st.x (endPos + 1) with
          | some (attrs, pos2) =>
            if pos2 != 0 then
              let (token, st) ← parseLinkToken R isImage text attrs st
              pure (some pos2, st.appendToken token)
            else parseLinkRef R isImage text label endPos st
          | none => parseLinkRef R isImage text label endPos st
        else if c == '[' then
          match parseLinkLabel cfg st.x (endPos + 1) with
          | some (label2, pos2) =>
            if pos2 != 0 then
              parseLinkRef R isImage text (if label2.isEmpty then label else some label2) pos2 st
            else parseLinkRef R isImage text label endPos st
          | none => parseLinkRef R isImage text label endPos st
        else parseLinkRef R isImage text label endPos st
      else parseLinkRef R isImage text label endPos st) := by
  refine XS.prec (fun p s hs => XS.ite rfl (XS.ite (XS.ite ?_ (XS.ite ?_ ?_)) ?_))
  · refine XS.bind (fun o _ => ?_)
    cases o with
    | none => exact parseLinkRef_x R isImage text label endPos s
    | some q => exact XS.ite (XS.linkTok (fun t s' hs' => hs')) (parseLinkRef_x R isImage text label endPos s)
  · cases parseLinkLabel cfg s.x (endPos + 1) with
    | none => exact parseLinkRef_x R isImage text label endPos s
    | some q => exact XS.ite (parseLinkRef_x R isImage text _ q.2 s) (parseLinkRef_x R isImage text label endPos s)
  · exact parseLinkRef_x R isImage text label endPos s
  · exact parseLinkRef_x R isImage text label endPos s

theorem parseLink_x (cfg : MdCfg) (R : Rec) (m : RxMatch) (st : InlineState) : XS st (parseLink cfg R m st) := by
  unfold parseLink
  dsimp only
  cases group0 st m with
  | nil => exact True.intro
  | cons c tl =>
    refine XS.bind (fun c0 _ => XS.ite rfl (XS.ite rfl ?_))
    -- either way the text and its end are known; the rest of the handler is `parseLink_tail_x`
    cases parseLinkLabel cfg st.x m.stop with
    | some le =>
      refine XS.bind (fun te hte => ?_)
      cases hte
      exact XS.ite rfl (parseLink_tail_x cfg R m st (c0 == '!') le.1 le.2 (some le.1) _)
    | none =>
      refine XS.bind (fun te _ => ?_)
      cases te with
      | none => exact rfl
      | some p => exact XS.ite rfl (parseLink_tail_x cfg R m st (c0 == '!') p.1 p.2 none _)

theorem parseEmphasis_x (cfg : MdCfg) (R : Rec) (m : RxMatch) (st : InlineState) :
    XS st (parseEmphasis cfg R m st) := by
  unfold parseEmphasis
  dsimp only
  refine XS.ite rfl (XS.ite rfl ?_)
  split
  case h_2 => exact True.intro
  refine XS.bind (fun endRe _ => ?_)
  cases endRe.search st.x m.stop with
  | none => exact rfl
  | some m1 =>
    refine XS.prec (fun p s hs => XS.ite rfl (XS.ite ?_ (XS.ite ?_ ?_)))
    · exact XS.renderIn (fun c s' hs' => hs')
    · exact XS.renderIn (fun c s' hs' => hs')
    · exact XS.renderIn (fun c s' hs' => hs')

theorem addAutoLink_x (cfg : MdCfg) (url text : Str) (st st' : InlineState)
    (h : addAutoLink cfg url text st = .ok st') : st'.x = st.x := by
  unfold addAutoLink at h
  cases hu : escapeUrl cfg url with
  | error e => rw [hu] at h; cases h
  | ok u => rw [hu] at h; cases h; rfl

theorem parseAutoLink_x (cfg : MdCfg) (m : RxMatch) (st : InlineState) : XS st (parseAutoLink cfg m st) := by
  unfold parseAutoLink
  exact XS.ite (XS.ptc (fun s hs => hs)) (XS.bind (fun s hs => addAutoLink_x _ _ _ _ _ hs))

theorem parseAutoEmail_x (cfg : MdCfg) (m : RxMatch) (st : InlineState) : XS st (parseAutoEmail cfg m st) := by
  unfold parseAutoEmail
  exact XS.ite (XS.ptc (fun s hs => hs)) (XS.bind (fun s hs => addAutoLink_x _ _ _ _ _ hs))

theorem parseCodespan_x (m : RxMatch) (st : InlineState) : XS st (parseCodespan m st) := by
  unfold parseCodespan
  dsimp only
  split <;> exact rfl

theorem parseInlineHtml_x (m : RxMatch) (st : InlineState) : XS st (parseInlineHtml m st) := by
  unfold parseInlineHtml
  dsimp only
  show InlineState.x (if _ then _ else _) = _
  split
  · rfl
  · split <;> rfl

theorem parseInlineFootnote_x (cfg : MdCfg) (m : RxMatch) (st : InlineState) :
    XS st (parseInlineFootnote cfg m st) := by
  unfold parseInlineFootnote
  dsimp only
  refine XS.ite ?_ rfl
  -- whatever `env["footnotes"]` holds and whether or not the key is new, only `env` and `tokens` change
  split
  · show InlineState.x (InlineState.appendToken (Prod.snd (if _ then _ else _)) _) = _
    split <;> rfl
  · show InlineState.x (InlineState.appendToken (Prod.snd (if _ then _ else _)) _) = _
    split <;> rfl

/-- **every handler keeps the matching context**, whatever the configuration, `env` and recursive entry points -/
theorem parseMethod_x (cfg : MdCfg) (R : Rec) (name : String) (m : RxMatch) (st : InlineState)
    (r : Option Nat) (st' : InlineState) (h : parseMethod cfg R name m st = .ok (r, st')) : st'.x = st.x := by
  by_cases hp : name ∈ provedPluginRules
  · exact (plugin_inline_contract cfg R name m st r st' hp h).2.2.x
  · unfold parseMethod at h
    split at h
    · cases h
    split at h
    · cases h; rfl
    · exact (parseCodespan_x _ _).of _ _ h
    · exact (parseEmphasis_x _ _ _ _).of _ _ h
    · exact (parseLink_x _ _ _ _).of _ _ h
    · exact (parseAutoLink_x _ _ _).of _ _ h
    · exact (parseAutoEmail_x _ _ _).of _ _ h
    · exact (parseInlineHtml_x _ _).of _ _ h
    · cases h; rfl
    · cases h; rfl
    · exact (parseInlineFootnote_x _ _ _).of _ _ h
    -- the arms of the ten plugin rules are excluded by `hp`; the default arm is a `KeyError`
    iterate 10 exact absurd (by decide) hp
    cases h

end Inl
end Model
end Mistune
