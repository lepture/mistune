/-
C10 for the concrete inline parser, instantiated on regenerated configurations: `core` against the configuration
with exactly one more plugin loaded (the five formatting plugins, `url_link`, `inline_spoiler`, `ruby`).  Every
hypothesis of `inlineParse_irrelevant_rule` is a closed, kernel-decided fact about the regenerated tables.
-/
import MistuneProofs.C10Inline
namespace Mistune
namespace Model
namespace Inl
open Mistune.Generated

/-- the pattern of rule `name` in `c` -/
def ruleRx (c : MdCfg) (name : String) : Rx := (c.inlineSpec.lookup name).getD .fail
def preOf (c : MdCfg) (name : String) : List String := c.inlineRules.takeWhile (· != name)
def postOf (c : MdCfg) (name : String) : List String := (c.inlineRules.dropWhile (· != name)).drop 1

/-- `preOf` and `postOf` cut the rule list at the first occurrence of `name` -/
theorem rules_split (name : String) : ∀ l : List String, name ∈ l →
    l = l.takeWhile (· != name) ++ name :: (l.dropWhile (· != name)).drop 1
  | [], h => nomatch h
  | a :: l, h => by
    by_cases ha : a = name
    · subst ha
      simp [List.takeWhile, List.dropWhile]
    · have hp : (a != name) = true := by simpa using ha
      have hl : name ∈ l := (List.mem_cons.1 h).resolve_left (fun e => ha e.symm)
      rw [List.takeWhile_cons, List.dropWhile_cons, hp]
      exact congrArg (a :: ·) (rules_split name l hl)

/-- `AddsInlineRule` for the pattern and the position that `cfg'` itself gives the rule, from facts that evaluation
of the two tables decides -/
theorem adds_of_tables {cfg cfg' : MdCfg} {name : String}
    (same : cfg' = withInline cfg cfg'.name cfg'.inlineRules cfg'.inlineSpec)
    (mem : name ∈ cfg'.inlineRules) (rules : cfg.inlineRules = preOf cfg' name ++ postOf cfg' name)
    (fresh : name ∉ cfg.inlineRules) (specName : (cfg'.inlineSpec.lookup name).isSome = true)
    (specOther : cfg.inlineSpec = cfg'.inlineSpec.filter (fun p => p.1 != name)) :
    AddsInlineRule cfg cfg' name (ruleRx cfg' name) (preOf cfg' name) (postOf cfg' name) := by
  refine ⟨same, rules_split name _ mem, rules, rules ▸ fresh, ?_, specOther⟩
  unfold ruleRx
  cases h : cfg'.inlineSpec.lookup name with
  | none => rw [h] at specName; cases specName
  | some r => rfl

theorem adds_strikethrough : AddsInlineRule (ofRuleCfg cfg_core) (ofRuleCfg cfg_only_strikethrough) "strikethrough"
    (ruleRx (ofRuleCfg cfg_only_strikethrough) "strikethrough")
    (preOf (ofRuleCfg cfg_only_strikethrough) "strikethrough") (postOf (ofRuleCfg cfg_only_strikethrough) "strikethrough") :=
  adds_of_tables rfl (by decide +kernel) (by decide +kernel) (by decide +kernel) (by decide +kernel) (by decide +kernel)

/-- **`strikethrough` only affects sources containing `~`** -/
theorem strikethrough_irrelevant (env : Json) (src : Str) (hsrc : CF 126 src) :
    Model.inlineParse (ofRuleCfg cfg_only_strikethrough) env src = Model.inlineParse (ofRuleCfg cfg_core) env src :=
  inlineParse_irrelevant_rule _ _ _ _ _ _ adds_strikethrough (by decide +kernel)
    126 (by decide +kernel) env src hsrc

-- non-vacuity: a `~`-free text, both sides; and the hypothesis is necessary
example : CF 126 "a *b* c".toList := by decide
example : Model.inlineParse (ofRuleCfg cfg_only_strikethrough) (.obj []) "a *b* c".toList =
    Model.inlineParse (ofRuleCfg cfg_core) (.obj []) "a *b* c".toList := strikethrough_irrelevant _ _ (by decide)
example : ((Model.inlineParse (ofRuleCfg cfg_core) (.obj []) "a *b* c".toList).toOption.map List.length) = some 3 := by
  decide +kernel
-- the hypothesis is necessary: with a `~` the token lists differ (1 token against 2)
example : ((Model.inlineParse (ofRuleCfg cfg_only_strikethrough) (.obj []) "a ~~b~~".toList).toOption.map List.length) ≠
    ((Model.inlineParse (ofRuleCfg cfg_core) (.obj []) "a ~~b~~".toList).toOption.map List.length) := by decide +kernel

theorem adds_mark : AddsInlineRule (ofRuleCfg cfg_core) (ofRuleCfg cfg_only_mark) "mark"
    (ruleRx (ofRuleCfg cfg_only_mark) "mark")
    (preOf (ofRuleCfg cfg_only_mark) "mark") (postOf (ofRuleCfg cfg_only_mark) "mark") :=
  adds_of_tables rfl (by decide +kernel) (by decide +kernel) (by decide +kernel) (by decide +kernel) (by decide +kernel)

/-- **`mark` only affects sources containing `=`** -/
theorem mark_irrelevant (env : Json) (src : Str) (hsrc : CF 61 src) :
    Model.inlineParse (ofRuleCfg cfg_only_mark) env src = Model.inlineParse (ofRuleCfg cfg_core) env src :=
  inlineParse_irrelevant_rule _ _ _ _ _ _ adds_mark (by decide +kernel)
    61 (by decide +kernel) env src hsrc

theorem adds_insert : AddsInlineRule (ofRuleCfg cfg_core) (ofRuleCfg cfg_only_insert) "insert"
    (ruleRx (ofRuleCfg cfg_only_insert) "insert")
    (preOf (ofRuleCfg cfg_only_insert) "insert") (postOf (ofRuleCfg cfg_only_insert) "insert") :=
  adds_of_tables rfl (by decide +kernel) (by decide +kernel) (by decide +kernel) (by decide +kernel) (by decide +kernel)

/-- **`insert` only affects sources containing `^`** -/
theorem insert_irrelevant (env : Json) (src : Str) (hsrc : CF 94 src) :
    Model.inlineParse (ofRuleCfg cfg_only_insert) env src = Model.inlineParse (ofRuleCfg cfg_core) env src :=
  inlineParse_irrelevant_rule _ _ _ _ _ _ adds_insert (by decide +kernel)
    94 (by decide +kernel) env src hsrc

theorem adds_superscript : AddsInlineRule (ofRuleCfg cfg_core) (ofRuleCfg cfg_only_superscript) "superscript"
    (ruleRx (ofRuleCfg cfg_only_superscript) "superscript")
    (preOf (ofRuleCfg cfg_only_superscript) "superscript") (postOf (ofRuleCfg cfg_only_superscript) "superscript") :=
  adds_of_tables rfl (by decide +kernel) (by decide +kernel) (by decide +kernel) (by decide +kernel) (by decide +kernel)

/-- **`superscript` only affects sources containing `^`** -/
theorem superscript_irrelevant (env : Json) (src : Str) (hsrc : CF 94 src) :
    Model.inlineParse (ofRuleCfg cfg_only_superscript) env src = Model.inlineParse (ofRuleCfg cfg_core) env src :=
  inlineParse_irrelevant_rule _ _ _ _ _ _ adds_superscript (by decide +kernel)
    94 (by decide +kernel) env src hsrc

theorem adds_subscript : AddsInlineRule (ofRuleCfg cfg_core) (ofRuleCfg cfg_only_subscript) "subscript"
    (ruleRx (ofRuleCfg cfg_only_subscript) "subscript")
    (preOf (ofRuleCfg cfg_only_subscript) "subscript") (postOf (ofRuleCfg cfg_only_subscript) "subscript") :=
  adds_of_tables rfl (by decide +kernel) (by decide +kernel) (by decide +kernel) (by decide +kernel) (by decide +kernel)

/-- **`subscript` only affects sources containing `~`** -/
theorem subscript_irrelevant (env : Json) (src : Str) (hsrc : CF 126 src) :
    Model.inlineParse (ofRuleCfg cfg_only_subscript) env src = Model.inlineParse (ofRuleCfg cfg_core) env src :=
  inlineParse_irrelevant_rule _ _ _ _ _ _ adds_subscript (by decide +kernel)
    126 (by decide +kernel) env src hsrc

theorem adds_url_link : AddsInlineRule (ofRuleCfg cfg_core) (ofRuleCfg cfg_only_url) "url_link"
    (ruleRx (ofRuleCfg cfg_only_url) "url_link")
    (preOf (ofRuleCfg cfg_only_url) "url_link") (postOf (ofRuleCfg cfg_only_url) "url_link") :=
  adds_of_tables rfl (by decide +kernel) (by decide +kernel) (by decide +kernel) (by decide +kernel) (by decide +kernel)

/-- **`url_link` only affects sources containing `:`** (`:` is one of the needed characters of its pattern) -/
theorem url_link_irrelevant (env : Json) (src : Str) (hsrc : CF 58 src) :
    Model.inlineParse (ofRuleCfg cfg_only_url) env src = Model.inlineParse (ofRuleCfg cfg_core) env src :=
  inlineParse_irrelevant_rule _ _ _ _ _ _ adds_url_link (by decide +kernel)
    58 (by decide +kernel) env src hsrc

theorem adds_inline_spoiler : AddsInlineRule (ofRuleCfg cfg_core) (ofRuleCfg cfg_only_spoiler) "inline_spoiler"
    (ruleRx (ofRuleCfg cfg_only_spoiler) "inline_spoiler")
    (preOf (ofRuleCfg cfg_only_spoiler) "inline_spoiler") (postOf (ofRuleCfg cfg_only_spoiler) "inline_spoiler") :=
  adds_of_tables rfl (by decide +kernel) (by decide +kernel) (by decide +kernel) (by decide +kernel) (by decide +kernel)

/-- **`inline_spoiler` only affects sources containing `>`** (`>` is one of the needed characters of its pattern) -/
theorem inline_spoiler_irrelevant (env : Json) (src : Str) (hsrc : CF 62 src) :
    Model.inlineParse (ofRuleCfg cfg_only_spoiler) env src = Model.inlineParse (ofRuleCfg cfg_core) env src :=
  inlineParse_irrelevant_rule _ _ _ _ _ _ adds_inline_spoiler (by decide +kernel)
    62 (by decide +kernel) env src hsrc

theorem adds_ruby : AddsInlineRule (ofRuleCfg cfg_core) (ofRuleCfg cfg_only_ruby) "ruby"
    (ruleRx (ofRuleCfg cfg_only_ruby) "ruby")
    (preOf (ofRuleCfg cfg_only_ruby) "ruby") (postOf (ofRuleCfg cfg_only_ruby) "ruby") :=
  adds_of_tables rfl (by decide +kernel) (by decide +kernel) (by decide +kernel) (by decide +kernel) (by decide +kernel)

/-- **`ruby` only affects sources containing `[`** (its pattern needs `[`, `(`, `)`, `]`).  `nameOk` accepts `ruby`
because the regenerated `named` table has `_ruby_re`: the fallback of `rubyRe` to `inlineSpec["ruby"]` is dead. -/
theorem ruby_irrelevant (env : Json) (src : Str) (hsrc : CF 91 src) :
    Model.inlineParse (ofRuleCfg cfg_only_ruby) env src = Model.inlineParse (ofRuleCfg cfg_core) env src :=
  inlineParse_irrelevant_rule _ _ _ _ _ _ adds_ruby (by decide +kernel)
    91 (by decide +kernel) env src hsrc

end Inl
end Model
end Mistune

