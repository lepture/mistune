/-
C11 (code spans): the pure core of `parse_codespan` (`codespanBody`) reproduces the content of a closed code
span verbatim (up to the two documented normalisations), and returns `none` when there is no closing run.

The engine has no general completeness theorem: the behaviour of the matcher on the run-time pattern
`(.*?[^`])` + marker + `(?!`)` (re.S) is computed *exactly* (`codespanEndRx_matchAt`, from `lazyAny_m` of
`Engine.Eval`): it equals a first-fit search on the list of characters (`findClose`), which gives soundness and
completeness for this family of patterns at once.
-/
import Mistune.Model.Inline
import MistuneProofs.Engine.Eval
namespace Mistune
open Model Model.Inl

/-! ### list-level specification -/

/-- the back-tick -/
abbrev bt : Char := '`'

/-- At the head of `l`: a non-back-tick character followed by a maximal run of exactly `n` back-ticks. -/
def closesAt (n : Nat) : Str → Bool
  | [] => false
  | c :: r => c != bt && r.take n == List.replicate n bt && (r.drop n).head? != some bt

/-- "there is a closing run of exactly `n` back-ticks inside `l`": some non-back-tick character of `l` is followed
by a maximal run of exactly `n` back-ticks. -/
def hasClose (n : Nat) : Str → Bool
  | [] => false
  | c :: r => closesAt n (c :: r) || hasClose n r

/-- offset of the first character at which `closesAt` holds -/
def findClose (n : Nat) : Str → Option Nat
  | [] => none
  | c :: r => if closesAt n (c :: r) then some 0 else (findClose n r).map (· + 1)

theorem findClose_none_iff (n : Nat) (l : Str) : findClose n l = none ↔ hasClose n l = false := by
  induction l with
  | nil => simp [findClose, hasClose]
  | cons c r ih =>
    simp only [findClose, hasClose]
    by_cases h : closesAt n (c :: r) = true
    · simp [h]
    · simp [h, ih]

/-! ### the matcher on the end pattern -/

theorem toNat_eq_96 (a : Char) : (96 == a.toNat) = (a == bt) := chr_test pyCats bt a

/-- the part of the end pattern after the group: the literal marker, then `(?!`)` -/
def tailRx (n : Nat) : Rx :=
  (List.replicate n bt).foldr (fun c r => Rx.seq (.cls false [.chr c.toNat]) r)
    (.look true true 0 (.cls false [.chr 96]))

theorem codespanEndRx_replicate (n : Nat) :
    codespanEndRx (List.replicate n bt) =
      .seq (.grp 1 (.seq (.rep (.any true) 0 none false) (.cls true [.chr 96]))) (tailRx n) := rfl

theorem tailRx_m {R : Type} {x : RxCtx} {s : Str} (hx : CtxFor x s) (c : Caps) (k : Nat → Caps → Option R) :
    ∀ (n j : Nat) (l : Str), s.drop j = l →
      (tailRx n).m x j c k =
        if l.take n == List.replicate n bt && (l.drop n).head? != some bt then k (j + n) c else none := by
  intro n
  induction n with
  | zero =>
    intro j l hl
    simp only [tailRx, List.replicate_zero, List.foldr_nil, Rx.m]
    cases l with
    | nil =>
      have := ctx_drop_nil hx hl
      simp [this]
    | cons a l' =>
      obtain ⟨h1, h2, _⟩ := ctx_drop_cons hx hl
      simp only [h1, h2, clsTest, List.any_cons, List.any_nil, ClsItem.test, toNat_eq_96]
      by_cases ha : a = bt <;> simp [ha]
  | succ n ih =>
    intro j l hl
    have hf : tailRx (n + 1) = .seq (.cls false [.chr 96]) (tailRx n) := rfl
    rw [hf]
    simp only [Rx.m]
    cases l with
    | nil =>
      have := ctx_drop_nil hx hl
      simp [this, List.replicate_succ]
    | cons a l' =>
      obtain ⟨h1, h2, h3⟩ := ctx_drop_cons hx hl
      simp only [h1, h2, clsTest, List.any_cons, List.any_nil, ClsItem.test, toNat_eq_96]
      by_cases ha : a = bt
      · subst ha
        rw [show j + (n + 1) = j + 1 + n by omega]
        simp [ih (j + 1) l' h3, List.replicate_succ]
      · simp [ha, List.replicate_succ]

/-- the continuation of the lazy star: `[^`]`, then the tail, recording group 1 = `(pos, e+1)` -/
theorem afterStar_m {R : Type} {x : RxCtx} {s : Str} (hx : CtxFor x s) (n pos : Nat) (c : Caps)
    (k : Nat → Caps → Option R) (e : Nat) :
    (Rx.cls true [.chr 96]).m x e c (fun j c' => (tailRx n).m x j ((1, (pos, j)) :: c') k) =
      if closesAt n (s.drop e) then k (e + 1 + n) ((1, (pos, e + 1)) :: c) else none := by
  simp only [Rx.m]
  cases hl : s.drop e with
  | nil =>
    have := ctx_drop_nil hx hl
    simp [this, closesAt]
  | cons a l' =>
    obtain ⟨h1, h2, h3⟩ := ctx_drop_cons hx hl
    simp only [h1, h2, clsTest, List.any_cons, List.any_nil, ClsItem.test, toNat_eq_96, closesAt,
      tailRx_m hx _ k n (e + 1) l' h3]
    by_cases ha : a = bt <;> simp [ha]

theorem tryFrom_findClose {R : Type} (s : Str) (n : Nat) (g : Nat → R) :
    ∀ (l : Str) (i : Nat), s.drop i = l →
      tryFrom (fun e => if closesAt n (s.drop e) then some (g e) else none) i l.length =
        (findClose n l).map (fun d => g (i + d)) := by
  intro l
  induction l with
  | nil =>
    intro i hl
    simp [tryFrom, hl, closesAt, findClose]
  | cons a l' ih =>
    intro i hl
    have h3 : s.drop (i + 1) = l' := by
      rw [← List.drop_drop, hl]; rfl
    simp only [List.length_cons, tryFrom, hl, findClose]
    by_cases hc : closesAt n (a :: l') = true
    · simp [hc]
    · simp only [hc, ih (i + 1) h3]
      cases findClose n l' with
      | none => simp
      | some d => simp; congr 1; omega

/-- **The end pattern, computed.**  `pattern.match(s, pos)` for the end pattern of an `n`-back-tick code span is the
first-fit search `findClose` on the characters from `pos` on: group 1 ends right after the first non-back-tick
character that is followed by a maximal run of exactly `n` back-ticks, the match ends after that run. -/
theorem codespanEndRx_matchAt {x : RxCtx} {s : Str} (hx : CtxFor x s) (n pos : Nat) :
    (codespanEndRx (List.replicate n bt)).matchAt x pos =
      (findClose n (s.drop pos)).map (fun d =>
        { start := pos, stop := pos + d + 1 + n, caps := [(1, (pos, pos + d + 1))] }) := by
  have hunf : (codespanEndRx (List.replicate n bt)).matchAt x pos =
      (Rx.rep (.any true) 0 none false).m x pos []
        (fun e c => (Rx.cls true [.chr 96]).m x e c (fun j c' => (tailRx n).m x j ((1, (pos, j)) :: c')
          (fun j c => some ({ start := pos, stop := j, caps := c } : RxMatch)))) := rfl
  rw [hunf]
  have hK : ∀ e, (Rx.cls true [.chr 96]).m x e []
        (fun j c' => (tailRx n).m x j ((1, (pos, j)) :: c')
          (fun j c => some ({ start := pos, stop := j, caps := c } : RxMatch))) =
      if closesAt n (s.drop e) then
        some ({ start := pos, stop := e + 1 + n, caps := [(1, (pos, e + 1))] } : RxMatch) else none :=
    fun e => afterStar_m hx n pos [] _ e
  have hn := hx.2
  rcases Nat.lt_or_ge s.length pos with hp | hp
  · rw [lazyAny_m_none]
    · simp [List.drop_eq_nil_iff.mpr (Nat.le_of_lt hp), findClose]
    · intro e he
      rw [hK e, List.drop_eq_nil_iff.mpr (by omega)]
      simp [closesAt]
  · rw [lazyAny_m x _ [] pos (by omega)]
    simp only [hK]
    have := tryFrom_findClose s n
      (fun e => ({ start := pos, stop := e + 1 + n, caps := [(1, (pos, e + 1))] } : RxMatch))
      (s.drop pos) pos rfl
    rw [List.length_drop, ← hn] at this
    rw [this]

/-! ### the normalisation of the code, and `codespanBody` computed -/

/-- Specification of the normalisation `parse_codespan` applies to `m2.group(1)`: every `'\n'` becomes a space; then,
if the result is not all white space (`str.strip()`) and both starts and ends with a space, one space is dropped at
each end. -/
def codespanNorm (c : Str) : Str :=
  let c1 := c.map (fun ch => if ch = '\n' then ' ' else ch)
  if (Py.strip c1).length ≠ 0 ∧ c1.head? = some ' ' ∧ c1.getLast? = some ' ' then (c1.drop 1).dropLast else c1

theorem replaceAll_go_nl : ∀ (c : Str) (fuel : Nat), c.length < fuel →
    Py.replaceAll.go ['\n'] [' '] c fuel = c.map (fun ch => if ch = '\n' then ' ' else ch) := by
  intro c
  induction c with
  | nil => intro fuel _; cases fuel <;> simp [Py.replaceAll.go]
  | cons a r ih =>
    intro fuel hf
    obtain ⟨fuel, rfl⟩ : ∃ f, fuel = f + 1 := ⟨fuel - 1, by omega⟩
    have := ih fuel (by simpa using hf)
    by_cases ha : a = '\n'
    · subst ha
      simp [Py.replaceAll.go, Py.startsWith, this]
    · simp [Py.replaceAll.go, Py.startsWith, this, ha]

theorem replaceAll_nl (c : Str) :
    Py.replaceAll ['\n'] [' '] c = c.map (fun ch => if ch = '\n' then ' ' else ch) := by
  simp [Py.replaceAll, replaceAll_go_nl c (c.length + 1) (by omega)]

theorem startsWith_single (c : Str) (a : Char) : Py.startsWith c [a] = (c.head? == some a) := by
  cases c with
  | nil => simp [Py.startsWith]
  | cons b r => cases r <;> simp [Py.startsWith]

theorem endsWith_single (c : Str) (a : Char) : Py.endsWith c [a] = (c.getLast? == some a) := by
  simp [Py.endsWith, startsWith_single, List.head?_reverse]

/-- the normalisation in the model is `codespanNorm` -/
theorem model_norm_eq (c : Str) :
    (let code := Py.replaceAll ['\n'] [' '] c
     if (Py.strip code).length != 0 then
       if Py.startsWith code [' '] && Py.endsWith code [' '] then (code.drop 1).dropLast else code
     else code) = codespanNorm c := by
  simp only [replaceAll_nl, startsWith_single, endsWith_single, codespanNorm]
  generalize c.map _ = c1
  by_cases h1 : (Py.strip c1).length = 0
  · simp [h1]
  · by_cases h2 : c1.head? = some ' ' <;> by_cases h3 : c1.getLast? = some ' ' <;> simp [h1, h2, h3]

/-- **`codespanBody`, computed**: first-fit search for the closing run, the code is the text up to and including the
non-back-tick character before the run, normalised. -/
theorem codespanBody_eq {x : RxCtx} {s : Str} (hx : CtxFor x s) (n pos : Nat) :
    codespanBody x (List.replicate n bt) pos =
      (findClose n (s.drop pos)).map (fun d => (codespanNorm ((s.drop pos).take (d + 1)), pos + d + 1 + n)) := by
  unfold codespanBody
  simp only [codespanEndRx_matchAt hx]
  cases findClose n (s.drop pos) with
  | none => rfl
  | some d =>
    simp only [Option.map_some]
    have hg : (Py.groupStr x.s
        { start := pos, stop := pos + d + 1 + n, caps := [(1, (pos, pos + d + 1))] } 1).getD [] =
        (s.drop pos).take (d + 1) := by
      simp [Py.groupStr, RxMatch.group, Caps.get, List.lookup, hx.1, slice_toArray]
      congr 1; omega
    rw [hg]
    have := model_norm_eq ((s.drop pos).take (d + 1))
    simp only at this
    rw [this]

/-! ### list-level facts about the closing run -/

/-- `l` starts with a maximal run of exactly `n` back-ticks -/
def runAt (n : Nat) (l : Str) : Bool := l.take n == List.replicate n bt && (l.drop n).head? != some bt

theorem closesAt_cons (n : Nat) (c : Char) (r : Str) : closesAt n (c :: r) = (c != bt && runAt n r) := by
  simp [closesAt, runAt, Bool.and_assoc]

theorem runAt_succ_cons (n : Nat) (a : Char) (t : Str) : runAt (n + 1) (a :: t) = (a == bt && runAt n t) := by
  simp [runAt, List.replicate_succ, Bool.and_assoc]

/-- a run that starts inside a text whose last character is not a back-tick ends inside that text -/
theorem runAt_append (rest : Str) : ∀ (r : Str) (n : Nat), r ≠ [] → r.getLast? ≠ some bt →
    runAt n (r ++ rest) = runAt n r := by
  intro r
  induction r with
  | nil => intro n h; exact absurd rfl h
  | cons a r' ih =>
    intro n _ hlast
    cases n with
    | zero => simp [runAt]
    | succ n =>
      rw [List.cons_append, runAt_succ_cons, runAt_succ_cons]
      cases r' with
      | nil =>
        have : a ≠ bt := by simpa using hlast
        rw [beq_false_of_ne this]; rfl
      | cons b r'' =>
        rw [ih n (by simp) (by simpa [List.getLast?_cons_cons] using hlast)]

theorem runAt_marker (n : Nat) (post : Str) (hpost : post.head? ≠ some bt) :
    runAt n (List.replicate n bt ++ post) = true := by
  simp [runAt, List.take_left', List.drop_left', hpost]

/-- In `content ++ marker ++ post` the first closing position is the last character of `content`. -/
theorem findClose_content (n : Nat) (post : Str) (hpost : post.head? ≠ some bt) :
    ∀ content : Str, content ≠ [] → content.getLast? ≠ some bt → hasClose n content = false →
      findClose n (content ++ (List.replicate n bt ++ post)) = some (content.length - 1) := by
  intro content
  induction content with
  | nil => intro h; exact absurd rfl h
  | cons c r ih =>
    intro _ hlast hnc
    cases r with
    | nil =>
      have hc : c ≠ bt := by simpa using hlast
      simp [findClose, closesAt_cons, runAt_marker n post hpost, hc]
    | cons b r' =>
      have hlast' : (b :: r').getLast? ≠ some bt := by simpa [List.getLast?_cons_cons] using hlast
      simp only [hasClose, Bool.or_eq_false_iff] at hnc
      have h1 : closesAt n (c :: (b :: r' ++ (List.replicate n bt ++ post))) = false := by
        rw [closesAt_cons, runAt_append _ _ _ (by simp) hlast', ← closesAt_cons]
        exact hnc.1
      have h2 := ih (by simp) hlast' (by simpa [hasClose] using hnc.2)
      rw [List.cons_append, findClose, h1, h2]
      simp

/-! ### the theorems -/

/-- **(a) closed span, verbatim.**  Subject `pre ++ content ++ marker ++ post`, marker = `n` back-ticks, scanning
from the end of `pre` (= right after the opening run): if `content` is non-empty, does not end with a back-tick and
contains no closing run (`hasClose`), and `post` does not start with a back-tick, then the code span closes exactly at
the marker after `content` and its code is `content`, normalised.  (No assumption on `pre` or on `n`.) -/
theorem codespan_closed_verbatim (x : RxCtx) (n : Nat) (pre content post : Str)
    (hx : CtxFor x (pre ++ content ++ List.replicate n bt ++ post))
    (hne : content ≠ []) (hlast : content.getLast? ≠ some bt) (hnc : hasClose n content = false)
    (hpost : post.head? ≠ some bt) :
    codespanBody x (List.replicate n bt) pre.length =
      some (codespanNorm content, pre.length + content.length + n) := by
  have hdrop : (pre ++ content ++ List.replicate n bt ++ post).drop pre.length =
      content ++ (List.replicate n bt ++ post) := by
    simp [List.append_assoc]
  rw [codespanBody_eq hx, hdrop, findClose_content n post hpost content hne hlast hnc]
  have hlen : 0 < content.length := List.length_pos_iff.mpr hne
  simp only [Option.map_some]
  rw [show content.length - 1 + 1 = content.length by omega, List.take_left']
  · congr 2; omega
  · rfl

/-- (a) for the context the model builds (`InlineState.setSrc`) -/
theorem codespan_closed_verbatim_ctxOf (n : Nat) (pre content post : Str)
    (hne : content ≠ []) (hlast : content.getLast? ≠ some bt) (hnc : hasClose n content = false)
    (hpost : post.head? ≠ some bt) :
    codespanBody (Py.ctxOf (pre ++ content ++ List.replicate n bt ++ post)) (List.replicate n bt) pre.length =
      some (codespanNorm content, pre.length + content.length + n) :=
  codespan_closed_verbatim _ n pre content post (ctxFor_ctxOf _) hne hlast hnc hpost

/-- **(b) unclosed.**  If from `pos` on no non-back-tick character is followed by a maximal run of exactly `n`
back-ticks, there is no code span. -/
theorem codespan_unclosed (x : RxCtx) (s : Str) (n pos : Nat) (hx : CtxFor x s)
    (h : hasClose n (s.drop pos) = false) : codespanBody x (List.replicate n bt) pos = none := by
  rw [codespanBody_eq hx, (findClose_none_iff n _).mpr h]
  rfl

/-- (b) is an equivalence: the span is unclosed exactly when there is no closing run. -/
theorem codespan_unclosed_iff (x : RxCtx) (s : Str) (n pos : Nat) (hx : CtxFor x s) :
    codespanBody x (List.replicate n bt) pos = none ↔ hasClose n (s.drop pos) = false := by
  rw [codespanBody_eq hx, Option.map_eq_none_iff, findClose_none_iff]

/-- **(c)** `parseCodespan` is `codespanBody` plus the token bookkeeping. -/
theorem parseCodespan_eq (m : RxMatch) (st : InlineState) :
    parseCodespan m st =
      match codespanBody st.x (group0 st m) m.stop with
      | some (code, endPos) => .ok (some endPos, st.appendToken (tok "codespan" [("raw", .str code)]))
      | none => .ok (some m.stop, st.appendToken (textTok (group0 st m))) := rfl

/-- `parse_codespan` with the body inline, statement by statement as in the Python method -/
def parseCodespanOld (m : RxMatch) (st : InlineState) : HRes :=
  let marker := group0 st m
  let pattern := codespanEndRx marker
  let pos := m.stop
  match pattern.matchAt st.x pos with
  | some m2 =>
    let endPos := m2.stop
    let code := (Py.groupStr st.x.s m2 1).getD []
    let code := Py.replaceAll ['\n'] [' '] code
    let code :=
      if (Py.strip code).length != 0 then
        if Py.startsWith code [' '] && Py.endsWith code [' '] then (code.drop 1).dropLast else code
      else code
    .ok (some endPos, st.appendToken (tok "codespan" [("raw", .str code)]))
  | none => .ok (some pos, st.appendToken (textTok marker))

/-- the handler of the model (which calls `codespanBody`) is the handler with the body inline -/
theorem parseCodespan_refactor (m : RxMatch) (st : InlineState) : parseCodespan m st = parseCodespanOld m st := by
  unfold parseCodespan parseCodespanOld codespanBody
  simp only
  cases (codespanEndRx (group0 st m)).matchAt st.x m.stop <;> rfl

/-- (a) at the level of the handler: a `codespan` token with the normalised content, position after the closing run -/
theorem parseCodespan_closed (m : RxMatch) (st : InlineState) (n : Nat) (pre content post : Str)
    (hx : CtxFor st.x (pre ++ content ++ List.replicate n bt ++ post))
    (hm : group0 st m = List.replicate n bt) (hstop : m.stop = pre.length)
    (hne : content ≠ []) (hlast : content.getLast? ≠ some bt) (hnc : hasClose n content = false)
    (hpost : post.head? ≠ some bt) :
    parseCodespan m st =
      .ok (some (pre.length + content.length + n),
        st.appendToken (tok "codespan" [("raw", .str (codespanNorm content))])) := by
  rw [parseCodespan_eq, hm, hstop, codespan_closed_verbatim st.x n pre content post hx hne hlast hnc hpost]

/-- (b) at the level of the handler: the marker is emitted as text and the scan resumes right after it -/
theorem parseCodespan_unclosed (m : RxMatch) (st : InlineState) (s : Str) (n : Nat)
    (hx : CtxFor st.x s) (hm : group0 st m = List.replicate n bt)
    (h : hasClose n (s.drop m.stop) = false) :
    parseCodespan m st = .ok (some m.stop, st.appendToken (textTok (List.replicate n bt))) := by
  rw [parseCodespan_eq, hm, codespan_unclosed st.x s n m.stop hx h]

/-! ### concrete instances (the statements are not vacuous) -/

/-- (a) on ``x ``a ` b\nc`` y``: content ``a ` b\nc`` (a lone back-tick and a line feed inside), `n = 2` -/
example :
    codespanBody (Py.ctxOf (['x', ' ', '`', '`'] ++ ['a', ' ', '`', ' ', 'b', '\n', 'c'] ++ List.replicate 2 bt ++ [' ', 'y']))
      (List.replicate 2 bt) 4 = some (['a', ' ', '`', ' ', 'b', ' ', 'c'], 13) :=
  codespan_closed_verbatim_ctxOf 2 ['x', ' ', '`', '`'] ['a', ' ', '`', ' ', 'b', '\n', 'c'] [' ', 'y']
    (by decide) (by decide) (by decide) (by decide)

/-- (a) with the space-stripping branch of the normalisation: content `` a ` b\nc `` (padded), a longer run
(` ``` `, 3 ≠ 2 back-ticks) inside, end of input after the closing run -/
example :
    codespanBody (Py.ctxOf (['`', '`'] ++ [' ', 'a', '`', '`', '`', 'b', '\n', 'c', ' '] ++ List.replicate 2 bt ++ []))
      (List.replicate 2 bt) 2 = some (['a', '`', '`', '`', 'b', ' ', 'c'], 13) :=
  codespan_closed_verbatim_ctxOf 2 ['`', '`'] [' ', 'a', '`', '`', '`', 'b', '\n', 'c', ' '] []
    (by decide) (by decide) (by decide) (by decide)

/-- (a): a run of exactly `n` back-ticks at the very start of `content` is not a closing run (`.*?[^`]` needs a
character before it), so it belongs to the code -/
example :
    codespanBody (Py.ctxOf (['x', '`', '`'] ++ ['`', '`', 'a'] ++ List.replicate 2 bt ++ [' ']))
      (List.replicate 2 bt) 3 = some (['`', '`', 'a'], 8) :=
  codespan_closed_verbatim_ctxOf 2 ['x', '`', '`'] ['`', '`', 'a'] [' ']
    (by decide) (by decide) (by decide) (by decide)

/-- the same instance, by running the model (the matcher itself) -/
example :
    codespanBody (Py.ctxOf ['x', ' ', '`', '`', 'a', ' ', '`', ' ', 'b', '\n', 'c', '`', '`', ' ', 'y'])
      ['`', '`'] 4 = some (['a', ' ', '`', ' ', 'b', ' ', 'c'], 13) := by decide +kernel

/-- the hypothesis `hasClose n content = false` is needed: with a closing run inside `content` the span ends there -/
example : hasClose 2 ['a', '`', '`', ' ', 'b'] = true := by decide
example :
    codespanBody (Py.ctxOf (['`', '`'] ++ ['a', '`', '`', ' ', 'b'] ++ List.replicate 2 bt ++ []))
      (List.replicate 2 bt) 2 = some (['a'], 5) := by decide +kernel

/-- (b) on ``x ``a ` b``` y``: after the opening run there are runs of 1 and of 3 back-ticks only -/
example :
    codespanBody (Py.ctxOf ['x', ' ', '`', '`', 'a', ' ', '`', ' ', 'b', '`', '`', '`', ' ', 'y'])
      (List.replicate 2 bt) 4 = none :=
  codespan_unclosed _ ['x', ' ', '`', '`', 'a', ' ', '`', ' ', 'b', '`', '`', '`', ' ', 'y'] 2 4 (ctxFor_ctxOf _)
    (by decide)

/-- (b): a run of exactly `n` back-ticks directly at `pos` does not close (here the text after the opening run is
just the run) -/
example :
    codespanBody (Py.ctxOf ['`', '`', 'x', '`', '`']) (List.replicate 2 bt) 3 = none :=
  codespan_unclosed _ ['`', '`', 'x', '`', '`'] 2 3 (ctxFor_ctxOf _) (by decide)

end Mistune
