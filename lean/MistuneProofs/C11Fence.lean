/-
C11 (fenced code): the `(code, end_pos)` computation of `parse_fenced_code` (`Model.Blk.fencedBody`) (a) reproduces the
code body verbatim (up to the specified stripping of at most `len(spaces)` leading blanks per line) and stops exactly
after the closing fence line (`fenced_closed_verbatim`); (b) without a closing fence line it takes the whole rest of the
subject (`fenced_unclosed_verbatim`); (c) the handler appends that code as one token (`parseFencedCode_eq`).

The engine has no general completeness theorem; the run-time regex `fenceEndRx c n` is evaluated exactly with the lemmas
of `Engine.Eval` (`Reaches` along the greedy path for success, `matchAt_sound` and `Spec` inversion for what a match
looks like), and `sub` with `trimRx k` is `reSub_trimRep` of `Engine.LineSub`.
-/
import Mistune.Model.Block
import MistuneProofs.Engine.LineSub
namespace Mistune
open Mistune.Model Mistune.Model.Blk

/-! ### the closing-fence regex `^ {0,3}c{n,}[ \t]*(?:\n|$)` -/

def isBlank (ch : Char) : Bool := ch == ' ' || ch == '\t'

theorem clsTest_blank (ch : Char) : clsTest pyCats false [.chr 32, .chr 9] ch.toNat = isBlank ch :=
  clsTest_chr2 pyCats ' ' '\t' ch

/-- `fenceEndRx c n` matches at a line start followed by ≤ 3 blanks, `m ≥ n` fence characters, blanks/tabs and then a
newline or the end of the subject; it stops after that newline / at the end. -/
theorem fenceEnd_matchAt_closer (c : Char) (n m : Nat) (a sp bl tail : Str)
    (hc1 : c ≠ ' ') (hc2 : c ≠ '\t') (hc3 : c ≠ '\n')
    (hbol : a = [] ∨ a.getLast? = some '\n')
    (hsp : ∀ ch ∈ sp, ch = ' ') (hsp3 : sp.length ≤ 3) (hn : 1 ≤ n) (hm : n ≤ m)
    (hbl : ∀ ch ∈ bl, isBlank ch = true)
    (htail : tail = [] ∨ ∃ t', tail = '\n' :: t') :
    (fenceEndRx c n).matchAt (Py.ctxOf (a ++ sp ++ List.replicate m c ++ bl ++ tail)) a.length =
      some { start := a.length,
             stop := a.length + sp.length + m + bl.length + (if tail = [] then 0 else 1), caps := [] } := by
  have hb : bolAt (a ++ sp ++ List.replicate m c ++ bl ++ tail) a.length := by
    rw [List.append_assoc, List.append_assoc, List.append_assoc]
    exact (bolAt_append_length _ _).mpr hbol
  have hd0 : (a ++ sp ++ List.replicate m c ++ bl ++ tail).drop a.length =
      sp ++ (List.replicate m c ++ (bl ++ tail)) := by simp
  have hlen : a.length + sp.length + m + bl.length + tail.length =
      (a ++ sp ++ List.replicate m c ++ bl ++ tail).length := by simp; omega
  -- from here on the subject is known through what follows `a.length` (`hd0`) only
  generalize a ++ sp ++ List.replicate m c ++ bl ++ tail = S at hb hd0 hlen
  have hd1 := drop_append hd0
  have hd2 := drop_append hd1
  have hd3 := drop_append hd2
  rw [List.length_replicate] at hd2 hd3
  have hblc : ∀ ch, isBlank ch = true → (ch == c) = false := by
    intro ch h
    simp only [isBlank, Bool.or_eq_true, beq_iff_eq] at h
    rcases h with rfl | rfl
    · simpa using Ne.symm hc1
    · simpa using Ne.symm hc2
  -- ` {0,3}` stops at the first fence character
  have h1 : Reaches (Py.ctxOf S) (.rep (.cls false [.chr 32]) 0 (some 3) true) a.length []
      (a.length + sp.length) [] :=
    reaches_run (clsTest_chr1 pyCats ' ') 0 (some 3) [] hd0 (by omega) (fun ch h => by simp [hsp ch h])
      (Or.inr (fun ch h => by
        obtain ⟨m', rfl⟩ : ∃ m', m = m' + 1 := ⟨m - 1, by omega⟩
        simp only [List.replicate_succ, List.cons_append, List.head?_cons, Option.some.injEq] at h
        simpa [← h] using hc1))
      (fun m' hm' => by cases hm'; exact hsp3) (Nat.zero_le _)
  -- `c{n,}` stops at a blank, a tab, the newline or the end
  have h2 : Reaches (Py.ctxOf S) (.rep (.cls false [.chr c.toNat]) n none true) (a.length + sp.length) []
      (a.length + sp.length + m) [] := by
    have := reaches_run (clsTest_chr1 pyCats c) n none [] hd1 (by omega)
      (fun ch h => by simp [List.eq_of_mem_replicate h])
      (Or.inr (fun ch h => by
        cases bl with
        | cons b bl' =>
          simp only [List.cons_append, List.head?_cons, Option.some.injEq] at h
          exact h ▸ hblc b (hbl b (by simp))
        | nil =>
          rcases htail with rfl | ⟨t', rfl⟩
          · cases h
          · simp only [List.nil_append, List.head?_cons, Option.some.injEq] at h
            simpa [← h] using Ne.symm hc3))
      (fun m' hm' => by cases hm') (by simpa using hm)
    rwa [List.length_replicate] at this
  -- `[ \t]*` stops at the newline or the end
  have h3 : Reaches (Py.ctxOf S) (.rep (.cls false [.chr 32, .chr 9]) 0 none true) (a.length + sp.length + m) []
      (a.length + sp.length + m + bl.length) [] :=
    reaches_run (clsTest_chr2 pyCats ' ' '\t') 0 none [] hd2 (by omega) hbl
      (Or.inr (fun ch h => by
        rcases htail with rfl | ⟨t', rfl⟩
        · cases h
        · simp only [List.head?_cons, Option.some.injEq] at h
          rw [← h]; rfl))
      (fun m' hm' => by cases hm') (Nat.zero_le _)
  unfold fenceEndRx
  rcases htail with rfl | ⟨t', rfl⟩
  · -- `$` at the end of the subject
    rw [if_pos rfl, Nat.add_zero]
    exact (reaches_seq (reaches_bol [] hb) (reaches_seq h1 (reaches_seq h2 (reaches_seq h3
      (reaches_alt_right (chr_fails (clsTest_chr1 pyCats '\n') [] hd3 (fun ch h => by cases h))
        (reaches_eol_drop [] hd3 (by omega) (Or.inl rfl))))))).matchAt
  · -- the newline
    rw [if_neg (List.cons_ne_nil _ _)]
    exact (reaches_seq (reaches_bol [] hb) (reaches_seq h1 (reaches_seq h2 (reaches_seq h3
      (reaches_alt_left _ (reaches_chr (clsTest_chr1 pyCats '\n') [] hd3 rfl)))))).matchAt

/-- what a match of `fenceEndRx c n` at `q` looks like -/
theorem fenceEnd_matchAt_sound (c : Char) (n : Nat) (s : Str) (q : Nat) (mt : RxMatch)
    (h : (fenceEndRx c n).matchAt (Py.ctxOf s) q = some mt) :
    bolAt s q ∧ ∃ sp m bl tail, s.drop q = sp ++ List.replicate m c ++ bl ++ tail ∧
      (∀ ch ∈ sp, ch = ' ') ∧ sp.length ≤ 3 ∧ n ≤ m ∧ (∀ ch ∈ bl, isBlank ch = true) ∧
      (tail = [] ∨ ∃ t', tail = '\n' :: t') := by
  obtain ⟨_, hs⟩ := matchAt_sound _ _ _ _ h
  unfold fenceEndRx at hs
  obtain ⟨i0, c0, hbol, hs⟩ := spec_seq.mp hs
  obtain ⟨hb, rfl, rfl⟩ := spec_bol hbol
  obtain ⟨i1, c1, h1, hs⟩ := spec_seq.mp hs
  obtain ⟨i2, c2, h2, hs⟩ := spec_seq.mp hs
  obtain ⟨i3, c3, h3, h4⟩ := spec_seq.mp hs
  obtain ⟨sp, hd1, rfl, rfl, _, hsp3, hsp⟩ := spec_run (clsTest_chr1 pyCats ' ') h1
  obtain ⟨cs, hd2, rfl, rfl, hn, _, hcs⟩ := spec_run (clsTest_chr1 pyCats c) h2
  obtain ⟨bl, hd3, rfl, rfl, _, _, hbl⟩ := spec_run (clsTest_chr2 pyCats ' ' '\t') h3
  have hrep : cs = List.replicate cs.length c :=
    List.eq_replicate_iff.mpr ⟨rfl, fun b hb => by simpa using hcs b hb⟩
  refine ⟨hb, sp, cs.length, bl, s.drop (i0 + sp.length + cs.length + bl.length), ?_,
    fun ch hch => by simpa using hsp ch hch, hsp3 3 rfl, hn, hbl, ?_⟩
  · rw [hd1, hd2, hd3, ← hrep]; simp
  · rcases h4 with h4 | h4
    · obtain ⟨ch, hd4, _, _, hch⟩ := spec_chr (clsTest_chr1 pyCats '\n') h4
      exact Or.inr ⟨_, by rw [hd4, show ch = '\n' by simpa using hch]⟩
    · exact (spec_eol h4).2.2

/-! ### closing fence lines (list level) -/

/-- `line` is a closing fence line for fence character `c` and opening length `n`: at most three blanks, at least `n`
times `c`, then only blanks and tabs -/
def isCloser (c : Char) (n : Nat) (line : Str) : Bool :=
  let sp := line.takeWhile (· == ' ')
  let r1 := line.dropWhile (· == ' ')
  let cs := r1.takeWhile (· == c)
  let r2 := r1.dropWhile (· == c)
  decide (sp.length ≤ 3) && decide (n ≤ cs.length) && r2.all isBlank

/-- the leading blanks of a line of the declared shape are `sp` -/
theorem shape_blanks (c : Char) (m : Nat) (sp bl : Str) (hc1 : c ≠ ' ') (hsp : ∀ ch ∈ sp, ch = ' ') :
    (sp ++ List.replicate (m + 1) c ++ bl).takeWhile (· == ' ') = sp ∧
      (sp ++ List.replicate (m + 1) c ++ bl).dropWhile (· == ' ') = List.replicate (m + 1) c ++ bl := by
  have hsp' : ∀ ch ∈ sp, (ch == ' ') = true := fun ch hch => by simp [hsp ch hch]
  constructor
  · rw [List.append_assoc, List.takeWhile_append_of_pos hsp', List.replicate_succ]
    simp [hc1]
  · rw [List.append_assoc, List.dropWhile_append_of_pos hsp', List.replicate_succ]
    simp [hc1]

/-- every line of the declared shape is a closing fence line -/
theorem isCloser_of_shape (c : Char) (n m : Nat) (sp bl : Str) (hc1 : c ≠ ' ') (hc2 : c ≠ '\t') (hn : 1 ≤ n)
    (hsp : ∀ ch ∈ sp, ch = ' ') (hsp3 : sp.length ≤ 3) (hm : n ≤ m) (hbl : ∀ ch ∈ bl, isBlank ch = true) :
    isCloser c n (sp ++ List.replicate m c ++ bl) = true := by
  obtain ⟨m', rfl⟩ : ∃ m', m = m' + 1 := ⟨m - 1, by omega⟩
  have hblc : ∀ ch r, bl = ch :: r → (ch == c) = false := by
    intro ch r h
    have := hbl ch (by simp [h])
    simp only [isBlank, Bool.or_eq_true, beq_iff_eq] at this
    rcases this with rfl | rfl
    · simpa using Ne.symm hc1
    · simpa using Ne.symm hc2
  have hrep : ∀ ch ∈ List.replicate (m' + 1) c, (ch == c) = true := fun ch hch => by
    simp [List.eq_of_mem_replicate hch]
  obtain ⟨h1, h2⟩ := shape_blanks c m' sp bl hc1 hsp
  have h3 : (List.replicate (m' + 1) c ++ bl).takeWhile (· == c) = List.replicate (m' + 1) c := by
    rw [List.takeWhile_append_of_pos hrep, takeWhile_nil_of_head hblc, List.append_nil]
  have h4 : (List.replicate (m' + 1) c ++ bl).dropWhile (· == c) = bl := by
    rw [List.dropWhile_append_of_pos hrep, dropWhile_id_of_head hblc]
  simp only [isCloser, h1, h2, h3, h4, List.length_replicate, Bool.and_eq_true, decide_eq_true_eq, List.all_eq_true]
  exact ⟨⟨hsp3, hm⟩, hbl⟩

/-- conversely, a closing fence line has the declared shape (no side condition) -/
theorem shape_of_isCloser (c : Char) (n : Nat) (line : Str) (h : isCloser c n line = true) :
    ∃ sp m bl, line = sp ++ List.replicate m c ++ bl ∧ (∀ ch ∈ sp, ch = ' ') ∧ sp.length ≤ 3 ∧ n ≤ m ∧
      (∀ ch ∈ bl, isBlank ch = true) := by
  simp only [isCloser, Bool.and_eq_true, decide_eq_true_eq, List.all_eq_true] at h
  obtain ⟨⟨h1, h2⟩, h3⟩ := h
  refine ⟨line.takeWhile (· == ' '), ((line.dropWhile (· == ' ')).takeWhile (· == c)).length,
    (line.dropWhile (· == ' ')).dropWhile (· == c), ?_, ?_, h1, h2, h3⟩
  · have : List.replicate ((line.dropWhile (· == ' ')).takeWhile (· == c)).length c =
        (line.dropWhile (· == ' ')).takeWhile (· == c) := by
      symm
      rw [List.eq_replicate_iff]
      exact ⟨rfl, fun b hb => by simpa using (mem_takeWhile_pos hb)⟩
    rw [this, List.append_assoc, List.takeWhile_append_dropWhile, List.takeWhile_append_dropWhile]
  · intro ch hch
    simpa using (mem_takeWhile_pos hch)

theorem closer_no_nl (c : Char) (m : Nat) (sp bl : Str) (hc3 : c ≠ '\n') (hsp : ∀ ch ∈ sp, ch = ' ')
    (hbl : ∀ ch ∈ bl, isBlank ch = true) : '\n' ∉ sp ++ List.replicate m c ++ bl := by
  intro e
  rcases List.mem_append.mp e with e | e
  · rcases List.mem_append.mp e with e | e
    · exact absurd (hsp _ e) (by decide)
    · exact hc3 (List.eq_of_mem_replicate e).symm
  · exact absurd (hbl _ e) (by decide)

/-- a match of `fenceEndRx c n` at `q` is at the start of a closing fence line -/
theorem fenceEnd_match_closer (c : Char) (n : Nat) (s : Str) (q : Nat) (mt : RxMatch)
    (hc1 : c ≠ ' ') (hc2 : c ≠ '\t') (hc3 : c ≠ '\n') (hn : 1 ≤ n)
    (h : (fenceEndRx c n).matchAt (Py.ctxOf s) q = some mt) :
    bolAt s q ∧ ∃ l tail, s.drop q = l ++ tail ∧ '\n' ∉ l ∧ isCloser c n l = true ∧
      (tail = [] ∨ ∃ t', tail = '\n' :: t') := by
  obtain ⟨hb, sp, m, bl, tail, hd, hsp, hsp3, hm, hbl, htail⟩ := fenceEnd_matchAt_sound c n s q mt h
  exact ⟨hb, _, tail, hd, closer_no_nl c m sp bl hc3 hsp hbl, isCloser_of_shape c n m sp bl hc1 hc2 hn hsp hsp3 hm hbl,
    htail⟩

/-! ### the trim regex `^ {0,k}` -/

theorem dropUpTo_zero (l : Str) : dropUpTo 0 l = l := rfl

/-- **`^ {0,k}` substituted by the empty string strips up to `k` leading blanks of every line.** -/
theorem reSub_trim (k : Nat) (t : Str) : Py.reSub (trimRx k) (fun _ _ => []) t = trimLines k t :=
  reSub_trimRep 0 k (Nat.zero_le 1) t

/-! ### the two theorems about `fencedBody` -/

/-- the conditional trim of `parse_fenced_code` (`if spaces and code:`) is `trimLines` in every case -/
theorem trim_code (k : Nat) (code : Str) :
    (if (k != 0 && !code.isEmpty) = true then Py.reSub (trimRx k) (fun _ _ => []) code else code) =
      trimLines k code := by
  by_cases hk : k = 0
  · subst hk; simp [trimLines_zero]
  · cases code with
    | nil => simp [trimLines_nil]
    | cons ch r => simp [hk, reSub_trim]

theorem fencedBody_eq (x : RxCtx) (cursorMax : Nat) (c : Char) (n k cursorStart : Nat) :
    fencedBody x cursorMax c n k cursorStart =
      match Py.search (fenceEndRx c n) x cursorStart with
      | some m2 => (trimLines k (Py.slice x.s cursorStart m2.start), m2.stop)
      | none => (trimLines k (Py.slice x.s cursorStart x.s.size), cursorMax) := by
  unfold fencedBody
  cases Py.search (fenceEndRx c n) x cursorStart with
  | none => simp only [trim_code]
  | some m2 => simp only [trim_code]

/-- the line found at a matching position is one of the lines of the text from `p` on -/
theorem line_mem (s : Str) (p i : Nat) (l tail : Str) (hpi : p ≤ i) (hi : i ≤ s.length)
    (hb : i = p ∨ bolAt s i) (hd : s.drop i = l ++ tail) (hl : '\n' ∉ l)
    (htail : tail = [] ∨ ∃ t', tail = '\n' :: t') : l ∈ splitNl (s.drop p) := by
  have h1 : l ∈ splitNl (s.drop i) := by
    rw [hd]
    rcases htail with rfl | ⟨t', rfl⟩
    · rw [List.append_nil, splitNl_no_nl l hl]; simp
    · rw [splitNl_line_nl l t' hl]; simp
  by_cases hip : i = p
  · rw [← hip]; exact h1
  · have hb' : s[i - 1]? = some '\n' := by
      rcases hb with h | h | h
      · exact absurd h hip
      · omega
      · exact h
    have hlt : i - 1 < s.length := by omega
    rw [List.getElem?_eq_getElem hlt, Option.some.injEq] at hb'
    have : s.drop p = (s.drop p).take (i - 1 - p) ++ '\n' :: s.drop i := by
      conv => lhs; rw [← List.take_append_drop (i - 1 - p) (s.drop p)]
      rw [List.drop_drop, show p + (i - 1 - p) = i - 1 by omega, List.drop_eq_getElem_cons hlt, hb',
        show i - 1 + 1 = i by omega]
    rw [this, splitNl_append_nl]
    exact List.mem_append_right _ h1

/-- **(b) unclosed fence.** If no line of the rest of the subject (from `cursorStart`) is a closing fence line, the
code is the whole rest (each line stripped of up to `k` leading blanks) and the end position is `cursorMax`. -/
theorem fenced_unclosed_verbatim (c : Char) (n k : Nat) (s : Str) (cursorStart cursorMax : Nat)
    (hc1 : c ≠ ' ') (hc2 : c ≠ '\t') (hc3 : c ≠ '\n') (hn : 1 ≤ n)
    (hno : ∀ l ∈ splitNl (s.drop cursorStart), isCloser c n l = false) :
    fencedBody (Py.ctxOf s) cursorMax c n k cursorStart = (trimLines k (s.drop cursorStart), cursorMax) := by
  have hdrop : s.drop (min cursorStart s.length) = s.drop cursorStart := by
    rcases Nat.le_total cursorStart s.length with h | h
    · rw [Nat.min_eq_left h]
    · rw [Nat.min_eq_right h, List.drop_of_length_le h, List.drop_of_length_le (Nat.le_refl _)]
  have hsearch : Py.search (fenceEndRx c n) (Py.ctxOf s) cursorStart = none := by
    unfold Py.search
    rw [ctxOf_n]
    apply search_all_none
    intro i h1 h2
    rw [ctxOf_n] at h2
    cases hm : (fenceEndRx c n).matchAt (Py.ctxOf s) i with
    | none => rfl
    | some mt =>
      exfalso
      obtain ⟨hb, l, tail, hd, hl, hcl, htail⟩ := fenceEnd_match_closer c n s i mt hc1 hc2 hc3 hn hm
      have hmem := line_mem s (min cursorStart s.length) i l tail h1 h2 (Or.inr hb) hd hl htail
      rw [hdrop] at hmem
      rw [hno l hmem] at hcl
      cases hcl
  rw [fencedBody_eq, hsearch]
  simp only [ctxOf_s, slice_toArray]
  rw [List.take_of_length_le (by simp)]

/-- non-vacuity of (b): subject `"  ~~~\n  x\n~~\n   y"`, cursor after the opening fence line, `k = 2`, no closing line
(`~~` is too short): the code is the whole rest, every line stripped of ≤ 2 blanks; end position = `cursorMax` -/
example :
    fencedBody (Py.ctxOf "  ~~~\n  x\n~~\n   y".toList) 17 '~' 3 2 6 = ("x\n~~\n y".toList, 17) :=
  fenced_unclosed_verbatim '~' 3 2 "  ~~~\n  x\n~~\n   y".toList 6 17 (by decide) (by decide) (by decide) (by decide)
    (by decide)

/-- (b) with `k = 0` (no indentation of the opening fence): the rest of the subject, verbatim -/
theorem fenced_unclosed_verbatim_notrim (c : Char) (n : Nat) (s : Str) (cursorStart cursorMax : Nat)
    (hc1 : c ≠ ' ') (hc2 : c ≠ '\t') (hc3 : c ≠ '\n') (hn : 1 ≤ n)
    (hno : ∀ l ∈ splitNl (s.drop cursorStart), isCloser c n l = false) :
    fencedBody (Py.ctxOf s) cursorMax c n 0 cursorStart = (s.drop cursorStart, cursorMax) := by
  rw [fenced_unclosed_verbatim c n 0 s cursorStart cursorMax hc1 hc2 hc3 hn hno, trimLines_zero]

/-- a line start inside the body is the start of one of its lines -/
theorem bol_in_body (lines : List Str) (hnl : ∀ l ∈ lines, '\n' ∉ l) : ∀ (pre post : Str) (q : Nat),
    pre.length ≤ q → q < pre.length + ((lines.map (· ++ ['\n'])).flatten).length →
    bolAt (pre ++ (lines.map (· ++ ['\n'])).flatten ++ post) q →
    ∃ l ∈ lines, ∃ r, (pre ++ (lines.map (· ++ ['\n'])).flatten ++ post).drop q = l ++ '\n' :: r := by
  induction lines with
  | nil => intro pre post q h1 h2; simp at h2; omega
  | cons line ls ih =>
    intro pre post q h1 h2 hb
    simp only [List.map_cons, List.flatten_cons, List.length_append, List.length_cons, List.length_nil] at h2
    by_cases hq : q = pre.length
    · refine ⟨line, by simp, (ls.map (· ++ ['\n'])).flatten ++ post, ?_⟩
      rw [hq]
      simp
    · by_cases hq2 : q ≤ pre.length + line.length
      · exfalso
        rcases hb with hb | hb
        · omega
        · simp only [List.map_cons, List.flatten_cons, List.append_assoc] at hb
          rw [List.getElem?_append_right (by omega), List.getElem?_append_left (by omega)] at hb
          exact hnl line (by simp) (List.mem_of_getElem? hb)
      · have hS : pre ++ ((line :: ls).map (· ++ ['\n'])).flatten ++ post =
            (pre ++ line ++ ['\n']) ++ (ls.map (· ++ ['\n'])).flatten ++ post := by simp
        rw [hS] at hb ⊢
        obtain ⟨l, hl, r, hr⟩ := ih (fun l hl => hnl l (by simp [hl])) (pre ++ line ++ ['\n']) post q
          (by simp only [List.length_append, List.length_cons, List.length_nil]; omega)
          (by simp only [List.length_append, List.length_cons, List.length_nil]; omega) hb
        exact ⟨l, by simp [hl], r, hr⟩

theorem body_bol (pre : Str) (lines : List Str) (hpre : pre = [] ∨ pre.getLast? = some '\n') :
    pre ++ (lines.map (· ++ ['\n'])).flatten = [] ∨
      (pre ++ (lines.map (· ++ ['\n'])).flatten).getLast? = some '\n' := by
  rcases List.eq_nil_or_concat lines with rfl | ⟨ls, l, rfl⟩
  · simpa using hpre
  · right
    simp [← List.append_assoc]

/-- **(a) closed fence, verbatim.** The subject is `pre ++ body ++ closer ++ post`, the cursor is at the line start
after `pre`, `body` consists of complete lines none of which is a closing fence line, `closer` is a closing fence line
(terminated by a newline, or by the end of the subject).  Then the code is `body` with every line stripped of up to `k`
leading blanks (`k = 0`: `body` itself) and the end position is just after `closer`. -/
theorem fenced_closed_verbatim (c : Char) (n k m : Nat) (pre post sp bl nl : Str) (lines : List Str)
    (cursorMax : Nat) (hc1 : c ≠ ' ') (hc2 : c ≠ '\t') (hc3 : c ≠ '\n') (hn : 1 ≤ n)
    (hpre : pre = [] ∨ pre.getLast? = some '\n')
    (hlines : ∀ l ∈ lines, '\n' ∉ l ∧ isCloser c n l = false)
    (hsp : ∀ ch ∈ sp, ch = ' ') (hsp3 : sp.length ≤ 3) (hm : n ≤ m) (hbl : ∀ ch ∈ bl, isBlank ch = true)
    (hnl : nl = ['\n'] ∨ (nl = [] ∧ post = [])) :
    let body := (lines.map (· ++ ['\n'])).flatten
    let closer := sp ++ List.replicate m c ++ bl ++ nl
    let s := pre ++ body ++ closer ++ post
    fencedBody (Py.ctxOf s) cursorMax c n k pre.length =
      ((lines.map (fun l => dropUpTo k l ++ ['\n'])).flatten, pre.length + body.length + closer.length) := by
  intro body closer s
  have hS : s = (pre ++ body) ++ sp ++ List.replicate m c ++ bl ++ (nl ++ post) := by
    simp [s, closer]
  have htail : nl ++ post = [] ∨ ∃ t', nl ++ post = '\n' :: t' := by
    rcases hnl with rfl | ⟨rfl, rfl⟩
    · exact Or.inr ⟨post, rfl⟩
    · exact Or.inl rfl
  have hmatch := fenceEnd_matchAt_closer c n m (pre ++ body) sp bl (nl ++ post) hc1 hc2 hc3
    (body_bol pre lines hpre) hsp hsp3 hn hm hbl htail
  rw [← hS] at hmatch
  have hstop : (pre ++ body).length + sp.length + m + bl.length + (if nl ++ post = [] then 0 else 1) =
      pre.length + body.length + closer.length := by
    rcases hnl with rfl | ⟨rfl, rfl⟩
    · simp [closer]; omega
    · simp [closer]; omega
  rw [hstop] at hmatch
  have hlen : (pre ++ body).length ≤ s.length := by rw [hS]; simp
  have hsearch : Py.search (fenceEndRx c n) (Py.ctxOf s) pre.length =
      some { start := (pre ++ body).length, stop := pre.length + body.length + closer.length, caps := [] } := by
    unfold Py.search
    rw [ctxOf_n, Nat.min_eq_left (by simp at hlen; omega)]
    apply search_first _ _ _ _ _ (by simp) (by rw [ctxOf_n]; exact hlen) _ hmatch
    intro i h1 h2
    cases hmi : (fenceEndRx c n).matchAt (Py.ctxOf s) i with
    | none => rfl
    | some mt =>
      exfalso
      obtain ⟨hb, l', tail', hd, hl', hcl, htail'⟩ := fenceEnd_match_closer c n s i mt hc1 hc2 hc3 hn hmi
      have hs2 : s = pre ++ body ++ (closer ++ post) := by simp [s]
      rw [hs2] at hb hd
      obtain ⟨l, hl, r, hr⟩ := bol_in_body lines (fun l hl => (hlines l hl).1) pre (closer ++ post) i h1
        (by rw [List.length_append] at h2; exact h2) hb
      have e1 : (splitNl ((pre ++ body ++ (closer ++ post)).drop i)).head? = some l := by
        rw [hr, splitNl_line_nl l r (hlines l hl).1]; rfl
      have e2 : (splitNl ((pre ++ body ++ (closer ++ post)).drop i)).head? = some l' := by
        rw [hd]
        rcases htail' with rfl | ⟨t', rfl⟩
        · rw [List.append_nil, splitNl_no_nl _ hl']; rfl
        · rw [splitNl_line_nl _ t' hl']; rfl
      rw [e1, Option.some.injEq] at e2
      have := (hlines l hl).2
      rw [e2, hcl] at this
      cases this
  rw [fencedBody_eq, hsearch]
  simp only [ctxOf_s, slice_toArray]
  have hcode : (s.drop pre.length).take ((pre ++ body).length - pre.length) = body := by
    rw [show s = pre ++ (body ++ (closer ++ post)) by simp [s]]
    simp
  rw [hcode, trimLines_flatten k lines (fun l hl => (hlines l hl).1)]

/-- non-vacuity of (a): subject `"  ~~~\n" ++ "  x\n\n~~\n" ++ "~~~~ \n" ++ "rest"`, fence `~~~` indented by 2:
body lines `["  x", "", "~~"]` (the last one is too short to close), closer `"~~~~ \n"` -/
example :
    fencedBody (Py.ctxOf "  ~~~\n  x\n\n~~\n~~~~ \nrest".toList) 24 '~' 3 2 6 = ("x\n\n~~\n".toList, 20) :=
  fenced_closed_verbatim (c := '~') (n := 3) (k := 2) (m := 4) (pre := "  ~~~\n".toList) (post := "rest".toList)
    (sp := []) (bl := [' ']) (nl := ['\n']) (lines := ["  x".toList, [], "~~".toList]) (cursorMax := 24)
    (hc1 := by decide) (hc2 := by decide) (hc3 := by decide) (hn := by decide) (hpre := by decide)
    (hlines := by decide) (hsp := by decide) (hsp3 := by decide) (hm := by decide) (hbl := by decide)
    (hnl := by decide)

/-- the same at the end of the subject (closer without newline, `post = []`), closer indented by 3, empty body -/
example : fencedBody (Py.ctxOf "```\n   ````\t".toList) 12 '`' 3 0 4 = ([], 12) :=
  fenced_closed_verbatim (c := '`') (n := 3) (k := 0) (m := 4) (pre := "```\n".toList) (post := [])
    (sp := "   ".toList) (bl := ['\t']) (nl := []) (lines := []) (cursorMax := 12)
    (hc1 := by decide) (hc2 := by decide) (hc3 := by decide) (hn := by decide) (hpre := by decide)
    (hlines := by decide) (hsp := by decide) (hsp3 := by decide) (hm := by decide) (hbl := by decide)
    (hnl := by decide)

/-- (a) with `k = 0`: the body itself, verbatim -/
theorem fenced_closed_verbatim_notrim (c : Char) (n m : Nat) (pre post sp bl nl : Str) (lines : List Str)
    (cursorMax : Nat) (hc1 : c ≠ ' ') (hc2 : c ≠ '\t') (hc3 : c ≠ '\n') (hn : 1 ≤ n)
    (hpre : pre = [] ∨ pre.getLast? = some '\n')
    (hlines : ∀ l ∈ lines, '\n' ∉ l ∧ isCloser c n l = false)
    (hsp : ∀ ch ∈ sp, ch = ' ') (hsp3 : sp.length ≤ 3) (hm : n ≤ m) (hbl : ∀ ch ∈ bl, isBlank ch = true)
    (hnl : nl = ['\n'] ∨ (nl = [] ∧ post = [])) :
    let body := (lines.map (· ++ ['\n'])).flatten
    let closer := sp ++ List.replicate m c ++ bl ++ nl
    let s := pre ++ body ++ closer ++ post
    fencedBody (Py.ctxOf s) cursorMax c n 0 pre.length = (body, pre.length + body.length + closer.length) :=
  fenced_closed_verbatim c n 0 m pre post sp bl nl lines cursorMax hc1 hc2 hc3 hn hpre hlines hsp hsp3 hm hbl hnl

/-! ### why `1 ≤ n`, `c ≠ ' '`, `c ≠ '\n'` are needed (evaluations of the model)

`isCloser` takes *all* leading blanks as the indentation.  For `n = 0` or `c = ' '` the regex can split a run of four
blanks as three blanks of indentation plus one trailing / fence blank, so a line of four blanks closes the fence although
`isCloser` rejects it; for `c = '\n'` the "fence characters" are the line terminators, so an empty line closes.
None of this can happen in `parse_fenced_code` (`c` is a backtick or a tilde, `n ≥ 3`). -/

example : isCloser '~' 0 "    ".toList = false ∧
    fencedBody (Py.ctxOf "    \n~~~\n".toList) 9 '~' 0 0 0 = ([], 5) := by decide +kernel

example : isCloser ' ' 1 "    ".toList = false ∧
    fencedBody (Py.ctxOf "    \nx\n".toList) 7 ' ' 1 0 0 = ([], 5) := by decide +kernel

example : isCloser '\n' 1 [] = false ∧
    fencedBody (Py.ctxOf "\n\nx\n".toList) 5 '\n' 1 0 0 = ([], 2) := by decide +kernel

/-! ### (c) the handler -/

/-- `parse_fenced_code` tests `if spaces`, `fencedBody` tests `k != 0` with `k = len(spaces)` -/
theorem not_isEmpty_eq_length_ne (l : Str) : (!l.isEmpty) = (l.length != 0) := by
  cases l <;> rfl

/-- When `parse_fenced_code` neither raises (`marker[0]`) nor declines (a backtick inside the info string of a
backtick fence), it appends one token whose `raw` is the code computed by `fencedBody` and returns its end position. -/
theorem parseFencedCode_eq (cfg : MdCfg) (mt : RxMatch) (st : BlockState) (c : Char) (mrest : Str)
    (hmarker : grp cfg st mt "fenced_2" = c :: mrest)
    (hinfo : (!(grp cfg st mt "fenced_3").isEmpty && c == '`' && (grp cfg st mt "fenced_3").contains c) = false) :
    let fb := fencedBody st.x st.cursorMax c (c :: mrest).length (grp cfg st mt "fenced_1").length (mt.stop + 1)
    ∃ token, parseFencedCode cfg mt st = .ok (some fb.2, st.appendToken token) ∧
      token.getStr? "raw" = some fb.1 := by
  intro fb
  unfold parseFencedCode
  simp only [hmarker, pure_bind, hinfo, Bool.false_eq_true, if_false]
  refine ⟨_, rfl, ?_⟩
  split
  · simp [tok, Json.set, Json.getStr?, Json.get?, List.lookup, fb]
  · simp [tok, Json.getStr?, Json.get?, List.lookup, fb]

/-- the early return: a backtick fence whose info string contains a backtick is not a fence -/
theorem parseFencedCode_decline (cfg : MdCfg) (mt : RxMatch) (st : BlockState) (c : Char) (mrest : Str)
    (hmarker : grp cfg st mt "fenced_2" = c :: mrest)
    (hinfo : (!(grp cfg st mt "fenced_3").isEmpty && c == '`' && (grp cfg st mt "fenced_3").contains c) = true) :
    parseFencedCode cfg mt st = .ok (none, st) := by
  unfold parseFencedCode
  simp only [hmarker, pure_bind, hinfo, if_true]
  rfl

/-- the error: `marker[0]` on an empty marker (cannot happen with the shipped rule: the group is `` `{3,}|~{3,} ``) -/
theorem parseFencedCode_raise (cfg : MdCfg) (mt : RxMatch) (st : BlockState)
    (hmarker : grp cfg st mt "fenced_2" = []) : parseFencedCode cfg mt st = .error .indexError := by
  unfold parseFencedCode
  simp only [hmarker]
  rfl

end Mistune
