/-
C11 (indented code): the text computation of `parse_indent_code` (`Model.Blk.indentBody`) is, line by line,
"expand a leading tab to the four-column stop, remove up to four leading blanks", followed by `strip("\n")`.

Both regexes (`_expand_tab_re = ^( {0,3})\t`, `_INDENT_CODE_TRIM = ^ {1,4}`, both `re.M`) are line-head patterns that
never match empty.  The tab regex is evaluated exactly on the engine (`Reaches` for success, `matchAt_sound` + `Spec`
inversion for failure, as in `C11Fence`) and goes through `lineSub` (`Engine.LineSub`); the trim regex is `reSub_trimRep`
with `lo = 1`.
-/
import MistuneProofs.C11Fence
namespace Mistune
open Mistune.Model Mistune.Model.Blk Mistune.Generated

/-! ### the two regexes, as expected; kernel-decided against the regenerated table -/

/-- `re.compile(r"^( {0,3})\t", flags=re.M)` -/
def expandTabRxExpected : Rx :=
  .seq .bol (.seq (.grp 1 (.rep (.cls false [.chr 32]) 0 (some 3) true)) (.cls false [.chr 9]))

/-- `re.compile(r"^ {1,4}", flags=re.M)` -/
def indentTrimRxExpected : Rx := .seq .bol (.rep (.cls false [.chr 32]) 1 (some 4) true)

/-- **Obligation:** the regenerated `mistune.util._expand_tab_re` is the expected term. -/
theorem expandTabRx_lookup : namedRx.lookup "mistune.util._expand_tab_re" = some expandTabRxExpected := by
  decide +kernel

/-- **Obligation:** the regenerated `mistune.block_parser._INDENT_CODE_TRIM` is the expected term. -/
theorem indentTrimRx_lookup :
    namedRx.lookup "mistune.block_parser._INDENT_CODE_TRIM" = some indentTrimRxExpected := by
  decide +kernel

/-- **`^ {1,k}` substituted by the empty string strips up to `k` leading blanks of every line** — the same function
as for `^ {0,k}` (`reSub_trim`): where `^ {1,k}` cannot match there is nothing to strip. -/
theorem reSub_trimLo (k : Nat) (t : Str) :
    Py.reSub (Rx.seq .bol (.rep (.cls false [.chr 32]) 1 (some k) true)) (fun _ _ => []) t = trimLines k t :=
  reSub_trimRep 1 k (Nat.le_refl 1) t

/-! ### `^( {0,3})\t`: the tab regex of `expand_leading_tab` -/

/-- length of the match of `^( {0,3})\t` at the start of line `l` (`0`: no match): the blanks (at most three) and the
tab -/
def tabLen (l : Str) : Nat := if l[spRun 3 l]? = some '\t' then spRun 3 l + 1 else 0

theorem tabLen_le (l : Str) : tabLen l ≤ l.length := by
  unfold tabLen
  split
  · rename_i h
    rcases Nat.lt_or_ge (spRun 3 l) l.length with h' | h'
    · omega
    · rw [List.getElem?_eq_none h'] at h; cases h
  · omega

/-- the repl function of `expand_leading_tab(text, width)` -/
def tabRepl (w : Nat) : Array Char → RxMatch → Str := fun a mt =>
  let s := (Py.groupStr a mt 1).getD []
  s ++ Py.rep ' ' (w - s.length)

theorem expandTab_matchAt_hit (t : Str) (q : Nat) (hq : q ≤ t.length) (hb : bolAt t q)
    (htab : (t.drop q)[spRun 3 (t.drop q)]? = some '\t') :
    expandTabRxExpected.matchAt (Py.ctxOf t) q =
      some { start := q, stop := q + spRun 3 (t.drop q) + 1, caps := [(1, (q, q + spRun 3 (t.drop q)))] } := by
  obtain ⟨run, rest, h1, h2, h3, h4, h5⟩ := spRun_spec 3 (t.drop q)
  obtain ⟨rest', rfl⟩ : ∃ rest', rest = '\t' :: rest' := by
    rw [← h2, h1, List.getElem?_append_right (Nat.le_refl _), Nat.sub_self] at htab
    cases rest with
    | nil => cases htab
    | cons ch r => exact ⟨r, by rw [show ch = '\t' by simpa using htab]⟩
  have hrun := reaches_run (clsTest_chr1 pyCats ' ') 0 (some 3) [] h1 hq (fun ch h => by simp [h3 ch h])
    (Or.inr (fun ch h => by cases h; rfl)) (fun m hm => by cases hm; omega) (Nat.zero_le _)
  have htab' := reaches_chr (clsTest_chr1 pyCats '\t') [(1, (q, q + run.length))] (drop_append h1) rfl
  rw [h2] at hrun htab'
  exact (reaches_seq (reaches_bol [] hb) (reaches_seq (reaches_grp 1 hrun) htab')).matchAt

theorem expandTab_matchAt_sound (t : Str) (q : Nat) (mt : RxMatch)
    (h : expandTabRxExpected.matchAt (Py.ctxOf t) q = some mt) :
    bolAt t q ∧ ∃ sp rest, t.drop q = sp ++ '\t' :: rest ∧ (∀ ch ∈ sp, ch = ' ') ∧ sp.length ≤ 3 := by
  obtain ⟨_, hs⟩ := matchAt_sound _ _ _ _ h
  unfold expandTabRxExpected at hs
  obtain ⟨i0, c0, hbol, hs⟩ := spec_seq.mp hs
  obtain ⟨hb, rfl, rfl⟩ := spec_bol hbol
  obtain ⟨i1, c1, hg, htab⟩ := spec_seq.mp hs
  obtain ⟨c2, hrep, _⟩ := spec_grp.mp hg
  obtain ⟨sp, hd, rfl, _, _, hk, hsp⟩ := spec_run (clsTest_chr1 pyCats ' ') hrep
  obtain ⟨ch, hd', _, _, hch⟩ := spec_chr (clsTest_chr1 pyCats '\t') htab
  exact ⟨hb, sp, _, by rw [hd, hd', show ch = '\t' by simpa using hch], fun ch h => by simpa using hsp ch h,
    hk 3 rfl⟩

/-- the line is (0–3 blanks) ++ tab ++ … -/
def TabHead (l : Str) : Prop := ∃ sp rest, l = sp ++ '\t' :: rest ∧ (∀ ch ∈ sp, ch = ' ') ∧ sp.length ≤ 3

theorem tabHead_iff (l : Str) : TabHead l ↔ l[spRun 3 l]? = some '\t' := by
  constructor
  · rintro ⟨sp, rest, rfl, h2, h3⟩
    rw [spRun_run 3 sp _ h2 h3 (fun ch r h => by cases h; decide)]
    simp
  · intro htab
    obtain ⟨run, rest, h1, h2, h3, h4, _⟩ := spRun_spec 3 l
    rw [← h2, h1, List.getElem?_append_right (Nat.le_refl _), Nat.sub_self] at htab
    cases rest with
    | nil => cases htab
    | cons ch r => exact ⟨run, r, by rw [h1, show ch = '\t' by simpa using htab], h3, by omega⟩

theorem tabHead_of_getElem (l : Str) (htab : l[spRun 3 l]? = some '\t') : TabHead l := (tabHead_iff l).mpr htab

instance (l : Str) : Decidable (TabHead l) := decidable_of_iff _ (tabHead_iff l).symm

/-- `^( {0,3})\t` with a replacement computed from the blanks before the tab (group 1) is a line-head pattern -/
theorem tab_lineSub (g : Str → Str) :
    LineSub expandTabRxExpected (fun a mt => g ((Py.groupStr a mt 1).getD [])) tabLen
      (fun l => g (List.replicate (spRun 3 l) ' ')) where
  len_le := tabLen_le
  hit := fun t q hq hb hpos => by
    have htab : (firstLine (t.drop q))[spRun 3 (t.drop q)]? = some '\t' := by
      unfold tabLen at hpos
      split at hpos
      · rename_i h; rwa [spRun_firstLine] at h
      · omega
    have hlen : tabLen (firstLine (t.drop q)) = spRun 3 (t.drop q) + 1 := by
      unfold tabLen
      rw [spRun_firstLine, if_pos htab]
    refine ⟨_, expandTab_matchAt_hit t q hq hb (firstLine_getElem? _ _ _ htab), rfl, by rw [hlen, Nat.add_assoc], ?_⟩
    simp [Py.groupStr, RxMatch.group, Caps.get, List.lookup, ctxOf_s, slice_toArray, take_spRun, spRun_firstLine]
  miss := fun t q mt _ hm => by
    obtain ⟨hb, sp, rest, hd, hsp, hsp3⟩ := expandTab_matchAt_sound t q mt hm
    refine ⟨hb, ?_⟩
    have hnl : '\n' ∉ sp ++ ['\t'] := by
      intro e
      rcases List.mem_append.mp e with e | e
      · exact absurd (hsp _ e) (by decide)
      · simp at e
    have hfl : firstLine (t.drop q) = sp ++ '\t' :: firstLine rest := by
      rw [hd, show sp ++ '\t' :: rest = (sp ++ ['\t']) ++ rest by simp, firstLine_append _ _ hnl]; simp
    have hrun : spRun 3 (firstLine (t.drop q)) = sp.length := by
      rw [hfl]
      exact spRun_run 3 sp _ hsp hsp3 (fun ch r h => by cases h; decide)
    unfold tabLen
    rw [hrun, if_pos (by rw [hfl]; simp)]
    omega

/-- the rewritten line: the blanks before the tab, and the tab, are replaced by `g` of these blanks -/
theorem rwLine_tab (g : Str → Str) (l : Str) :
    rwLine tabLen (fun l => g (List.replicate (spRun 3 l) ' ')) l =
      if l[spRun 3 l]? = some '\t' then g (l.take (spRun 3 l)) ++ l.drop (spRun 3 l + 1) else l := by
  unfold rwLine tabLen
  by_cases h : l[spRun 3 l]? = some '\t'
  · simp [h, take_spRun]
  · simp [h]

/-- `expand_leading_tab` on one line -/
def expandLineW (w : Nat) (l : Str) : Str :=
  if l[spRun 3 l]? = some '\t' then
    l.take (spRun 3 l) ++ List.replicate (w - spRun 3 l) ' ' ++ l.drop (spRun 3 l + 1)
  else l

theorem expandLineW_tab (w : Nat) (sp rest : Str) (hsp : ∀ ch ∈ sp, ch = ' ') (hlen : sp.length ≤ 3) :
    expandLineW w (sp ++ '\t' :: rest) = sp ++ List.replicate (w - sp.length) ' ' ++ rest := by
  have hrun : spRun 3 (sp ++ '\t' :: rest) = sp.length :=
    spRun_run 3 sp _ hsp hlen (fun ch r h => by cases h; decide)
  unfold expandLineW
  rw [hrun, if_pos (by simp)]
  simp

theorem expandLineW_other (w : Nat) (l : Str) (h : ¬ TabHead l) : expandLineW w l = l := by
  unfold expandLineW
  rw [if_neg (fun e => h (tabHead_of_getElem l e))]

/-- **`expand_leading_tab(text, width)` rewrites every line separately** -/
theorem reSub_expandTab (w : Nat) (t : Str) : Py.reSub expandTabRxExpected (tabRepl w) t = subLines (expandLineW w) t := by
  refine (lineSub (tab_lineSub fun s => s ++ Py.rep ' ' (w - s.length)) t).trans ?_
  congr 1
  funext l
  rw [rwLine_tab (fun s => s ++ Py.rep ' ' (w - s.length)), expandLineW, take_spRun]
  simp [Py.rep]

theorem expandLeadingTab_eq (cfg : MdCfg) (h : cfg.named.lookup "mistune.util._expand_tab_re" = some expandTabRxExpected)
    (t : Str) (w : Nat) : expandLeadingTab cfg t w = subLines (expandLineW w) t := by
  unfold expandLeadingTab
  rw [rx_of_lookup cfg _ _ h]
  exact reSub_expandTab w t

/-! ### the specification of `indentBody` -/

/-- `indentBody` is the three text steps of `parse_indent_code`: `expand_leading_tab`, the trim, `strip("\n")` -/
theorem indentBody_def (cfg : MdCfg) (code : Str) :
    indentBody cfg code = Py.stripC ['\n'] (Py.reSub (cfg.rx "mistune.block_parser._INDENT_CODE_TRIM")
      (fun _ _ => []) (expandLeadingTab cfg code 4)) := rfl

/-- `expand_leading_tab(line)` (width 4): a tab after at most three blanks at the start of the line is replaced by
the blanks that reach column 4; nothing else changes (in particular no other tab of the line) -/
def expandLine (l : Str) : Str := expandLineW 4 l

/-- `_INDENT_CODE_TRIM.sub("", line)`: the line without its first `min 4 (number of leading blanks)` blanks.
The regex is `^ {1,4}` (at least one blank): on a line without leading blank it does not match and `sub` copies the
line, which is what removing zero blanks does, so no case distinction is needed. -/
def deindent (l : Str) : Str := dropUpTo 4 l

/-- `s.strip("\n")` -/
def stripNl (s : Str) : Str := ((s.dropWhile (· == '\n')).reverse.dropWhile (· == '\n')).reverse

/-- the specification: every line separately, then the newlines at both ends are removed -/
def indentSpec (code : Str) : Str := stripNl (Py.join ['\n'] ((splitNl code).map (deindent ∘ expandLine)))

theorem expandLine_tab (sp rest : Str) (hsp : ∀ ch ∈ sp, ch = ' ') (hlen : sp.length ≤ 3) :
    expandLine (sp ++ '\t' :: rest) = sp ++ List.replicate (4 - sp.length) ' ' ++ rest :=
  expandLineW_tab 4 sp rest hsp hlen

theorem expandLine_other (l : Str)
    (h : ¬ ∃ sp rest, l = sp ++ '\t' :: rest ∧ (∀ ch ∈ sp, ch = ' ') ∧ sp.length ≤ 3) : expandLine l = l :=
  expandLineW_other 4 l h

theorem deindent_eq (l : Str) : deindent l = l.drop (min 4 (l.takeWhile (· == ' ')).length) := by
  unfold deindent
  rw [dropUpTo_eq, spRun_eq]

theorem stripC_nl (s : Str) : Py.stripC ['\n'] s = stripNl s := by
  have : (fun c : Char => ['\n'].contains c) = (· == '\n') := by
    funext c
    by_cases h : c = '\n' <;> simp [h]
  unfold Py.stripC Py.rstripC Py.lstripC stripNl
  rw [this]

theorem expandLineW_no_nl (w : Nat) (l : Str) (h : '\n' ∉ l) : '\n' ∉ expandLineW w l := by
  unfold expandLineW
  split
  · intro e
    rcases List.mem_append.mp e with e | e
    · rcases List.mem_append.mp e with e | e
      · exact h (List.mem_of_mem_take e)
      · exact absurd (List.eq_of_mem_replicate e) (by decide)
    · exact h (List.mem_of_mem_drop e)
  · exact h

/-- `indentBody` with the two regexes in place -/
theorem indentBody_rx (cfg : MdCfg)
    (h1 : cfg.named.lookup "mistune.util._expand_tab_re" = some expandTabRxExpected)
    (h2 : cfg.named.lookup "mistune.block_parser._INDENT_CODE_TRIM" = some indentTrimRxExpected)
    (code : Str) : indentBody cfg code =
      Py.stripC ['\n'] (Py.reSub indentTrimRxExpected (fun _ _ => []) (Py.reSub expandTabRxExpected (tabRepl 4) code)) := by
  rw [indentBody_def, expandLeadingTab, rx_of_lookup cfg _ _ h1, rx_of_lookup cfg _ _ h2]
  rfl

/-- **`indentBody` is the specification**, for every configuration whose two named regexes are the expected ones -/
theorem indentBody_eq_of_lookup (cfg : MdCfg)
    (h1 : cfg.named.lookup "mistune.util._expand_tab_re" = some expandTabRxExpected)
    (h2 : cfg.named.lookup "mistune.block_parser._INDENT_CODE_TRIM" = some indentTrimRxExpected)
    (code : Str) : indentBody cfg code = indentSpec code := by
  rw [indentBody_rx cfg h1 h2, reSub_expandTab, stripC_nl]
  unfold indentTrimRxExpected indentSpec
  rw [reSub_trimLo 4]
  unfold trimLines subLines
  rw [splitNl_join _ (by simpa using splitNl_ne_nil code) (by
    intro l hl
    obtain ⟨l0, hl0, rfl⟩ := List.mem_map.mp hl
    exact expandLineW_no_nl 4 l0 (splitNl_mem_no_nl code l0 hl0)), List.map_map]
  rfl

/-- **…in particular for every regenerated configuration** (closed: the two obligations are kernel-decided above) -/
theorem indentBody_eq (cfg : MdCfg) (hcfg : cfg.named = Generated.namedRx) (code : Str) :
    indentBody cfg code = indentSpec code :=
  indentBody_eq_of_lookup cfg (by rw [hcfg]; exact expandTabRx_lookup) (by rw [hcfg]; exact indentTrimRx_lookup) code

/-- every configuration the model is run with (`ofRuleCfg`) -/
theorem indentBody_eq_ofRuleCfg (c : RuleCfg) (code : Str) : indentBody (ofRuleCfg c) code = indentSpec code :=
  indentBody_eq (ofRuleCfg c) rfl code

/-! ### `strip("\n")` -/

theorem stripNl_eq_iff (s : Str) : stripNl s = s ↔ s.head? ≠ some '\n' ∧ s.getLast? ≠ some '\n' := by
  have hne : ∀ o : Option Char, (∀ ch, o = some ch → (ch == '\n') = false) ↔ o ≠ some '\n' := by
    intro o; cases o <;> simp
  rw [← hne, ← hne]
  exact strip_eq_self_iff (· == '\n') s

/-! ### joined lines and newlines at the ends -/

/-- a text joined from lines is unchanged by `strip("\n")` iff it is a single line or its first and last lines are
non-empty -/
theorem stripNl_join_iff (outs : List Str) (hne : outs ≠ []) (hno : ∀ l ∈ outs, '\n' ∉ l) :
    stripNl (Py.join ['\n'] outs) = Py.join ['\n'] outs ↔
      (outs.length = 1 ∨ (outs.head? ≠ some [] ∧ outs.getLast? ≠ some [])) := by
  rw [stripNl_eq_iff]
  have hhead : ∀ l : Str, '\n' ∉ l → l.head? ≠ some '\n' := fun l hl h => hl (List.mem_of_mem_head? h)
  have hlast : ∀ l : Str, '\n' ∉ l → l.getLast? ≠ some '\n' := fun l hl h => hl (List.mem_of_getLast? h)
  cases outs with
  | nil => exact absurd rfl hne
  | cons a r =>
    cases r with
    | nil =>
      simp only [Py.join, List.length_cons, List.length_nil, Nat.zero_add, true_or, iff_true]
      exact ⟨hhead a (hno a (by simp)), hlast a (hno a (by simp))⟩
    | cons b r =>
      -- at least two lines
      have hlen : (a :: b :: r).length ≠ 1 := by simp
      obtain ⟨init, z, hz⟩ : ∃ init z, b :: r = init ++ [z] := by
        rcases List.eq_nil_or_concat (b :: r) with h | ⟨init, z, h⟩
        · cases h
        · exact ⟨init, z, by rw [h]; simp⟩
      have hj1 : Py.join ['\n'] (a :: b :: r) = a ++ '\n' :: Py.join ['\n'] (b :: r) := by
        rw [join_cons_cons]; simp
      have hj2 : Py.join ['\n'] (a :: b :: r) = Py.join ['\n'] (a :: init) ++ '\n' :: z := by
        rw [hz, ← List.cons_append, join_append_singleton _ _ _ (by simp)]; simp
      have hgl : (a :: b :: r).getLast? = some z := by
        rw [hz, show a :: (init ++ [z]) = (a :: init) ++ [z] from rfl, List.getLast?_concat]
      have hza : '\n' ∉ a := hno a (by simp)
      have hzz : '\n' ∉ z := hno z (by rw [hz]; simp)
      simp only [hlen, false_or, List.head?_cons, hgl]
      constructor
      · rintro ⟨h1, h2⟩
        constructor
        · intro e
          simp only [Option.some.injEq] at e
          rw [hj1, e] at h1
          simp at h1
        · intro e
          simp only [Option.some.injEq] at e
          rw [hj2, e] at h2
          simp at h2
      · rintro ⟨h1, h2⟩
        constructor
        · rw [hj1]
          cases a with
          | nil => simp at h1
          | cons ch a' =>
            simp only [List.cons_append, List.head?_cons]
            intro e
            simp only [Option.some.injEq] at e
            exact hza (by simp [e])
        · rw [hj2]
          rcases List.eq_nil_or_concat z with hzc | ⟨z0, x, hzc⟩
          · rw [hzc] at h2; simp at h2
          · rw [List.concat_eq_append] at hzc
            have hx : x ≠ '\n' := fun e => hzz (by rw [hzc, e]; simp)
            rw [hzc, show Py.join ['\n'] (a :: init) ++ '\n' :: (z0 ++ [x]) =
              (Py.join ['\n'] (a :: init) ++ '\n' :: z0) ++ [x] by simp, List.getLast?_concat]
            simpa using hx

/-! ### the property: an indented block is reproduced verbatim -/

/-- the five ways to write a four-column indent: four blanks, or at most three blanks and a tab -/
def indents : List Str :=
  [[' ', ' ', ' ', ' '], ['\t'], [' ', '\t'], [' ', ' ', '\t'], [' ', ' ', ' ', '\t']]

example : indents = ["    ".toList, "\t".toList, " \t".toList, "  \t".toList, "   \t".toList] := by decide

/-- One line: after a four-column indent the rest of the line comes out unchanged, **whatever it is** — it may start
with blanks or tabs: after four blanks `^( {0,3})\t` cannot match (the fourth blank is in the way), after a tab indent
the match is over, and `^ {1,4}` takes exactly the four blanks of the (expanded) indent. -/
theorem deindent_expandLine_indent (ind l : Str) (h : ind ∈ indents) : deindent (expandLine (ind ++ l)) = l := by
  simp only [indents, List.mem_cons, List.not_mem_nil, or_false] at h
  rcases h with rfl | rfl | rfl | rfl | rfl
  · simp [expandLine, expandLineW, spRun, deindent, dropUpTo]
  · rw [show ['\t'] ++ l = [] ++ '\t' :: l from rfl, expandLine_tab [] l (by simp) (by simp)]
    simp [deindent, dropUpTo]
  · rw [show [' ', '\t'] ++ l = [' '] ++ '\t' :: l from rfl, expandLine_tab [' '] l (by simp) (by simp)]
    simp [deindent, dropUpTo, List.replicate]
  · rw [show [' ', ' ', '\t'] ++ l = [' ', ' '] ++ '\t' :: l from rfl, expandLine_tab [' ', ' '] l (by simp) (by simp)]
    simp [deindent, dropUpTo, List.replicate]
  · rw [show [' ', ' ', ' ', '\t'] ++ l = [' ', ' ', ' '] ++ '\t' :: l from rfl,
      expandLine_tab [' ', ' ', ' '] l (by simp) (by simp)]
    simp [deindent, dropUpTo]

theorem deindent_expandLine_nil : deindent (expandLine []) = [] := by decide

/-- **Line-wise form.**  Every line of `code` is `ind ++ l` with a four-column indent `ind` and an arbitrary `l`, or is
empty (`segs` lists the pairs `(ind, l)`; `([], [])` for an empty line).  Then the code is the `l`s joined by
newlines, with the newlines at both ends stripped. -/
theorem indent_lines (cfg : MdCfg) (hcfg : cfg.named = Generated.namedRx) (code : Str) (segs : List (Str × Str))
    (hlines : splitNl code = segs.map (fun p => p.1 ++ p.2))
    (hseg : ∀ p ∈ segs, p.1 ∈ indents ∨ p = ([], [])) :
    indentBody cfg code = stripNl (Py.join ['\n'] (segs.map (·.2))) := by
  rw [indentBody_eq cfg hcfg, indentSpec, hlines, List.map_map]
  congr 2
  apply List.map_congr_left
  intro p hp
  rcases hseg p hp with h | h
  · exact deindent_expandLine_indent p.1 p.2 h
  · rw [h]; exact deindent_expandLine_nil

theorem seg_no_nl (code : Str) (segs : List (Str × Str))
    (hlines : splitNl code = segs.map (fun p => p.1 ++ p.2)) : ∀ l ∈ segs.map (·.2), '\n' ∉ l := by
  intro l hl
  obtain ⟨p, hp, rfl⟩ := List.mem_map.mp hl
  have := splitNl_mem_no_nl code (p.1 ++ p.2) (by rw [hlines]; exact List.mem_map.mpr ⟨p, hp, rfl⟩)
  exact fun e => this (List.mem_append_right _ e)

/-- **`indent_verbatim`.**  Under the hypotheses of `indent_lines`, the code is exactly the `l`s joined by newlines
**iff** there is a single line or the first and the last `l` are non-empty.  (Non-emptiness of the first and last
*lines* is not enough: for `"    \n    x"` the first `l` is empty, the joined text starts with a newline and
`strip("\n")` removes it.) -/
theorem indent_verbatim_iff (cfg : MdCfg) (hcfg : cfg.named = Generated.namedRx) (code : Str)
    (segs : List (Str × Str)) (hlines : splitNl code = segs.map (fun p => p.1 ++ p.2))
    (hseg : ∀ p ∈ segs, p.1 ∈ indents ∨ p = ([], [])) :
    indentBody cfg code = Py.join ['\n'] (segs.map (·.2)) ↔
      ((segs.map (·.2)).length = 1 ∨
        ((segs.map (·.2)).head? ≠ some [] ∧ (segs.map (·.2)).getLast? ≠ some [])) := by
  rw [indent_lines cfg hcfg code segs hlines hseg]
  apply stripNl_join_iff _ _ (seg_no_nl code segs hlines)
  intro e
  have := splitNl_ne_nil code
  rw [hlines] at this
  simp only [List.map_eq_nil_iff] at e
  rw [e] at this
  exact this rfl

/-- **The property**: every line of `code` is a four-column indent followed by an arbitrary `l`, or is empty; the
first and the last `l` are non-empty; then the code of the block is the `l`s (`""` for the empty lines) joined by
newlines. -/
theorem indent_verbatim (cfg : MdCfg) (hcfg : cfg.named = Generated.namedRx) (code : Str)
    (segs : List (Str × Str)) (hlines : splitNl code = segs.map (fun p => p.1 ++ p.2))
    (hseg : ∀ p ∈ segs, p.1 ∈ indents ∨ p = ([], []))
    (hfirst : (segs.map (·.2)).head? ≠ some []) (hlast : (segs.map (·.2)).getLast? ≠ some []) :
    indentBody cfg code = Py.join ['\n'] (segs.map (·.2)) :=
  (indent_verbatim_iff cfg hcfg code segs hlines hseg).mpr (Or.inr ⟨hfirst, hlast⟩)

/-- the same with the text given by its lines -/
theorem indent_verbatim_join (cfg : MdCfg) (hcfg : cfg.named = Generated.namedRx) (segs : List (Str × Str))
    (hne : segs ≠ []) (hseg : ∀ p ∈ segs, (p.1 ∈ indents ∨ p = ([], [])) ∧ '\n' ∉ p.2)
    (hfirst : (segs.map (·.2)).head? ≠ some []) (hlast : (segs.map (·.2)).getLast? ≠ some []) :
    indentBody cfg (Py.join ['\n'] (segs.map (fun p => p.1 ++ p.2))) = Py.join ['\n'] (segs.map (·.2)) := by
  apply indent_verbatim cfg hcfg _ segs _ (fun p hp => (hseg p hp).1) hfirst hlast
  apply splitNl_join _ (by simpa using hne)
  intro l hl
  obtain ⟨p, hp, rfl⟩ := List.mem_map.mp hl
  intro e
  rcases List.mem_append.mp e with e | e
  · rcases (hseg p hp).1 with h | h
    · simp only [indents, List.mem_cons, List.not_mem_nil, or_false] at h
      rcases h with h | h | h | h | h <;> rw [h] at e <;> simp at e
    · rw [h] at e; simp at e
  · exact (hseg p hp).2 e

/-! ### the handler -/

theorem appendParagraph_x (cfg : MdCfg) (st st' : BlockState) (endPos : Option Nat)
    (h : st.appendParagraph cfg = .ok (endPos, st')) : st'.x = st.x := by
  unfold BlockState.appendParagraph at h
  cases hl : st.lastParagraph with
  | error e => rw [hl] at h; cases h
  | ok o =>
    rw [hl] at h
    cases o with
    | none =>
      simp only [bind, Except.bind, pure, Except.pure] at h
      cases h; rfl
    | some last =>
      simp only [bind, Except.bind, pure, Except.pure] at h
      cases hf : st.findLineEnd cfg with
      | error e => rw [hf] at h; cases h
      | ok pos =>
        rw [hf] at h
        simp only at h
        cases ha : BlockState.addText last (st.getText pos) with
        | error e => rw [ha] at h; cases h
        | ok last' =>
          rw [ha] at h
          simp only at h
          cases h; rfl

/-- **the handler**: when `append_paragraph()` returns a falsy position (it left the state `st'`), `parse_indent_code`
appends one `block_code` token whose `raw` is `indentBody` of the matched text, and returns `m.end()` -/
theorem parseIndentCode_eq (cfg : MdCfg) (mt : RxMatch) (st st' : BlockState) (endPos : Option Nat)
    (hap : st.appendParagraph cfg = .ok (endPos, st')) (hfalsy : truthyPos endPos = false) :
    parseIndentCode cfg mt st =
      .ok (some mt.stop, st'.appendToken
        (tok "block_code" [("raw", .str (indentBody cfg (grp0 st mt))), ("style", Json.s "indent")])) ∧
    (tok "block_code" [("raw", .str (indentBody cfg (grp0 st mt))), ("style", Json.s "indent")]).getStr? "raw" =
      some (indentBody cfg (grp0 st mt)) := by
  constructor
  · have hx : grp0 st' mt = grp0 st mt := by unfold grp0; rw [appendParagraph_x cfg st st' endPos hap]
    unfold parseIndentCode
    rw [hap]
    simp only [bind, Except.bind, hfalsy, Bool.false_eq_true, if_false, hx]
    rfl
  · simp [tok, Json.getStr?, Json.get?, List.lookup]

/-- it is a part of the paragraph: a truthy position is returned as it is, no token is appended -/
theorem parseIndentCode_paragraph (cfg : MdCfg) (mt : RxMatch) (st st' : BlockState) (endPos : Option Nat)
    (hap : st.appendParagraph cfg = .ok (endPos, st')) (htruthy : truthyPos endPos = true) :
    parseIndentCode cfg mt st = .ok (endPos, st') := by
  unfold parseIndentCode
  rw [hap]
  simp only [bind, Except.bind, htruthy, if_true]
  rfl

/-- an exception of `append_paragraph()` propagates -/
theorem parseIndentCode_raise (cfg : MdCfg) (mt : RxMatch) (st : BlockState) (e : PyErr)
    (hap : st.appendParagraph cfg = .error e) : parseIndentCode cfg mt st = .error e := by
  unfold parseIndentCode
  rw [hap]
  rfl

/-! ### instances -/

section Examples

/-- the configuration the examples run with (any `ofRuleCfg c` has `named = namedRx` by definition) -/
abbrev exCfg : MdCfg := ofRuleCfg cfg_core

/-- `indentBody_eq`: the model (the two regexes run on the engine) and the specification, both evaluated by the kernel.
Line 1: tab after one blank, then `l = " \tfoo"` (its tab is not expanded).  Line 2: tab after two blanks, `l = "  x"`.
Line 3: tab after three blanks. -/
example : indentBody exCfg " \t \tfoo\n  \t  x\n   \ty".toList = " \tfoo\n  x\ny".toList :=
  (indentBody_rx exCfg expandTabRx_lookup indentTrimRx_lookup _).trans (by decide +kernel)

example : indentSpec " \t \tfoo\n  \t  x\n   \ty".toList = " \tfoo\n  x\ny".toList := by decide +kernel

example : indentBody exCfg " \t \tfoo\n  \t  x\n   \ty".toList = indentSpec " \t \tfoo\n  \t  x\n   \ty".toList :=
  indentBody_eq exCfg rfl _

/-- lines that are not indented by four columns (the function is total): one to three blanks are removed, a line without
leading blank is copied by `^ {1,4}`, five blanks leave one -/
example : indentSpec "  x\ny\n     z\n\n\n".toList = "x\ny\n z".toList := by decide +kernel

example : indentBody exCfg "  x\ny\n     z\n\n\n".toList = "x\ny\n z".toList :=
  (indentBody_eq exCfg rfl _).trans (by decide +kernel)

/-- `indent_verbatim` on `"    a\n\n\t\tb\n  \t  c\n    \td"`: all five clauses of the property at once — four blanks, an
interior empty line, a tab indent followed by a tab, blanks + tab followed by blanks, four blanks followed by a tab -/
example : indentBody exCfg "    a\n\n\t\tb\n  \t  c\n    \td".toList = "a\n\n\tb\n  c\n\td".toList :=
  (indent_verbatim exCfg rfl _
    [("    ".toList, "a".toList), ([], []), ("\t".toList, "\tb".toList), ("  \t".toList, "  c".toList),
      ("    ".toList, "\td".toList)]
    (by decide +kernel) (by decide +kernel) (by decide) (by decide)).trans (by decide +kernel)

/-- the same evaluated directly on the engine -/
example : indentBody exCfg "    a\n\n\t\tb\n  \t  c\n    \td".toList = "a\n\n\tb\n  c\n\td".toList :=
  (indentBody_rx exCfg expandTabRx_lookup indentTrimRx_lookup _).trans (by decide +kernel)

/-- the clause "`l` starting with a tab after a four-blank indent" is **true**: `^( {0,3})\t` does not match
`"    \tfoo"` (the engine backtracks through 3, 2, 1, 0 blanks and finds a blank instead of the tab each time) -/
example : indentBody exCfg "    \tfoo".toList = "\tfoo".toList :=
  (indentBody_rx exCfg expandTabRx_lookup indentTrimRx_lookup _).trans (by decide +kernel)

example : expandTabRxExpected.matchAt (Py.ctxOf "    \tfoo".toList) 0 = none := by decide

/-- **counterexample** to "first and last *lines* non-empty": the first line `"    "` is non-empty but its `l` is; the
joined text `"\nx"` starts with a newline, which `strip("\n")` removes -/
example : indentBody exCfg "    \n    x".toList = "x".toList ∧
    indentBody exCfg "    \n    x".toList ≠ Py.join ['\n'] [[], "x".toList] := by
  rw [indentBody_eq exCfg rfl]
  decide +kernel

/-- the same through `indent_verbatim_iff` -/
example : indentBody exCfg "    \n    x".toList ≠ Py.join ['\n'] [[], "x".toList] := fun h =>
  absurd ((indent_verbatim_iff exCfg rfl "    \n    x".toList [("    ".toList, []), ("    ".toList, "x".toList)]
    (by decide) (by decide)).mp h) (by decide)

/-- **counterexample** at the other end (`"  \t"` is a whole last line with empty `l`) -/
example : indentBody exCfg "\tx\n  \t".toList = "x".toList ∧
    indentBody exCfg "\tx\n  \t".toList ≠ Py.join ['\n'] ["x".toList, []] := by
  rw [indentBody_eq exCfg rfl]
  decide +kernel

/-- a single line with empty `l` is fine (first disjunct of `indent_verbatim_iff`) -/
example : indentBody exCfg "    ".toList = Py.join ['\n'] [[]] :=
  (indent_verbatim_iff exCfg rfl "    ".toList [("    ".toList, [])] (by decide) (by decide)).mpr (Or.inl rfl)

/-- outside the hypotheses: an interior line of two blanks is not an empty line; it comes out empty -/
example : indentBody exCfg "    a\n  \n    b".toList = "a\n\nb".toList :=
  (indentBody_eq exCfg rfl _).trans (by decide +kernel)

/-- the handler on the root state of `"    a\n"`, match `[0, 6)` (no paragraph before): one token, `raw = "a"` -/
example :
    parseIndentCode exCfg { start := 0, stop := 6, caps := [] } (BlockState.root "    a\n".toList) =
      .ok (some 6, (BlockState.root "    a\n".toList).appendToken
        (tok "block_code" [("raw", .str (indentBody exCfg "    a\n".toList)), ("style", Json.s "indent")])) :=
  (parseIndentCode_eq exCfg { start := 0, stop := 6, caps := [] } (BlockState.root "    a\n".toList)
    (BlockState.root "    a\n".toList) none rfl rfl).1

example : indentBody exCfg "    a\n".toList = "a".toList :=
  (indentBody_eq exCfg rfl _).trans (by decide +kernel)

end Examples

end Mistune
