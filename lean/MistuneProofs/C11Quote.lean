/-
C11 / C03 / C04 / C13 (block quotes): the removal of the quote prefix is verbatim.

`extract_block_quote` applies three substitutions to a run of marked lines (`Model.Blk.cleanQuote`):
`_BLOCK_QUOTE_LEADING.sub("")` (`^ *>`, re.M), `expand_leading_tab(…, 3)` (`^( {0,3})\t`, re.M) and
`_BLOCK_QUOTE_TRIM.sub("")` (`^ ?`, re.M).  All three are line-head patterns.

(1) expected terms and kernel-decided `…_lookup` obligations for the three regexes and for the block rule `block_quote`;
(2) `cleanQuote_eq`: for every input, `cleanQuote` is the per-line function `quoteLine` applied to every line;
(3) `cleanQuote_verbatim` (`> l`), `cleanQuote_verbatim_tight` (`>l`), `cleanQuote_verbatim_marked` (mixed): the content
    lines come out unchanged; the tab hypothesis is necessary (`> \tx`);
(4) `_STRICT_BLOCK_QUOTE` (`( {0,3}>[^\n]*(?:\n|$))+`) evaluated exactly on the engine: `strictQuote_matchAt` (the greedy `+`
    takes every marked line and stops at the first line without marker), `strictQuote_matchAt_open` (last line
    unterminated at the end of the subject), `strictQuote_matchAt_isSome_iff` (a match exists iff the text starts with
    (0–3 blanks) `>`);
(5) the handler: `extractBlockQuote_marker` (`require_marker` branch), `extractBlockQuote_lazy` (the loop, on a canonical
    quote that ends in one of the three ways of `QuoteEnd`) with its instances `_lazy_eos / _blank / _break`, their
    `_verbatim_` forms (the child text is exactly the de-prefixed lines),
    `parseBlockQuote_of`, `blockQuote_match` (what the match of the block rule provides), and the composition with
    `fenced_closed_verbatim`: `quoted_fenced_verbatim`.
-/
import MistuneProofs.C03ListClean
namespace Mistune
open Mistune.Model Mistune.Model.Blk Mistune.Generated

/-! ### (1) the three regexes, as expected; kernel-decided against the regenerated table -/

/-- `re.compile(r"^ *>", flags=re.M)` -/
def quoteLeadingRxExpected : Rx :=
  .seq .bol (.seq (.rep (.cls false [.chr 32]) 0 none true) (.cls false [.chr 62]))

/-- `re.compile(r"^ ?", flags=re.M)`: the same term as `^ {0,1}` -/
def quoteTrimRxExpected : Rx := trimRx 1

/-- one marked line: `( {0,3}>[^\n]*(?:\n|$))` -/
def strictLineRx : Rx :=
  .grp 1 (.seq (.rep (.cls false [.chr 32]) 0 (some 3) true) (.seq (.cls false [.chr 62])
    (.seq (.rep (.cls true [.chr 10]) 0 none true) (.alt (.cls false [.chr 10]) .eos))))

/-- `re.compile(r"( {0,3}>[^\n]*(?:\n|$))+")` -/
def strictQuoteRxExpected : Rx := .rep strictLineRx 1 none true

/-- **Obligation:** the regenerated `mistune.block_parser._BLOCK_QUOTE_LEADING` is the expected term. -/
theorem quoteLeadingRx_lookup :
    namedRx.lookup "mistune.block_parser._BLOCK_QUOTE_LEADING" = some quoteLeadingRxExpected := by
  decide +kernel

/-- **Obligation:** the regenerated `mistune.block_parser._BLOCK_QUOTE_TRIM` is the expected term. -/
theorem quoteTrimRx_lookup :
    namedRx.lookup "mistune.block_parser._BLOCK_QUOTE_TRIM" = some quoteTrimRxExpected := by
  decide +kernel

/-- **Obligation:** the regenerated `mistune.block_parser._STRICT_BLOCK_QUOTE` is the expected term. -/
theorem strictQuoteRx_lookup :
    namedRx.lookup "mistune.block_parser._STRICT_BLOCK_QUOTE" = some strictQuoteRxExpected := by
  decide +kernel

/-- `Except.ok a` is `pure a`: in this form `pure_bind` fires on the `do` block of a handler once its first action has
been rewritten to a value -/
theorem ok_eq_pure {α : Type} (a : α) : (Except.ok a : Except PyErr α) = pure a := rfl

/-! ### `^ *>`: a line-head pattern -/

namespace QuoteAux

/-- number of leading blanks -/
def blanks (l : Str) : Nat := (l.takeWhile (· == ' ')).length

theorem blanks_cons_sp (r : Str) : blanks (' ' :: r) = blanks r + 1 := by simp [blanks]

theorem blanks_cons_ne (ch : Char) (r : Str) (h : ch ≠ ' ') : blanks (ch :: r) = 0 := by simp [blanks, h]

theorem blanks_firstLine (b : Str) : blanks (firstLine b) = blanks b := by
  induction b with
  | nil => rfl
  | cons ch r ih =>
    by_cases hnl : ch = '\n'
    · subst hnl; simp [firstLine, blanks]
    · rw [firstLine_cons _ _ hnl]
      by_cases hsp : ch = ' '
      · subst hsp; rw [blanks_cons_sp, blanks_cons_sp, ih]
      · rw [blanks_cons_ne _ _ hsp, blanks_cons_ne _ _ hsp]

/-- the leading blanks, and what follows -/
theorem blanks_spec (b : Str) : ∃ run rest, b = run ++ rest ∧ run.length = blanks b ∧ ∀ ch ∈ run, ch = ' ' :=
  ⟨b.takeWhile (· == ' '), b.dropWhile (· == ' '), (List.takeWhile_append_dropWhile).symm, rfl,
    fun ch hch => by simpa using mem_takeWhile_pos hch⟩

theorem blanks_run (sp rest : Str) (hsp : ∀ ch ∈ sp, ch = ' ') (hrest : ∀ ch r, rest = ch :: r → ch ≠ ' ') :
    blanks (sp ++ rest) = sp.length := by
  unfold blanks
  rw [List.takeWhile_append_of_pos (fun ch hch => by simp [hsp ch hch]),
    takeWhile_nil_of_head (fun ch r h => by simpa using hrest ch r h), List.append_nil]

end QuoteAux
open QuoteAux

/-- length of the match of `^ *>` at the start of line `l` (`0`: no match): all the leading blanks and the `>` -/
def markLen (l : Str) : Nat := if l[blanks l]? = some '>' then blanks l + 1 else 0

/-- `_BLOCK_QUOTE_LEADING.sub("", line)`: a line of the shape blanks* `>` … loses the blanks and the `>` -/
def dropMarker (l : Str) : Str := if l[blanks l]? = some '>' then l.drop (blanks l + 1) else l

/-- the line is blanks* `>` … -/
def MarkHead (l : Str) : Prop := ∃ sp rest, l = sp ++ '>' :: rest ∧ ∀ ch ∈ sp, ch = ' '

/-- the character after a prefix is the head of the rest -/
theorem cons_of_getElem?_length {run rest : Str} {ch : Char} (h : (run ++ rest)[run.length]? = some ch) :
    ∃ r, rest = ch :: r := by
  rw [List.getElem?_append_right (Nat.le_refl _), Nat.sub_self] at h
  cases rest with
  | nil => cases h
  | cons a r => exact ⟨r, by rw [List.getElem?_cons_zero, Option.some.injEq] at h; rw [h]⟩

/-- the path of ` {0,hi}>` over a run of blanks followed by `>` -/
theorem reaches_blanks_gt {s sp rest : Str} {i : Nat} (hi : Option Nat) (c : Caps) (hd : s.drop i = sp ++ '>' :: rest)
    (hle : i ≤ s.length) (hsp : ∀ ch ∈ sp, ch = ' ') (hhi : ∀ m, hi = some m → sp.length ≤ m) :
    Reaches (Py.ctxOf s) (.rep (.cls false [.chr 32]) 0 hi true) i c (i + sp.length) c ∧
      Reaches (Py.ctxOf s) (.cls false [.chr 62]) (i + sp.length) c (i + sp.length + 1) c ∧
      s.drop (i + sp.length + 1) = rest :=
  ⟨reaches_run (clsTest_chr1 pyCats ' ') 0 hi c hd hle (fun ch h => by simp [hsp ch h])
      (Or.inr (fun ch h => by cases h; rfl)) hhi (Nat.zero_le _),
    reaches_chr (clsTest_chr1 pyCats '>') c (drop_append hd) rfl,
    drop_append (u := ['>']) (drop_append hd)⟩

/-- what a match of ` {lo,hi}>` looks like: a run of blanks, then `>` -/
theorem spec_blanks_gt {s : Str} {lo : Nat} {hi : Option Nat} {i i1 i2 : Nat} {c c1 c2 : Caps}
    (hrep : Spec (Py.ctxOf s) (.rep (.cls false [.chr 32]) lo hi true) i c i1 c1)
    (hgt : Spec (Py.ctxOf s) (.cls false [.chr 62]) i1 c1 i2 c2) :
    ∃ sp, (∀ ch ∈ sp, ch = ' ') ∧ (∀ m, hi = some m → sp.length ≤ m) ∧ s.drop i = sp ++ '>' :: s.drop i2 ∧
      i2 = i + sp.length + 1 ∧ c2 = c := by
  obtain ⟨sp, hd, rfl, rfl, _, hhi, hsp⟩ := spec_run (clsTest_chr1 pyCats ' ') hrep
  obtain ⟨ch, hd', rfl, rfl, hch⟩ := spec_chr (clsTest_chr1 pyCats '>') hgt
  exact ⟨sp, fun ch h => by simpa using hsp ch h, hhi, by rw [hd, hd', show ch = '>' by simpa using hch], rfl, rfl⟩

theorem markHead_iff (l : Str) : MarkHead l ↔ l[blanks l]? = some '>' := by
  constructor
  · rintro ⟨sp, rest, rfl, h2⟩
    rw [blanks_run sp _ h2 (fun ch r h => by cases h; decide)]
    simp
  · intro hgt
    obtain ⟨run, rest, h1, h2, h3⟩ := blanks_spec l
    rw [← h2, h1] at hgt
    obtain ⟨r, rfl⟩ := cons_of_getElem?_length hgt
    exact ⟨run, r, h1, h3⟩

instance (l : Str) : Decidable (MarkHead l) := decidable_of_iff _ (markHead_iff l).symm

theorem markHead_firstLine (b : Str) : MarkHead (firstLine b) ↔ MarkHead b := by
  rw [markHead_iff, markHead_iff, blanks_firstLine]
  constructor
  · exact firstLine_getElem? b _ _
  · intro h
    obtain ⟨tl, h1, h2⟩ := firstLine_spec b
    have hbl : blanks b ≤ (firstLine b).length := by
      rw [← blanks_firstLine]
      unfold blanks
      exact (List.takeWhile_sublist _).length_le
    have h' : (firstLine b ++ tl)[blanks b]? = some '>' := by rw [← h1]; exact h
    rcases Nat.lt_or_ge (blanks b) (firstLine b).length with hlt | hge
    · rw [List.getElem?_append_left hlt] at h'; exact h'
    · exfalso
      have he : blanks b = (firstLine b).length := by omega
      rw [he] at h'
      obtain ⟨r, rfl⟩ := cons_of_getElem?_length h'
      rcases h2 with h2 | ⟨v, h2⟩ <;> cases h2

theorem markLen_le (l : Str) : markLen l ≤ l.length := by
  unfold markLen
  split
  · rename_i h
    rcases Nat.lt_or_ge (blanks l) l.length with h' | h'
    · omega
    · rw [List.getElem?_eq_none h'] at h; cases h
  · omega

theorem quoteLeading_matchAt_hit (t : Str) (q : Nat) (hq : q ≤ t.length) (hb : bolAt t q)
    (hgt : (t.drop q)[blanks (t.drop q)]? = some '>') :
    quoteLeadingRxExpected.matchAt (Py.ctxOf t) q =
      some { start := q, stop := q + blanks (t.drop q) + 1, caps := [] } := by
  obtain ⟨sp, rest, hd, hsp⟩ := (markHead_iff _).mpr hgt
  obtain ⟨h1, h2, _⟩ := reaches_blanks_gt none [] hd hq hsp (fun m hm => by cases hm)
  rw [hd, blanks_run sp _ hsp (fun ch r h => by cases h; decide)]
  exact (reaches_seq (reaches_bol [] hb) (reaches_seq h1 h2)).matchAt

theorem quoteLeading_matchAt_sound (t : Str) (q : Nat) (mt : RxMatch)
    (h : quoteLeadingRxExpected.matchAt (Py.ctxOf t) q = some mt) :
    bolAt t q ∧ MarkHead (t.drop q) := by
  obtain ⟨_, hs⟩ := matchAt_sound _ _ _ _ h
  obtain ⟨i0, c0, hbol, hs⟩ := spec_seq.mp hs
  obtain ⟨hb, rfl, rfl⟩ := spec_bol hbol
  obtain ⟨i1, c1, hrep, hgt⟩ := spec_seq.mp hs
  obtain ⟨sp, hsp, _, hd, _⟩ := spec_blanks_gt hrep hgt
  exact ⟨hb, sp, _, hd, hsp⟩

theorem quoteLeading_lineSub : LineSub quoteLeadingRxExpected (fun _ _ => []) markLen (fun _ => []) where
  len_le := markLen_le
  hit := fun t q hq hb hpos => by
    have hgt : (firstLine (t.drop q))[blanks (firstLine (t.drop q))]? = some '>' := by
      unfold markLen at hpos
      split at hpos
      · assumption
      · omega
    have hgt' : (t.drop q)[blanks (t.drop q)]? = some '>' :=
      (markHead_iff _).mp ((markHead_firstLine _).mp ((markHead_iff _).mpr hgt))
    have hlen : markLen (firstLine (t.drop q)) = blanks (t.drop q) + 1 := by
      unfold markLen
      rw [if_pos hgt, blanks_firstLine]
    exact ⟨_, quoteLeading_matchAt_hit t q hq hb hgt', rfl, by rw [hlen, Nat.add_assoc], rfl⟩
  miss := fun t q mt _ hm => by
    obtain ⟨hb, hmk⟩ := quoteLeading_matchAt_sound t q mt hm
    refine ⟨hb, ?_⟩
    have := (markHead_iff _).mp ((markHead_firstLine _).mpr hmk)
    unfold markLen
    rw [if_pos this]
    omega

theorem rwLine_marker : rwLine markLen (fun _ => []) = dropMarker := by
  funext l
  unfold rwLine dropMarker markLen
  by_cases h : l[blanks l]? = some '>'
  · simp [h]
  · simp [h]

/-- **`_BLOCK_QUOTE_LEADING.sub("", text)` rewrites every line separately** -/
theorem reSub_quoteLeading (t : Str) :
    Py.reSub quoteLeadingRxExpected (fun _ _ => []) t = subLines dropMarker t := by
  rw [lineSub quoteLeading_lineSub t, rwLine_marker]

/-! ### (2) `cleanQuote`, line by line -/

/-- **the per-line specification of the prefix removal**:
1. a line of the shape blanks* `>` … loses the blanks and the `>` (`dropMarker`; other lines are kept);
2. if what remains starts with at most three blanks and a tab, the tab is replaced by the blanks that reach column 3
   (`expandLineW 3`: `sp ++ '\t' :: r ↦ sp ++ replicate (3 - |sp|) ' ' ++ r`; after three blanks the tab disappears);
3. one leading blank is removed if there is one (`dropUpTo 1`). -/
def quoteLine (l : Str) : Str := dropUpTo 1 (expandLineW 3 (dropMarker l))

theorem dropMarker_no_nl (l : Str) (h : '\n' ∉ l) : '\n' ∉ dropMarker l := by
  unfold dropMarker
  split
  · exact fun e => h (List.mem_of_mem_drop e)
  · exact h

theorem quoteLine_no_nl (l : Str) (h : '\n' ∉ l) : '\n' ∉ quoteLine l :=
  dropUpTo_no_nl 1 _ (expandLineW_no_nl 3 _ (dropMarker_no_nl l h))

/-- `cleanQuote` with its three regexes looked up: the three substitutions on the engine -/
theorem cleanQuote_rx (cfg : MdCfg) (hcfg : cfg.named = Generated.namedRx) (q : Str) :
    cleanQuote cfg q = Py.reSub quoteTrimRxExpected (fun _ _ => [])
      (Py.reSub expandTabRxExpected (tabRepl 3) (Py.reSub quoteLeadingRxExpected (fun _ _ => []) q)) := by
  unfold cleanQuote expandLeadingTab
  rw [rx_of_lookup cfg _ _ (hcfg ▸ quoteLeadingRx_lookup), rx_of_lookup cfg _ _ (hcfg ▸ expandTabRx_lookup),
    rx_of_lookup cfg _ _ (hcfg ▸ quoteTrimRx_lookup)]
  rfl

/-- **(2) `cleanQuote_eq`: for every string `q`, `cleanQuote cfg q` is `quoteLine` applied to every line of `q`**
(split at `'\n'`, joined by `'\n'`), for every regenerated configuration (closed: the obligations are kernel-decided
above).  Each of the three substitutions rewrites every line separately (`lineSub`); they compose line by line. -/
theorem cleanQuote_eq (cfg : MdCfg) (hcfg : cfg.named = Generated.namedRx) (q : Str) :
    cleanQuote cfg q = Py.join ['\n'] ((splitNl q).map quoteLine) := by
  rw [cleanQuote_rx cfg hcfg, reSub_quoteLeading, reSub_expandTab]
  unfold quoteTrimRxExpected
  rw [reSub_trim 1, trimLines_eq_subLines, subLines_comp _ _ dropMarker_no_nl,
    subLines_comp (expandLineW 3 ∘ dropMarker) (dropUpTo 1)
      (fun l hl => expandLineW_no_nl 3 _ (dropMarker_no_nl l hl))]
  rfl

theorem cleanQuote_eq_ofRuleCfg (c : RuleCfg) (q : Str) :
    cleanQuote (ofRuleCfg c) q = Py.join ['\n'] ((splitNl q).map quoteLine) :=
  cleanQuote_eq (ofRuleCfg c) rfl q

/-- the line structure is preserved: the lines of the result are the cleaned lines of the source -/
theorem cleanQuote_lines (cfg : MdCfg) (hcfg : cfg.named = Generated.namedRx) (q : Str) :
    splitNl (cleanQuote cfg q) = (splitNl q).map quoteLine := by
  rw [cleanQuote_eq cfg hcfg]
  exact splitNl_subLines quoteLine quoteLine_no_nl q

theorem cleanQuote_line_count (cfg : MdCfg) (hcfg : cfg.named = Generated.namedRx) (q : Str) :
    (splitNl (cleanQuote cfg q)).length = (splitNl q).length := by
  rw [cleanQuote_lines cfg hcfg, List.length_map]

/-! ### the cases of `quoteLine` -/

theorem dropMarker_marked (sp rest : Str) (hsp : ∀ ch ∈ sp, ch = ' ') : dropMarker (sp ++ '>' :: rest) = rest := by
  unfold dropMarker
  rw [blanks_run sp _ hsp (fun ch r h => by cases h; decide), if_pos (by simp)]
  simp

theorem dropMarker_other (l : Str) (h : ¬ MarkHead l) : dropMarker l = l := by
  unfold dropMarker
  rw [if_neg (fun e => h ((markHead_iff l).mpr e))]

/-- a marked line: the blanks and the `>` go, the rest is tab-expanded to column 3 and loses one leading blank -/
theorem quoteLine_marked (sp rest : Str) (hsp : ∀ ch ∈ sp, ch = ' ') :
    quoteLine (sp ++ '>' :: rest) = dropUpTo 1 (expandLineW 3 rest) := by
  unfold quoteLine
  rw [dropMarker_marked sp rest hsp]

/-- a line without marker (it cannot occur in a `_STRICT_BLOCK_QUOTE` match, `cleanQuote` is total nevertheless) -/
theorem quoteLine_unmarked (l : Str) (h : ¬ MarkHead l) : quoteLine l = dropUpTo 1 (expandLineW 3 l) := by
  unfold quoteLine
  rw [dropMarker_other l h]

theorem quoteLine_nil : quoteLine [] = [] := by decide

/-- `ind> l` (one blank after the marker): the content `l` comes out as it is, unless `" " ++ l` starts with at most
three blanks and a tab (i.e. `l` starts with at most two blanks and a tab) -/
theorem quoteLine_spaced (ind l : Str) (hind : ∀ ch ∈ ind, ch = ' ') (h : ¬ TabHead (' ' :: l)) :
    quoteLine (ind ++ '>' :: ' ' :: l) = l := by
  rw [quoteLine_marked ind _ hind, expandLineW_other 3 _ h]
  simp [dropUpTo]

/-- `ind>l` with `l` not starting with a blank or a tab: the content comes out as it is -/
theorem quoteLine_tight (ind l : Str) (hind : ∀ ch ∈ ind, ch = ' ') (h1 : l.head? ≠ some ' ')
    (h2 : l.head? ≠ some '\t') : quoteLine (ind ++ '>' :: l) = l := by
  have hnt : ¬ TabHead l := by
    rintro ⟨sp, rest, rfl, hsp, _⟩
    cases sp with
    | nil => simp at h2
    | cons ch sp' =>
      have := hsp ch (by simp)
      subst this
      simp at h1
  rw [quoteLine_marked ind _ hind, expandLineW_other 3 _ hnt]
  cases l with
  | nil => rfl
  | cons ch r =>
    have : ch ≠ ' ' := fun e => h1 (by simp [e])
    simp [dropUpTo, this]

/-- the tab case, exactly: after the marker, (≤ 3 blanks) tab `r` becomes the blanks, the blanks that reach column 3,
`r`, minus one leading blank — the tab never survives, and after three blanks it vanishes -/
theorem quoteLine_tab (ind sp r : Str) (hind : ∀ ch ∈ ind, ch = ' ') (hsp : ∀ ch ∈ sp, ch = ' ')
    (hlen : sp.length ≤ 3) :
    quoteLine (ind ++ '>' :: (sp ++ '\t' :: r)) = dropUpTo 1 (sp ++ List.replicate (3 - sp.length) ' ' ++ r) := by
  rw [quoteLine_marked ind _ hind, expandLineW_tab 3 sp r hsp hlen]

/-! ### (3) verbatim -/

/-- `line` is a marked form of the content line `l`: blanks, `>`, and either one blank and `l` (where `" " ++ l` is not
(≤ 3 blanks) tab …), or `l` directly (where `l` does not start with a blank or a tab) -/
inductive Marked : Str → Str → Prop where
  | spaced (ind l : Str) : (∀ ch ∈ ind, ch = ' ') → ¬ TabHead (' ' :: l) → Marked (ind ++ '>' :: ' ' :: l) l
  | tight (ind l : Str) : (∀ ch ∈ ind, ch = ' ') → l.head? ≠ some ' ' → l.head? ≠ some '\t' →
      Marked (ind ++ '>' :: l) l

theorem quoteLine_of_marked {line l : Str} (h : Marked line l) : quoteLine line = l := by
  cases h with
  | spaced ind l h1 h2 => exact quoteLine_spaced ind l h1 h2
  | tight ind l h1 h2 h3 => exact quoteLine_tight ind l h1 h2 h3

theorem marked_no_nl {line l : Str} (h : Marked line l) (hl : '\n' ∉ l) : '\n' ∉ line := by
  have aux : ∀ ind : Str, (∀ ch ∈ ind, ch = ' ') → '\n' ∉ ind :=
    fun ind hind e => absurd (hind _ e) (by decide)
  cases h with
  | spaced ind l h1 h2 => simpa [hl] using aux ind h1
  | tight ind l h1 h2 h3 => simpa [hl] using aux ind h1

/-- the per-line specification on marked lines: for every element of `xs`, `f` gives a marked line and `g` the content
line it stands for -/
theorem subLines_quoteLine_marked {α : Type} (f g : α → Str) (xs : List α)
    (h : ∀ x ∈ xs, Marked (f x) (g x) ∧ '\n' ∉ g x) :
    subLines quoteLine (xs.map (fun x => f x ++ ['\n'])).flatten = (xs.map (fun x => g x ++ ['\n'])).flatten := by
  have := subLines_flatten quoteLine quoteLine_nil (xs.map f)
    (List.forall_mem_map.mpr fun x hx => marked_no_nl (h x hx).1 (h x hx).2)
  rw [List.map_map, List.map_map] at this
  refine this.trans ?_
  congr 1
  apply List.map_congr_left
  intro x hx
  simp only [Function.comp]
  rw [quoteLine_of_marked (h x hx).1]

/-- **(3), general form.**  `segs` lists pairs (marked line, content line).  `cleanQuote` of the marked lines (each
followed by a newline) is the content lines (each followed by a newline). -/
theorem cleanQuote_verbatim_marked (cfg : MdCfg) (hcfg : cfg.named = Generated.namedRx) (segs : List (Str × Str))
    (hseg : ∀ p ∈ segs, Marked p.1 p.2 ∧ '\n' ∉ p.2) :
    cleanQuote cfg (segs.map (fun p => p.1 ++ ['\n'])).flatten = (segs.map (fun p => p.2 ++ ['\n'])).flatten := by
  rw [cleanQuote_eq cfg hcfg]
  exact subLines_quoteLine_marked (fun p : Str × Str => p.1) (·.2) segs hseg

/-- **(3) `cleanQuote_verbatim`.**  `segs` lists pairs `(ind, l)`: `ind` is made of blanks (any number; the regex
`_STRICT_BLOCK_QUOTE` only admits 0–3), `l` is the content line, `" " ++ l` is not of the form (≤ 3 blanks) tab … .
Then `cleanQuote` of the concatenation of the `ind ++ "> " ++ l ++ "\n"` is the concatenation of the `l ++ "\n"`:
exactly the prefix is removed, everything else — interior and further leading blanks included — is untouched. -/
theorem cleanQuote_verbatim (cfg : MdCfg) (hcfg : cfg.named = Generated.namedRx) (segs : List (Str × Str))
    (hseg : ∀ p ∈ segs, (∀ ch ∈ p.1, ch = ' ') ∧ ¬ TabHead (' ' :: p.2) ∧ '\n' ∉ p.2) :
    cleanQuote cfg (segs.map (fun p => p.1 ++ '>' :: ' ' :: p.2 ++ ['\n'])).flatten =
      (segs.map (fun p => p.2 ++ ['\n'])).flatten := by
  rw [cleanQuote_eq cfg hcfg]
  exact subLines_quoteLine_marked (fun p : Str × Str => p.1 ++ '>' :: ' ' :: p.2) (·.2) segs
    (fun p hp => ⟨Marked.spaced p.1 p.2 (hseg p hp).1 (hseg p hp).2.1, (hseg p hp).2.2⟩)

/-- **(3), the variant `>foo`**: the marker is immediately followed by a character that is neither a blank nor a tab
(or by nothing: `l = []`, the line `>`). -/
theorem cleanQuote_verbatim_tight (cfg : MdCfg) (hcfg : cfg.named = Generated.namedRx) (segs : List (Str × Str))
    (hseg : ∀ p ∈ segs, (∀ ch ∈ p.1, ch = ' ') ∧ p.2.head? ≠ some ' ' ∧ p.2.head? ≠ some '\t' ∧ '\n' ∉ p.2) :
    cleanQuote cfg (segs.map (fun p => p.1 ++ '>' :: p.2 ++ ['\n'])).flatten =
      (segs.map (fun p => p.2 ++ ['\n'])).flatten := by
  rw [cleanQuote_eq cfg hcfg]
  exact subLines_quoteLine_marked (fun p : Str × Str => p.1 ++ '>' :: p.2) (·.2) segs
    (fun p hp => ⟨Marked.tight p.1 p.2 (hseg p hp).1 (hseg p hp).2.1 (hseg p hp).2.2.1, (hseg p hp).2.2.2⟩)

section Examples

/-- the model (the three regexes of the regenerated table, on the engine), evaluated by the kernel -/
example : cleanQuote exCfg "> foo\n> bar\n".toList = "foo\nbar\n".toList := by
  rw [cleanQuote_rx exCfg rfl]; decide +kernel
example : cleanQuote exCfg " >  x\n>y\n".toList = " x\ny\n".toList := by
  rw [cleanQuote_rx exCfg rfl]; decide +kernel

/-- the per-line specification on the same inputs -/
example : subLines quoteLine "> foo\n> bar\n".toList = "foo\nbar\n".toList := by decide +kernel
example : subLines quoteLine " >  x\n>y\n   >   z  z\n>\n".toList = " x\ny\n  z  z\n\n".toList := by decide +kernel

/-- `cleanQuote_verbatim` instantiated (non-vacuity): three lines, with interior / further leading blanks -/
example : cleanQuote exCfg "> foo  bar\n   >   x\n>  \n".toList = "foo  bar\n  x\n \n".toList :=
  cleanQuote_verbatim exCfg rfl [([], "foo  bar".toList), ("   ".toList, "  x".toList), ([], " ".toList)]
    (by decide +kernel)

/-- `cleanQuote_verbatim_tight` instantiated -/
example : cleanQuote exCfg ">foo\n  >```\n>\n".toList = "foo\n```\n\n".toList :=
  cleanQuote_verbatim_tight exCfg rfl [([], "foo".toList), ("  ".toList, "```".toList), ([], [])] (by decide +kernel)

/-- mixed -/
example : cleanQuote exCfg ">foo\n > bar\n".toList = "foo\nbar\n".toList :=
  cleanQuote_verbatim_marked exCfg rfl [(">foo".toList, "foo".toList), (" > bar".toList, "bar".toList)]
    (List.forall_mem_cons.mpr
      ⟨⟨Marked.tight [] "foo".toList (by simp) (by decide +kernel) (by decide +kernel), by decide +kernel⟩,
        List.forall_mem_singleton.mpr
          ⟨Marked.spaced " ".toList "bar".toList (by decide +kernel) (by decide +kernel), by decide +kernel⟩⟩)

/-- **the hypothesis `¬ TabHead (" " ++ l)` is necessary**: for `l = "\tx"` (`> \tx`) the content is not reproduced:
the blank after the marker and the tab become the three blanks that reach column 3, one of which is trimmed -/
example : TabHead (' ' :: "\tx".toList) ∧
    cleanQuote exCfg "> \tx\n".toList = "  x\n".toList ∧ "  x\n".toList ≠ "\tx\n".toList := by
  rw [cleanQuote_rx exCfg rfl]; decide +kernel

/-- the same for the tight form: `>\tx` gives two blanks, not the tab -/
example : cleanQuote exCfg ">\tx\n".toList = "  x\n".toList := by
  rw [cleanQuote_rx exCfg rfl]; decide +kernel

/-- after three blanks the tab disappears altogether (`expand_leading_tab(…, 3)` pads to width 3) -/
example : cleanQuote exCfg ">   \tx\n".toList = "  x\n".toList := by
  rw [cleanQuote_rx exCfg rfl]; decide +kernel

/-- a tab that is not at the head of the content is untouched -/
example : cleanQuote exCfg "> a\tb\n>     \tc\n".toList = "a\tb\n    \tc\n".toList := by
  rw [cleanQuote_rx exCfg rfl]; decide +kernel

end Examples

/-! ### (4) `_STRICT_BLOCK_QUOTE` on the engine -/

/-- a marked line of the subject: (0–3 blanks) `>` (no newline)* newline -/
def QLine (line : Str) : Prop :=
  ∃ sp body, line = sp ++ '>' :: body ++ ['\n'] ∧ (∀ ch ∈ sp, ch = ' ') ∧ sp.length ≤ 3 ∧ '\n' ∉ body

/-- the text starts with (0–3 blanks) `>` -/
def QuoteHead (l : Str) : Prop := ∃ sp r, l = sp ++ '>' :: r ∧ (∀ ch ∈ sp, ch = ' ') ∧ sp.length ≤ 3

/-- a decidable test for `QuoteHead` -/
theorem quoteHead_iff (l : Str) : QuoteHead l ↔ l[spRun 3 l]? = some '>' := by
  constructor
  · rintro ⟨sp, rest, rfl, h2, h3⟩
    rw [spRun_run 3 sp _ h2 h3 (fun ch r h => by cases h; decide)]
    simp
  · intro hgt
    obtain ⟨run, rest, h1, h2, h3, h4, _⟩ := spRun_spec 3 l
    rw [← h2, h1] at hgt
    obtain ⟨r, rfl⟩ := cons_of_getElem?_length hgt
    exact ⟨run, r, h1, h3, by omega⟩

instance (l : Str) : Decidable (QuoteHead l) := decidable_of_iff _ (quoteHead_iff l).symm

/-- the path of one iteration `( {0,3}>[^\n]*(?:\n|$))` over a marked line, terminated by a newline or unterminated at
the end of the subject (`nl = []`, `rest = []`, taken through `$`) -/
theorem reaches_strictLine {s sp body nl rest : Str} {i : Nat} (c : Caps)
    (hd : s.drop i = sp ++ '>' :: body ++ nl ++ rest) (hi : i ≤ s.length)
    (hnl : nl = ['\n'] ∨ (nl = [] ∧ rest = [])) (hsp : ∀ ch ∈ sp, ch = ' ') (hlen : sp.length ≤ 3)
    (hbody : '\n' ∉ body) :
    Reaches (Py.ctxOf s) strictLineRx i c (i + (sp ++ '>' :: body ++ nl).length)
      ((1, (i, i + (sp ++ '>' :: body ++ nl).length)) :: c) := by
  have hd1 : s.drop i = sp ++ '>' :: (body ++ (nl ++ rest)) := by rw [hd]; simp
  have hn := drop_length_le hd1 hi
  simp only [List.length_append, List.length_cons] at hn
  obtain ⟨h1, h2, hd2⟩ := reaches_blanks_gt (some 3) c hd1 hi hsp (fun m hm => by cases hm; exact hlen)
  have h3 := reaches_run (clsTest_nchr1 pyCats '\n') 0 none c hd2 (by omega)
    (fun ch h => by have : ch ≠ '\n' := fun e => hbody (e ▸ h); simp [this])
    (Or.inr (by rcases hnl with rfl | ⟨rfl, rfl⟩ <;> intro ch h <;> cases h; rfl)) (fun m hm => by cases hm)
    (Nat.zero_le _)
  have e : i + (sp ++ '>' :: body ++ nl).length = i + sp.length + 1 + body.length + nl.length := by
    simp only [List.length_append, List.length_cons]; omega
  rw [e]
  rcases hnl with rfl | ⟨rfl, rfl⟩
  · exact reaches_grp 1 (reaches_seq h1 (reaches_seq h2 (reaches_seq h3
      (reaches_alt_left .eos (reaches_chr (clsTest_chr1 pyCats '\n') c (drop_append hd2) rfl)))))
  · exact reaches_grp 1 (reaches_seq h1 (reaches_seq h2 (reaches_seq h3
      (reaches_alt_right (chr_fails (clsTest_chr1 pyCats '\n') c (drop_append hd2) (fun ch h => by cases h))
        (reaches_eos c (by rw [ctxOf_n]; simp at hn; omega))))))

theorem quoteHead_of_spec (s : Str) (i : Nat) (c : Caps) (j : Nat) (c' : Caps)
    (h : Spec (Py.ctxOf s) strictLineRx i c j c') : QuoteHead (s.drop i) := by
  obtain ⟨c0, hs, _⟩ := spec_grp.mp h
  obtain ⟨i1, c1, hrep, hs⟩ := spec_seq.mp hs
  obtain ⟨i2, c2, hgt, _⟩ := spec_seq.mp hs
  obtain ⟨sp, hsp, hlen, hd, _⟩ := spec_blanks_gt hrep hgt
  exact ⟨sp, _, hd, hsp, hlen 3 rfl⟩

/-- where the text does not start with (0–3 blanks) `>`, an iteration fails whatever the continuation -/
theorem strictLine_none {R : Type} (s : Str) (i : Nat) (h : ¬ QuoteHead (s.drop i)) (c : Caps)
    (k : Nat → Caps → Option R) : strictLineRx.m (Py.ctxOf s) i c k = none := by
  cases hm : strictLineRx.m (Py.ctxOf s) i c k with
  | none => rfl
  | some r =>
    obtain ⟨j, c', hs, _⟩ := m_sound _ _ _ _ _ _ hm
    exact absurd (quoteHead_of_spec s i c j c' hs) h

theorem qLine_length {line : Str} (h : QLine line) : 2 ≤ line.length := by
  obtain ⟨sp, body, rfl, _⟩ := h
  simp; omega

/-- the hypothesis on a last marked line without newline: there is none, or it ends the subject -/
def OpenLine (last rest : Str) : Prop :=
  last = [] ∨ rest = [] ∧ ∃ sp body, last = sp ++ '>' :: body ∧ (∀ ch ∈ sp, ch = ' ') ∧ sp.length ≤ 3 ∧ '\n' ∉ body

/-- the iterations of the `+` loop: one for every marked line, and one for the unterminated last line if there is one -/
theorem strictLines_iter {s last rest : Str} (hlast : OpenLine last rest) (lines : List Str) :
    ∀ (i : Nat) (c : Caps), i ≤ s.length → s.drop i = lines.flatten ++ last ++ rest → (∀ l ∈ lines, QLine l) →
      ∃ n c', lines.length ≤ n ∧ (last ≠ [] → 1 ≤ n) ∧
        Iter (fun i c m cm => Reaches (Py.ctxOf s) strictLineRx i c m cm ∧ i < m) n i c
          (i + lines.flatten.length + last.length) c' := by
  induction lines with
  | nil =>
    intro i c hi hd _
    rcases hlast with rfl | ⟨rfl, sp, body, rfl, hsp, hlen, hbody⟩
    · exact ⟨0, c, Nat.le_refl _, fun h => absurd rfl h, Iter.zero i c⟩
    · have := reaches_strictLine (nl := []) (rest := []) c (by simpa using hd) hi (Or.inr ⟨rfl, rfl⟩) hsp hlen hbody
      simp only [List.append_nil] at this
      exact ⟨1, _, Nat.zero_le _, fun _ => Nat.le_refl _, Iter.succ ⟨this, by simp only [List.length_append, List.length_cons]; omega⟩ (Iter.zero _ _)⟩
  | cons l ls ih =>
    intro i c hi hd hl
    obtain ⟨sp, body, rfl, hsp, hlen, hbody⟩ := hl l (by simp)
    have hd' : s.drop i = sp ++ '>' :: body ++ ['\n'] ++ (ls.flatten ++ last ++ rest) := by rw [hd]; simp
    have hn := drop_length_le hd' hi
    rw [List.length_append] at hn
    obtain ⟨n, c', h1, h2, hit⟩ := ih (i + (sp ++ '>' :: body ++ ['\n']).length) _ (by omega) (drop_append hd')
      (fun l h => hl l (by simp [h]))
    refine ⟨n + 1, c', Nat.succ_le_succ h1, fun _ => Nat.succ_le_succ (Nat.zero_le n), ?_⟩
    rw [List.flatten_cons, List.length_append, ← Nat.add_assoc]
    exact Iter.succ ⟨reaches_strictLine c hd' hi (Or.inl rfl) hsp hlen hbody, by simp only [List.length_append, List.length_cons]; omega⟩
      hit

/-- **(4), the general form**: at `i` the text is a run of marked lines, possibly a last marked line without newline
that ends the subject, and then a text that does not start with (0–3 blanks) `>`.  The greedy `+` takes every marked
line (the unterminated one through `$`) and stops there: `_STRICT_BLOCK_QUOTE.match(src, i)` spans exactly these lines. -/
theorem strictQuote_matchAt_run {s last rest : Str} {i : Nat} (lines : List Str)
    (hd : s.drop i = lines.flatten ++ last ++ rest) (hi : i ≤ s.length) (hl : ∀ l ∈ lines, QLine l)
    (hlast : OpenLine last rest) (hrest : ¬ QuoteHead rest) (hne : lines ≠ [] ∨ last ≠ []) :
    ∃ caps, Py.matchAt strictQuoteRxExpected (Py.ctxOf s) i =
      some { start := i, stop := i + lines.flatten.length + last.length, caps := caps } := by
  obtain ⟨n, c', h1, h2, hit⟩ := strictLines_iter hlast lines i [] hi hd hl
  have hend : s.drop (i + lines.flatten.length + last.length) = rest := by
    rw [Nat.add_assoc, ← List.length_append]
    exact drop_append hd
  have hn := drop_length_le hd hi
  simp only [List.length_append] at hn
  refine ⟨c', (pyMatchAt_eq _ s i hi).trans (reaches_rep_iter hit
    (Or.inr fun k => strictLine_none s _ (by rw [hend]; exact hrest) c' k) ?_ (fun m hm => by cases hm)
    (by rw [ctxOf_n]; omega)).matchAt⟩
  rcases hne with h | h
  · exact Nat.le_trans (List.length_pos_iff.mpr h) h1
  · exact h2 h

/-- **(4) `strictQuote_matchAt`, success (sound and complete).**  On the subject `pre ++ run ++ rest`, where `run` is
the concatenation of `n ≥ 1` marked lines (each (0–3 blanks) `>` (no newline)* newline) and `rest` does not start with
(0–3 blanks) `>` (e.g. it is empty, or a blank line), `_STRICT_BLOCK_QUOTE.match(src, len(pre))` is the match that
spans exactly `run`. -/
theorem strictQuote_matchAt (pre rest : Str) (lines : List Str) (hne : lines ≠ []) (hl : ∀ l ∈ lines, QLine l)
    (hrest : ¬ QuoteHead rest) :
    ∃ caps, Py.matchAt strictQuoteRxExpected (Py.ctxOf (pre ++ lines.flatten ++ rest)) pre.length =
      some { start := pre.length, stop := pre.length + lines.flatten.length, caps := caps } :=
  strictQuote_matchAt_run (last := []) lines (by simp) (by simp) hl (Or.inl rfl) hrest (Or.inl hne)

/-- **(4), the run reaches the end of the subject with an unterminated marked line**: `n ≥ 0` terminated marked lines
and a last one, (0–3 blanks) `>` (no newline)*, at the end of the subject: the match spans everything -/
theorem strictQuote_matchAt_open (pre : Str) (lines : List Str) (sp body : Str) (hl : ∀ l ∈ lines, QLine l)
    (hsp : ∀ ch ∈ sp, ch = ' ') (hlen : sp.length ≤ 3) (hbody : '\n' ∉ body) :
    ∃ caps, Py.matchAt strictQuoteRxExpected (Py.ctxOf (pre ++ lines.flatten ++ (sp ++ '>' :: body))) pre.length =
      some { start := pre.length, stop := (pre ++ lines.flatten ++ (sp ++ '>' :: body)).length, caps := caps } := by
  rw [List.length_append, List.length_append]
  exact strictQuote_matchAt_run (rest := []) lines (by simp) (by simp) hl (Or.inr ⟨rfl, sp, body, rfl, hsp, hlen, hbody⟩)
    (by decide) (Or.inr (by simp))

/-- **(4), no match**: where the text at `pos` does not start with (0–3 blanks) `>` the first iteration fails -/
theorem strictQuote_matchAt_none (s : Str) (pos : Nat) (hpos : pos ≤ s.length) (h : ¬ QuoteHead (s.drop pos)) :
    Py.matchAt strictQuoteRxExpected (Py.ctxOf s) pos = none :=
  (pyMatchAt_eq _ s pos hpos).trans
    (matchAt_none fun j c' hs => by
      obtain ⟨j1, c1, h1⟩ := spec_rep_first hs
      exact h (quoteHead_of_spec s pos [] j1 c1 h1))

/-- **(4), complete, for every subject**: where the text starts with (0–3 blanks) `>` there is a match (the first line,
terminated or at the end of the subject, is taken by the first iteration) -/
theorem strictQuote_matchAt_complete (s : Str) (pos : Nat) (hpos : pos ≤ s.length) (h : QuoteHead (s.drop pos)) :
    (Py.matchAt strictQuoteRxExpected (Py.ctxOf s) pos).isSome := by
  obtain ⟨sp, r, hd, hsp, hlen⟩ := h
  obtain ⟨tl, h1, h2⟩ := firstLine_spec r
  have hbody := firstLine_no_nl r
  -- only `h1` and `hbody` are needed of the first line
  generalize firstLine r = body at h1 hbody
  obtain ⟨nl, rest, hnl, hs⟩ : ∃ nl rest, (nl = ['\n'] ∨ (nl = [] ∧ rest = [])) ∧
      s.drop pos = sp ++ '>' :: body ++ nl ++ rest := by
    rcases h2 with rfl | ⟨v, rfl⟩
    · exact ⟨[], [], Or.inr ⟨rfl, rfl⟩, by rw [hd, h1]; simp⟩
    · exact ⟨['\n'], v, Or.inl rfl, by rw [hd, h1]; simp⟩
  rw [pyMatchAt_eq _ s pos hpos]
  exact rep_isSome (Nat.le_refl 1) (by rw [ctxOf_n]; exact hpos) (reaches_strictLine [] hs hpos hnl hsp hlen hbody) _
    (fun _ _ => rfl)

/-- **(4), exactly**: there is a match at `pos` iff the text at `pos` starts with (0–3 blanks) `>` -/
theorem strictQuote_matchAt_isSome_iff (s : Str) (pos : Nat) (hpos : pos ≤ s.length) :
    (Py.matchAt strictQuoteRxExpected (Py.ctxOf s) pos).isSome ↔ QuoteHead (s.drop pos) := by
  constructor
  · intro h
    refine Decidable.byContradiction fun hno => ?_
    rw [strictQuote_matchAt_none s pos hpos hno] at h
    cases h
  · exact strictQuote_matchAt_complete s pos hpos

section Examples4

/-- the regenerated regex on the engine, evaluated by the kernel: subject `x\n> foo\n >  x\n\nrest`, position 2: the
match spans the two marked lines (12 characters) -/
example : (Py.matchAt (exCfg.rx "mistune.block_parser._STRICT_BLOCK_QUOTE")
      (Py.ctxOf "x\n> foo\n >  x\n\nrest".toList) 2).map (fun m => (m.start, m.stop)) = some (2, 14) := by
  rw [rx_of_lookup exCfg _ _ strictQuoteRx_lookup]; decide +kernel

/-- `strictQuote_matchAt` instantiated on the same subject (non-vacuity) -/
example : ∃ caps, Py.matchAt strictQuoteRxExpected (Py.ctxOf "x\n> foo\n >  x\n\nrest".toList) 2 =
    some { start := 2, stop := 14, caps := caps } :=
  strictQuote_matchAt "x\n".toList "\nrest".toList ["> foo\n".toList, " >  x\n".toList] (by simp)
    (List.forall_mem_cons.mpr ⟨⟨[], " foo".toList, rfl, by simp, by simp, by decide +kernel⟩,
      List.forall_mem_singleton.mpr
        ⟨" ".toList, "  x".toList, rfl, by decide +kernel, by decide +kernel, by decide +kernel⟩⟩)
    (by decide +kernel)

/-- four blanks before the marker: not a marked line, the loop stops before it (and there is no match on it) -/
example : ¬ QuoteHead "    > x\n".toList := by decide +kernel
example : Py.matchAt strictQuoteRxExpected (Py.ctxOf "> a\n    > x\n".toList) 4 = none :=
  strictQuote_matchAt_none _ 4 (by decide +kernel) (by decide +kernel)
example : (Py.matchAt strictQuoteRxExpected (Py.ctxOf "> a\n    > x\n".toList) 0).map (·.stop) = some 4 := by
  decide +kernel

/-- a last marked line without newline at the end of the subject is matched too (through `$`) -/
example : (Py.matchAt strictQuoteRxExpected (Py.ctxOf "> a\n>b".toList) 0).map (·.stop) = some 6 := by
  decide +kernel
example : (Py.matchAt strictQuoteRxExpected (Py.ctxOf "> a\n>b".toList) 4).isSome :=
  strictQuote_matchAt_complete _ 4 (by decide +kernel) (by decide +kernel)

/-- `strictQuote_matchAt_open` instantiated -/
example : ∃ caps, Py.matchAt strictQuoteRxExpected (Py.ctxOf "x\n> a\n>b".toList) 2 =
    some { start := 2, stop := 8, caps := caps } :=
  strictQuote_matchAt_open "x\n".toList ["> a\n".toList] [] "b".toList
    (List.forall_mem_singleton.mpr ⟨[], " a".toList, rfl, by simp, by simp, by decide +kernel⟩)
    (by simp) (by simp) (by decide +kernel)

end Examples4

/-! ### (5) the handler -/

/-- the block rule `block_quote`: `^ {0,3}>(?P<quote_1>.*?)$` (re.M) -/
def blockQuoteRuleExpected : Rx :=
  .seq .bol (.seq (.rep (.cls false [.chr 32]) 0 (some 3) true) (.seq (.cls false [.chr 62])
    (.seq (.grp 1 (.rep (.any false) 0 none false)) .eol)))

/-- **Obligation:** in every regenerated configuration the block rule `block_quote` is the expected term. -/
theorem blockQuoteRule_lookup :
    ∀ c ∈ allCfgs, c.blockSpec.lookup "block_quote" = some blockQuoteRuleExpected := by
  decide +kernel

/-- **Obligation:** the group `quote_1` is group 1. -/
theorem quote1_lookup : groupIndex.lookup "quote_1" = some 1 := by decide +kernel

/-- `m.group("quote_1")`, as a slice of the subject -/
theorem grp_quote1 (cfg : MdCfg) (hg : cfg.groups = Generated.groupIndex) (st : BlockState) (s : Str)
    (hx : st.x = Py.ctxOf s) (mt : RxMatch) :
    grp cfg st mt "quote_1" = ((mt.group 1).map fun p => (s.drop p.1).take (p.2 - p.1)).getD [] := by
  unfold grp groupNamed Py.groupStr
  rw [hg, quote1_lookup, hx, ctxOf_s]
  simp only [slice_toArray]

/-- the first line of the quote: `expand_leading_tab(q1 + "\n", 3)` then `_BLOCK_QUOTE_TRIM.sub("")` -/
def firstQuoteLine (q1 : Str) : Str := dropUpTo 1 (expandLineW 3 q1)

theorem firstText_eq (cfg : MdCfg) (hcfg : cfg.named = Generated.namedRx) (q1 : Str) (h : '\n' ∉ q1) :
    Py.reSub (cfg.rx "mistune.block_parser._BLOCK_QUOTE_TRIM") (fun _ _ => [])
      (expandLeadingTab cfg (q1 ++ ['\n']) 3) = firstQuoteLine q1 ++ ['\n'] := by
  rw [rx_of_lookup cfg _ _ (by rw [hcfg]; exact quoteTrimRx_lookup),
    expandLeadingTab_eq cfg (by rw [hcfg]; exact expandTabRx_lookup)]
  unfold quoteTrimRxExpected
  rw [reSub_trim 1, trimLines_eq_subLines, subLines_line_end _ (by decide) _ h,
    subLines_line_end _ (by decide) _ (expandLineW_no_nl 3 _ h)]
  rfl

theorem extractBlockQuote_marker (cfg : MdCfg) (hcfg : cfg.named = Generated.namedRx) (pm : ParseMethod)
    (mt : RxMatch) (st : BlockState) (pre rest q1 : Str) (lines : List Str) (sc : List (String × Rx))
    (hx : st.x = Py.ctxOf (pre ++ lines.flatten ++ rest)) (hstop : mt.stop + 1 = pre.length)
    (hq1 : grp cfg st mt "quote_1" = q1) (hq1nl : '\n' ∉ q1)
    (hsc : compileSc cfg ["blank_line", "indent_code", "fenced_code"] = .ok sc)
    (hreq : (scMatch (Py.ctxOf (firstQuoteLine q1 ++ ['\n'])) sc 0).isSome = true)
    (hl : ∀ l ∈ lines, QLine l) (hrest : ¬ QuoteHead rest) :
    extractBlockQuote cfg pm mt st =
      .ok (expandTab cfg (firstQuoteLine q1 ++ '\n' :: subLines quoteLine lines.flatten), none,
        { st with cursor := pre.length + lines.flatten.length }) := by
  unfold extractBlockQuote
  simp only [hq1, firstText_eq cfg hcfg q1 hq1nl, hsc, ok_eq_pure, pure_bind, hreq, if_true]
  rw [rx_of_lookup cfg _ _ (by rw [hcfg]; exact strictQuoteRx_lookup), hx, hstop]
  cases lines with
  | nil =>
    simp only [List.flatten_nil, List.append_nil]
    rw [strictQuote_matchAt_none _ _ (by simp) (by simpa using hrest)]
    simp only [subLines_nil, quoteLine_nil]
    rw [← hstop]
    rfl
  | cons l ls =>
    obtain ⟨caps, hm⟩ := strictQuote_matchAt pre rest (l :: ls) (by simp) hl hrest
    rw [hm]
    simp only [grp0]
    rw [slice_mid pre _ rest _ _ rfl rfl, cleanQuote_eq cfg hcfg]
    simp only [List.append_assoc, List.singleton_append]
    rfl

/-! #### the lazy branch: the loop -/

/-- `prev_blank_line` after a run of marked lines whose cleaned text is `quote` -/
def blankEnd (cfg : MdCfg) (quote : Str) : Bool :=
  if (Py.strip quote).isEmpty then true
  else ((cfg.rx "mistune.block_parser._LINE_BLANK_END").search (Py.ctxOf quote) 0).isSome

/-- `re.compile(r"\n[ \t]*\n$")` -/
def lineBlankEndRxExpected : Rx :=
  .seq (.cls false [.chr 10]) (.seq (.rep (.cls false [.chr 32, .chr 9]) 0 none true) (.seq (.cls false [.chr 10]) .eos))

/-- **Obligation:** the regenerated `mistune.block_parser._LINE_BLANK_END` is the expected term. -/
theorem lineBlankEndRx_lookup :
    namedRx.lookup "mistune.block_parser._LINE_BLANK_END" = some lineBlankEndRxExpected := by
  decide +kernel

theorem blankEnd_rx (cfg : MdCfg) (hcfg : cfg.named = Generated.namedRx) (quote : Str) :
    blankEnd cfg quote =
      if (Py.strip quote).isEmpty then true else (lineBlankEndRxExpected.search (Py.ctxOf quote) 0).isSome := by
  unfold blankEnd
  rw [rx_of_lookup cfg _ _ (hcfg ▸ lineBlankEndRx_lookup)]

/-- one iteration on a run of marked lines: the whole run is taken, cleaned and appended -/
theorem extractQuoteLoop_run (cfg : MdCfg) (hcfg : cfg.named = Generated.namedRx) (pm : ParseMethod)
    (breakSc : List (String × Rx)) (fuel : Nat) (text : Str) (pbl : Bool) (endPos : Option Nat) (st : BlockState)
    (pre rest : Str) (lines : List Str)
    (hx : st.x = Py.ctxOf (pre ++ lines.flatten ++ rest)) (hcur : st.cursor = pre.length)
    (hmax : st.cursorMax = (pre ++ lines.flatten ++ rest).length)
    (hne : lines ≠ []) (hl : ∀ l ∈ lines, QLine l) (hrest : ¬ QuoteHead rest) :
    extractQuoteLoop cfg pm breakSc (fuel + 1) text pbl endPos st =
      extractQuoteLoop cfg pm breakSc fuel (text ++ subLines quoteLine lines.flatten)
        (blankEnd cfg (subLines quoteLine lines.flatten)) endPos
        { st with cursor := pre.length + lines.flatten.length } := by
  obtain ⟨caps, hm⟩ := strictQuote_matchAt pre rest lines hne hl hrest
  have hlt : st.cursor < st.cursorMax := by
    rw [hcur, hmax]
    cases lines with
    | nil => exact absurd rfl hne
    | cons l ls =>
      have := qLine_length (hl l (by simp))
      simp only [List.flatten_cons, List.length_append]
      omega
  rw [extractQuoteLoop, if_pos hlt, rx_of_lookup cfg _ _ (by rw [hcfg]; exact strictQuoteRx_lookup), hx, hcur, hm]
  have hgrp : Py.slice st.x.s pre.length (pre.length + lines.flatten.length) = lines.flatten := by
    rw [hx]; exact slice_mid pre _ rest _ _ rfl rfl
  simp only [grp0, hgrp, cleanQuote_eq cfg hcfg]
  rfl

theorem extractQuoteLoop_end (cfg : MdCfg) (pm : ParseMethod) (breakSc : List (String × Rx)) (fuel : Nat)
    (text : Str) (pbl : Bool) (endPos : Option Nat) (st : BlockState) (h : ¬ st.cursor < st.cursorMax) :
    extractQuoteLoop cfg pm breakSc fuel text pbl endPos st = .ok (text, endPos, st) := by
  cases fuel with
  | zero => rw [extractQuoteLoop, if_neg h]
  | succ f => rw [extractQuoteLoop, if_neg h]

/-- **how a quote ends**, at a state `st` whose cursor is at a position without marker: the subject ends there; or the
run of marked lines before it ended with a blank quoted line (`prev_blank_line`: no lazy continuation); or a break rule
(blank line, thematic break, fence, list, block HTML) matches there and its handler accepts.  The indices are the
`end_pos` and the state `extract_block_quote` then returns. -/
inductive QuoteEnd (pm : ParseMethod) (breakSc : List (String × Rx)) (st : BlockState) (pbl : Bool) :
    Option Nat → BlockState → Prop where
  | eos : ¬ st.cursor < st.cursorMax → QuoteEnd pm breakSc st pbl none st
  | blank : pbl = true → QuoteEnd pm breakSc st pbl none st
  | brk (name : String) (m4 : RxMatch) (ep : Option Nat) (st2 : BlockState) : st.cursor < st.cursorMax → pbl = false →
      scMatch st.x breakSc st.cursor = some (name, m4) → pm name m4 st = .ok (ep, st2) → truthyPos ep = true →
      QuoteEnd pm breakSc st pbl ep st2

/-- the loop stops at a position without marker where the quote ends -/
theorem extractQuoteLoop_stop (cfg : MdCfg) (hcfg : cfg.named = Generated.namedRx) (pm : ParseMethod)
    (breakSc : List (String × Rx)) (fuel : Nat) (hf : 0 < fuel) (text : Str) (pbl : Bool) (st : BlockState) (s : Str)
    (hx : st.x = Py.ctxOf s) (hle : st.cursor ≤ s.length) (hnq : ¬ QuoteHead (s.drop st.cursor))
    (ep : Option Nat) (st2 : BlockState) (hend : QuoteEnd pm breakSc st pbl ep st2) :
    extractQuoteLoop cfg pm breakSc fuel text pbl none st = .ok (text, ep, st2) := by
  obtain ⟨f, rfl⟩ : ∃ f, fuel = f + 1 := ⟨fuel - 1, by omega⟩
  have hm : Py.matchAt (cfg.rx "mistune.block_parser._STRICT_BLOCK_QUOTE") st.x st.cursor = none := by
    rw [rx_of_lookup cfg _ _ (by rw [hcfg]; exact strictQuoteRx_lookup), hx, strictQuote_matchAt_none s _ hle hnq]
  cases hend with
  | eos h => exact extractQuoteLoop_end cfg pm breakSc _ text pbl none st h
  | blank hbl =>
    by_cases hlt : st.cursor < st.cursorMax
    · rw [extractQuoteLoop, if_pos hlt, hm, hbl]
      rfl
    · exact extractQuoteLoop_end cfg pm breakSc _ text pbl none st hlt
  | brk name m4 ep st2 hlt hbl hsc hpm ht =>
    rw [extractQuoteLoop, if_pos hlt, hm, hbl]
    simp only [Bool.false_eq_true, if_false, hsc, hpm]
    simp only [ok_eq_pure, pure_bind, ht, if_true]

/-- the loop on a canonical quote: the run of marked lines (possibly empty) is taken in one iteration, and the quote
ends at the position after it -/
theorem extractQuoteLoop_canon (cfg : MdCfg) (hcfg : cfg.named = Generated.namedRx) (pm : ParseMethod)
    (breakSc : List (String × Rx)) (fuel : Nat) (hf : 2 ≤ fuel) (text : Str) (st : BlockState)
    (pre rest : Str) (lines : List Str)
    (hx : st.x = Py.ctxOf (pre ++ lines.flatten ++ rest)) (hcur : st.cursor = pre.length)
    (hmax : st.cursorMax = (pre ++ lines.flatten ++ rest).length)
    (hl : ∀ l ∈ lines, QLine l) (hrest : ¬ QuoteHead rest) (ep : Option Nat) (st2 : BlockState)
    (hend : QuoteEnd pm breakSc { st with cursor := pre.length + lines.flatten.length }
      (!lines.isEmpty && blankEnd cfg (subLines quoteLine lines.flatten)) ep st2) :
    extractQuoteLoop cfg pm breakSc fuel text false none st =
      .ok (text ++ subLines quoteLine lines.flatten, ep, st2) := by
  have hstop : ∀ f, 0 < f → ∀ t, extractQuoteLoop cfg pm breakSc f t
      (!lines.isEmpty && blankEnd cfg (subLines quoteLine lines.flatten)) none
      { st with cursor := pre.length + lines.flatten.length } = .ok (t, ep, st2) := by
    intro f hf t
    apply extractQuoteLoop_stop cfg hcfg pm breakSc f hf t _ { st with cursor := pre.length + lines.flatten.length }
      (pre ++ lines.flatten ++ rest) hx _ _ ep st2 hend
    · simp only [List.length_append]; omega
    · rw [show pre.length + lines.flatten.length = (pre ++ lines.flatten).length by simp, List.drop_left' rfl]
      exact hrest
  cases lines with
  | nil =>
    have := hstop fuel (by omega) text
    simp only [List.flatten_nil, subLines_nil, quoteLine_nil, List.append_nil, List.length_nil, Nat.add_zero,
      List.isEmpty_nil, Bool.not_true, Bool.false_and, ← hcur] at this ⊢
    exact this
  | cons l ls =>
    obtain ⟨f, rfl⟩ : ∃ f, fuel = f + 1 := ⟨fuel - 1, by omega⟩
    rw [extractQuoteLoop_run cfg hcfg pm breakSc f text false none st pre rest (l :: ls) hx hcur hmax (by simp) hl
      hrest]
    have := hstop f (by omega) (text ++ subLines quoteLine (l :: ls).flatten)
    simp only [List.isEmpty_cons, Bool.not_false, Bool.true_and] at this
    exact this

/-! #### `extract_block_quote` on a canonical quote, lazy branch -/

/-- **(5), lazy branch**: the first line is not blank / indented code / a fence (`require_marker = False`); the run of
marked lines that follows is taken by the first iteration of the loop; the quote ends (`QuoteEnd`) at `rest`, which does
not start with a marker. -/
theorem extractBlockQuote_lazy (cfg : MdCfg) (hcfg : cfg.named = Generated.namedRx) (pm : ParseMethod)
    (mt : RxMatch) (st : BlockState) (pre rest q1 : Str) (lines : List Str) (sc breakSc : List (String × Rx))
    (hx : st.x = Py.ctxOf (pre ++ lines.flatten ++ rest)) (hstop : mt.stop + 1 = pre.length)
    (hmax : st.cursorMax = (pre ++ lines.flatten ++ rest).length)
    (hq1 : grp cfg st mt "quote_1" = q1) (hq1nl : '\n' ∉ q1)
    (hsc : compileSc cfg ["blank_line", "indent_code", "fenced_code"] = .ok sc)
    (hreq : (scMatch (Py.ctxOf (firstQuoteLine q1 ++ ['\n'])) sc 0).isSome = false)
    (hbsc : compileSc cfg ["blank_line", "thematic_break", "fenced_code", "list", "block_html"] = .ok breakSc)
    (hl : ∀ l ∈ lines, QLine l) (hrest : ¬ QuoteHead rest) (ep : Option Nat) (st2 : BlockState)
    (hend : QuoteEnd pm breakSc { st with cursor := pre.length + lines.flatten.length }
      (!lines.isEmpty && blankEnd cfg (subLines quoteLine lines.flatten)) ep st2) :
    extractBlockQuote cfg pm mt st =
      .ok (expandTab cfg (firstQuoteLine q1 ++ '\n' :: subLines quoteLine lines.flatten), ep, st2) := by
  unfold extractBlockQuote
  simp only [hq1, firstText_eq cfg hcfg q1 hq1nl, hsc, hbsc, ok_eq_pure, pure_bind, hreq, Bool.false_eq_true, if_false]
  have hpos : 2 ≤ st.cursorMax + 1 := by
    rw [hmax]; simp only [List.length_append]; omega
  rw [extractQuoteLoop_canon cfg hcfg pm breakSc _ hpos _ { st with cursor := mt.stop + 1 } pre rest lines hx
    hstop hmax hl hrest ep st2 hend]
  simp only [List.append_assoc, List.singleton_append]
  rfl

/-- **(5), lazy branch, the quote ends the subject.** -/
theorem extractBlockQuote_lazy_eos (cfg : MdCfg) (hcfg : cfg.named = Generated.namedRx) (pm : ParseMethod)
    (mt : RxMatch) (st : BlockState) (pre q1 : Str) (lines : List Str) (sc breakSc : List (String × Rx))
    (hx : st.x = Py.ctxOf (pre ++ lines.flatten)) (hstop : mt.stop + 1 = pre.length)
    (hmax : st.cursorMax = (pre ++ lines.flatten).length)
    (hq1 : grp cfg st mt "quote_1" = q1) (hq1nl : '\n' ∉ q1)
    (hsc : compileSc cfg ["blank_line", "indent_code", "fenced_code"] = .ok sc)
    (hreq : (scMatch (Py.ctxOf (firstQuoteLine q1 ++ ['\n'])) sc 0).isSome = false)
    (hbsc : compileSc cfg ["blank_line", "thematic_break", "fenced_code", "list", "block_html"] = .ok breakSc)
    (hl : ∀ l ∈ lines, QLine l) :
    extractBlockQuote cfg pm mt st =
      .ok (expandTab cfg (firstQuoteLine q1 ++ '\n' :: subLines quoteLine lines.flatten), none,
        { st with cursor := pre.length + lines.flatten.length }) :=
  extractBlockQuote_lazy cfg hcfg pm mt st pre [] q1 lines sc breakSc (by simpa using hx) hstop
    (by simpa using hmax) hq1 hq1nl hsc hreq hbsc hl (by decide) none _
    (.eos (by simp only [hmax, List.length_append]; omega))

/-- **(5), lazy branch, the run of marked lines ends with a blank quoted line** (`>` alone, …: `prev_blank_line`) and
is followed by a line without marker: the quote ends there, whatever that line is. -/
theorem extractBlockQuote_lazy_blank (cfg : MdCfg) (hcfg : cfg.named = Generated.namedRx) (pm : ParseMethod)
    (mt : RxMatch) (st : BlockState) (pre rest q1 : Str) (lines : List Str) (sc breakSc : List (String × Rx))
    (hx : st.x = Py.ctxOf (pre ++ lines.flatten ++ rest)) (hstop : mt.stop + 1 = pre.length)
    (hmax : st.cursorMax = (pre ++ lines.flatten ++ rest).length)
    (hq1 : grp cfg st mt "quote_1" = q1) (hq1nl : '\n' ∉ q1)
    (hsc : compileSc cfg ["blank_line", "indent_code", "fenced_code"] = .ok sc)
    (hreq : (scMatch (Py.ctxOf (firstQuoteLine q1 ++ ['\n'])) sc 0).isSome = false)
    (hbsc : compileSc cfg ["blank_line", "thematic_break", "fenced_code", "list", "block_html"] = .ok breakSc)
    (hl : ∀ l ∈ lines, QLine l) (hrest : ¬ QuoteHead rest) (hne : rest ≠ [])
    (hbl : (!lines.isEmpty && blankEnd cfg (subLines quoteLine lines.flatten)) = true) :
    extractBlockQuote cfg pm mt st =
      .ok (expandTab cfg (firstQuoteLine q1 ++ '\n' :: subLines quoteLine lines.flatten), none,
        { st with cursor := pre.length + lines.flatten.length }) :=
  extractBlockQuote_lazy cfg hcfg pm mt st pre rest q1 lines sc breakSc hx hstop hmax hq1 hq1nl hsc hreq hbsc hl hrest
    none _ (.blank hbl)

/-- **(5), lazy branch, the run of marked lines is followed by a line on which a break rule (blank line, thematic
break, fence, list, block HTML) matches and whose handler accepts** — e.g. the blank line after the quote: the quote
ends there, `end_pos` and the state are those of the handler. -/
theorem extractBlockQuote_lazy_break (cfg : MdCfg) (hcfg : cfg.named = Generated.namedRx) (pm : ParseMethod)
    (mt : RxMatch) (st : BlockState) (pre rest q1 : Str) (lines : List Str) (sc breakSc : List (String × Rx))
    (hx : st.x = Py.ctxOf (pre ++ lines.flatten ++ rest)) (hstop : mt.stop + 1 = pre.length)
    (hmax : st.cursorMax = (pre ++ lines.flatten ++ rest).length)
    (hq1 : grp cfg st mt "quote_1" = q1) (hq1nl : '\n' ∉ q1)
    (hsc : compileSc cfg ["blank_line", "indent_code", "fenced_code"] = .ok sc)
    (hreq : (scMatch (Py.ctxOf (firstQuoteLine q1 ++ ['\n'])) sc 0).isSome = false)
    (hbsc : compileSc cfg ["blank_line", "thematic_break", "fenced_code", "list", "block_html"] = .ok breakSc)
    (hl : ∀ l ∈ lines, QLine l) (hrest : ¬ QuoteHead rest) (hne : rest ≠ [])
    (hbl : (!lines.isEmpty && blankEnd cfg (subLines quoteLine lines.flatten)) = false)
    (name : String) (m4 : RxMatch) (ep : Option Nat) (st2 : BlockState)
    (hbr : scMatch st.x breakSc (pre.length + lines.flatten.length) = some (name, m4))
    (hpm : pm name m4 { st with cursor := pre.length + lines.flatten.length } = .ok (ep, st2))
    (ht : truthyPos ep = true) :
    extractBlockQuote cfg pm mt st =
      .ok (expandTab cfg (firstQuoteLine q1 ++ '\n' :: subLines quoteLine lines.flatten), ep, st2) := by
  have hlt : pre.length + lines.flatten.length < st.cursorMax := by
    have := List.length_pos_iff.mpr hne
    simp only [hmax, List.length_append]
    omega
  exact extractBlockQuote_lazy cfg hcfg pm mt st pre rest q1 lines sc breakSc hx hstop hmax hq1 hq1nl hsc hreq hbsc hl
    hrest ep st2 (.brk name m4 ep st2 hlt hbl hbr hpm ht)

/-! #### `parse_block_quote` -/

/-- the children of the `block_quote` token are the tokens of the parse of exactly the extracted text -/
theorem parseBlockQuote_of (cfg : MdCfg) (pm : ParseMethod) (mt : RxMatch) (st : BlockState) (text : Str)
    (endPos : Option Nat) (st1 child : BlockState)
    (hext : extractBlockQuote cfg pm mt st = .ok (text, endPos, st1))
    (hchild : parse cfg pm (st1.childState text)
      (some (if st1.depth + 1 ≥ cfg.maxNested then withoutContainers cfg.quoteRules else cfg.quoteRules)) =
        .ok child) :
    parseBlockQuote cfg pm mt st =
      .ok (if truthyPos endPos = true then
          (endPos, { st1 with env := child.env,
                              tokens := listInsert st1.tokens st.tokens.length
                                (tok "block_quote" [("children", .arr child.tokens)]) })
        else (some st1.cursor,
          ({ st1 with env := child.env } : BlockState).appendToken
            (tok "block_quote" [("children", .arr child.tokens)]))) := by
  unfold parseBlockQuote
  simp only [hext, hchild, ok_eq_pure, pure_bind]
  split <;> rfl

section Examples5

/-- the scanners of `extract_block_quote` in the core configuration -/
def quoteExSc : List (String × Rx) := [("blank_line", rx1), ("indent_code", rx7), ("fenced_code", rx6)]
/-- a `parse_method` for the examples: only the handler of `blank_line` is bound -/
def quoteExPm : ParseMethod := fun name mt st =>
  if name == "blank_line" then parseBlankLine mt st else .error .keyError

def quoteExBreakSc : List (String × Rx) :=
  [("blank_line", rx1), ("thematic_break", rx18), ("fenced_code", rx6), ("list", rx8), ("block_html", rx2)]

theorem quoteExSc_eq : compileSc exCfg ["blank_line", "indent_code", "fenced_code"] = .ok quoteExSc := rfl
theorem quoteExBreakSc_eq :
    compileSc exCfg ["blank_line", "thematic_break", "fenced_code", "list", "block_html"] = .ok quoteExBreakSc := rfl

example : compileSc exCfg ["blank_line", "indent_code", "fenced_code"] = .ok quoteExSc := quoteExSc_eq
example : compileSc exCfg ["blank_line", "thematic_break", "fenced_code", "list", "block_html"] = .ok quoteExBreakSc :=
  quoteExBreakSc_eq

/-- the rule regex on the engine: on `> foo\n> bar\n` it matches `[0, 5)` with `quote_1 = [1, 5)` -/
example : (blockQuoteRuleExpected.matchAt (Py.ctxOf "> foo\n> bar\n".toList) 0).map
    (fun m => (m.start, m.stop, m.caps)) = some (0, 5, [(1, (1, 5))]) := by decide +kernel

/-- **non-vacuity of `extractBlockQuote_lazy_eos`**: the quote `> foo\n> bar\n` at the end of the subject; the child
text is `foo\nbar\n`, the cursor ends at 11 -/
example (pm : ParseMethod) :
    extractBlockQuote exCfg pm { start := 0, stop := 5, caps := [(1, (1, 5))] }
        (BlockState.root ("> foo\n".toList ++ ["> bar\n".toList].flatten)) =
      .ok (expandTab exCfg (firstQuoteLine " foo".toList ++ '\n' :: subLines quoteLine ["> bar\n".toList].flatten),
        none, { BlockState.root ("> foo\n".toList ++ ["> bar\n".toList].flatten) with cursor := 6 + 6 }) :=
  extractBlockQuote_lazy_eos exCfg rfl pm _ _ "> foo\n".toList " foo".toList ["> bar\n".toList] quoteExSc quoteExBreakSc
    rfl rfl rfl (by rw [grp_quote1 exCfg rfl _ _ rfl]; decide +kernel) (by decide +kernel) quoteExSc_eq (by decide +kernel)
    quoteExBreakSc_eq
    (List.forall_mem_singleton.mpr ⟨[], " bar".toList, rfl, by simp, by simp, by decide +kernel⟩)

example : expandTab exCfg (firstQuoteLine " foo".toList ++ '\n' :: subLines quoteLine ["> bar\n".toList].flatten) =
    "foo\nbar\n".toList := by
  rw [expandTab_eq exCfg rfl]; decide +kernel

end Examples5

/-! #### the extracted text, verbatim -/

theorem tabHead_cons_sp (l : Str) (h : TabHead (' ' :: l)) : TabHead l := by
  obtain ⟨sp, rest, he, hsp, hlen⟩ := h
  cases sp with
  | nil => simp at he
  | cons ch sp' =>
    simp only [List.cons_append, List.cons.injEq] at he
    exact ⟨sp', rest, he.2, fun c hc => hsp c (by simp [hc]), by simp at hlen; omega⟩

/-- the first line is cleaned like the marked line `>q1` -/
theorem firstQuoteLine_eq (q1 : Str) : firstQuoteLine q1 = quoteLine ('>' :: q1) :=
  (quoteLine_marked [] q1 (by simp)).symm

/-- first line `> l0` -/
theorem firstQuoteLine_spaced (l0 : Str) (h : ¬ TabHead (' ' :: l0)) : firstQuoteLine (' ' :: l0) = l0 :=
  (firstQuoteLine_eq _).trans (quoteLine_spaced [] l0 (by simp) h)

/-- first line `>l0`, `l0` not starting with a blank or a tab -/
theorem firstQuoteLine_tight (l0 : Str) (h1 : l0.head? ≠ some ' ') (h2 : l0.head? ≠ some '\t') :
    firstQuoteLine l0 = l0 :=
  (firstQuoteLine_eq _).trans (quoteLine_tight [] l0 (by simp) h1 h2)

/-- `expand_tab` leaves a text alone none of whose lines starts with (≤ 3 blanks) tab -/
theorem expandTab_id (cfg : MdCfg) (hcfg : cfg.named = Generated.namedRx) (ls : List Str)
    (h : ∀ l ∈ ls, ¬ TabHead l ∧ '\n' ∉ l) :
    expandTab cfg (ls.map (· ++ ['\n'])).flatten = (ls.map (· ++ ['\n'])).flatten := by
  rw [expandTab_eq cfg hcfg, subLines_flatten expandTab4 (by decide) ls (fun l hl => (h l hl).2)]
  congr 1
  apply List.map_congr_left
  intro l hl
  rw [expandTab4_other l (h l hl).1]

/-- **the child text of a quote, verbatim**: the first content line `l0` and the content lines `p.2` of the marked lines
`f p`, each followed by a newline — provided no content line starts with (≤ 3 blanks) tab -/
theorem quoteText_verbatim (cfg : MdCfg) (hcfg : cfg.named = Generated.namedRx) (q1 l0 : Str)
    (f : Str × Str → Str) (segs : List (Str × Str)) (h0 : firstQuoteLine q1 = l0) (hl0 : ¬ TabHead l0 ∧ '\n' ∉ l0)
    (hseg : ∀ p ∈ segs, Marked (f p) p.2 ∧ '\n' ∉ p.2 ∧ ¬ TabHead p.2) :
    expandTab cfg (firstQuoteLine q1 ++ '\n' :: subLines quoteLine (segs.map (fun p => f p ++ ['\n'])).flatten) =
      ((l0 :: segs.map (·.2)).map (· ++ ['\n'])).flatten := by
  rw [h0, subLines_quoteLine_marked f (·.2) segs (fun p hp => ⟨(hseg p hp).1, (hseg p hp).2.1⟩)]
  have := expandTab_id cfg hcfg (l0 :: segs.map (·.2))
    (List.forall_mem_cons.mpr ⟨hl0, List.forall_mem_map.mpr fun p hp => ⟨(hseg p hp).2.2, (hseg p hp).2.1⟩⟩)
  simp only [List.map_cons, List.flatten_cons, List.map_map, List.append_assoc, List.singleton_append] at this ⊢
  exact this

/-- the marked form `ind> l\n` of a content line -/
def markLine (p : Str × Str) : Str := p.1 ++ '>' :: ' ' :: p.2 ++ ['\n']

/-- the hypothesis on the marked lines `ind> l` of the verbatim theorems: `ind` is 0–3 blanks, the content line `l` has
no newline and does not start with (≤ 3 blanks) tab -/
def PlainSeg (p : Str × Str) : Prop :=
  (∀ ch ∈ p.1, ch = ' ') ∧ p.1.length ≤ 3 ∧ '\n' ∉ p.2 ∧ ¬ TabHead p.2

instance (p : Str × Str) : Decidable (PlainSeg p) := by unfold PlainSeg; infer_instance

theorem markLines_qLine (segs : List (Str × Str)) (hseg : ∀ p ∈ segs, PlainSeg p) :
    ∀ l ∈ segs.map markLine, QLine l :=
  List.forall_mem_map.mpr fun p hp =>
    ⟨p.1, ' ' :: p.2, rfl, (hseg p hp).1, (hseg p hp).2.1, by simpa using (hseg p hp).2.2.1⟩

theorem firstQuoteLine_plain (l0 : Str) (h : ¬ TabHead l0) : firstQuoteLine (' ' :: l0) = l0 :=
  firstQuoteLine_spaced l0 (fun e => h (tabHead_cons_sp _ e))

theorem plainSeg_marked {p : Str × Str} (h : PlainSeg p) : Marked (p.1 ++ '>' :: ' ' :: p.2) p.2 :=
  Marked.spaced p.1 p.2 h.1 (fun e => h.2.2.2 (tabHead_cons_sp _ e))

/-- the per-line specification on the marked forms `ind> l` -/
theorem markLines_sub (segs : List (Str × Str)) (hseg : ∀ p ∈ segs, PlainSeg p) :
    subLines quoteLine (segs.map markLine).flatten = (segs.map (·.2 ++ ['\n'])).flatten :=
  subLines_quoteLine_marked (fun p : Str × Str => p.1 ++ '>' :: ' ' :: p.2) (·.2) segs
    (fun p hp => ⟨plainSeg_marked (hseg p hp), (hseg p hp).2.2.1⟩)

theorem markLines_text (cfg : MdCfg) (hcfg : cfg.named = Generated.namedRx) (l0 : Str) (segs : List (Str × Str))
    (hl0 : ¬ TabHead l0 ∧ '\n' ∉ l0) (hseg : ∀ p ∈ segs, PlainSeg p) :
    expandTab cfg (firstQuoteLine (' ' :: l0) ++ '\n' :: subLines quoteLine (segs.map markLine).flatten) =
      ((l0 :: segs.map (·.2)).map (· ++ ['\n'])).flatten :=
  quoteText_verbatim cfg hcfg (' ' :: l0) l0 (fun p => p.1 ++ '>' :: ' ' :: p.2) segs (firstQuoteLine_plain l0 hl0.1) hl0
    (fun p hp => ⟨plainSeg_marked (hseg p hp), (hseg p hp).2.2.1, (hseg p hp).2.2.2⟩)

/-! #### composition with `fenced_closed_verbatim`: a fenced code block inside a block quote -/

theorem closer_no_tabHead (c : Char) (m : Nat) (sp bl : Str) (hc1 : c ≠ ' ') (hc2 : c ≠ '\t') (hm : 1 ≤ m)
    (hsp : ∀ ch ∈ sp, ch = ' ') (hsp3 : sp.length ≤ 3) : ¬ TabHead (sp ++ List.replicate m c ++ bl) := by
  obtain ⟨m', rfl⟩ : ∃ m', m = m' + 1 := ⟨m - 1, by omega⟩
  rw [tabHead_iff, List.append_assoc, List.replicate_succ, List.cons_append,
    spRun_run 3 sp _ hsp hsp3 (fun ch r h => by cases h; exact hc1)]
  simp only [List.getElem?_append_right (Nat.le_refl _), Nat.sub_self, List.getElem?_cons_zero, Option.some.injEq]
  exact hc2

/-- **`quoted_fenced_verbatim`.**  A block quote whose first line is `> opener` (a fence opener: the hypothesis `hreq`
says that one of `blank_line`, `indent_code`, `fenced_code` matches it), followed by the marked lines `ind> l` of the
body lines `l` and of a closing fence line, then by a text `rest` that does not start with a marker.  No content line
starts with (≤ 3 blanks) tab, no body line is a closing fence line.  Then

* `extract_block_quote` returns as child text exactly the content lines (opener, body, closer), each followed by a
  newline, and the cursor after the run of marked lines;
* on that child text, the code of the fenced block (`fencedBody`, the computation of `parse_fenced_code`, started after
  the opener line) is exactly the body lines (each stripped of up to `k` leading blanks, `k` the indentation of the
  opener) — the body of a fenced code block written inside a block quote with `> ` prefixes is verbatim. -/
theorem quoted_fenced_verbatim (cfg : MdCfg) (hcfg : cfg.named = Generated.namedRx) (pm : ParseMethod)
    (mt : RxMatch) (st : BlockState) (pre rest opener : Str) (body : List (Str × Str)) (indc sp bl : Str)
    (c : Char) (n k m : Nat) (sc : List (String × Rx))
    (hc1 : c ≠ ' ') (hc2 : c ≠ '\t') (hc3 : c ≠ '\n') (hn : 1 ≤ n)
    (hopen : ¬ TabHead opener ∧ '\n' ∉ opener)
    (hbody : ∀ p ∈ body, (∀ ch ∈ p.1, ch = ' ') ∧ p.1.length ≤ 3 ∧ '\n' ∉ p.2 ∧ ¬ TabHead p.2 ∧
      isCloser c n p.2 = false)
    (hindc : (∀ ch ∈ indc, ch = ' ') ∧ indc.length ≤ 3)
    (hsp : ∀ ch ∈ sp, ch = ' ') (hsp3 : sp.length ≤ 3) (hm : n ≤ m) (hbl : ∀ ch ∈ bl, isBlank ch = true)
    (hx : st.x = Py.ctxOf (pre ++
      ((body ++ [(indc, sp ++ List.replicate m c ++ bl)]).map markLine).flatten ++ rest))
    (hstop : mt.stop + 1 = pre.length) (hq1 : grp cfg st mt "quote_1" = ' ' :: opener)
    (hsc : compileSc cfg ["blank_line", "indent_code", "fenced_code"] = .ok sc)
    (hreq : (scMatch (Py.ctxOf (opener ++ ['\n'])) sc 0).isSome = true)
    (hrest : ¬ QuoteHead rest) :
    extractBlockQuote cfg pm mt st =
      .ok (opener ++ '\n' :: (body.map (·.2 ++ ['\n'])).flatten ++ (sp ++ List.replicate m c ++ bl) ++ ['\n'], none,
        { st with cursor := pre.length +
          ((body ++ [(indc, sp ++ List.replicate m c ++ bl)]).map markLine).flatten.length }) ∧
    fencedBody
        (Py.ctxOf (opener ++ '\n' :: (body.map (·.2 ++ ['\n'])).flatten ++ (sp ++ List.replicate m c ++ bl) ++ ['\n']))
        (opener ++ '\n' :: (body.map (·.2 ++ ['\n'])).flatten ++ (sp ++ List.replicate m c ++ bl) ++ ['\n']).length
        c n k (opener.length + 1) =
      ((body.map (fun p => dropUpTo k p.2 ++ ['\n'])).flatten,
        (opener ++ '\n' :: (body.map (·.2 ++ ['\n'])).flatten ++ (sp ++ List.replicate m c ++ bl) ++ ['\n']).length) := by
  have hcl1 := closer_no_tabHead c m sp bl hc1 hc2 (by omega) hsp hsp3
  have hcl2 := closer_no_nl c m sp bl hc3 hsp hbl
  -- the closing fence line enters the quote lemmas as one content line
  generalize hcloser : sp ++ List.replicate m c ++ bl = closer at *
  constructor
  · have hall : ∀ p ∈ body ++ [(indc, closer)], PlainSeg p :=
      List.forall_mem_append.mpr ⟨fun p hp => ⟨(hbody p hp).1, (hbody p hp).2.1, (hbody p hp).2.2.1, (hbody p hp).2.2.2.1⟩,
        List.forall_mem_singleton.mpr ⟨hindc.1, hindc.2, hcl2, hcl1⟩⟩
    rw [extractBlockQuote_marker cfg hcfg pm mt st pre rest (' ' :: opener) _ sc hx hstop hq1
      (by simpa using hopen.2) hsc (by rw [firstQuoteLine_plain opener hopen.1]; exact hreq) (markLines_qLine _ hall)
      hrest, markLines_text cfg hcfg opener _ hopen hall]
    simp [List.map_append, List.flatten_append, Function.comp_def]
  · have := fenced_closed_verbatim c n k m (opener ++ ['\n']) [] sp bl ['\n'] (body.map (·.2))
      (opener ++ '\n' :: (body.map (·.2 ++ ['\n'])).flatten ++ closer ++ ['\n']).length hc1 hc2 hc3 hn
      (Or.inr (by simp)) (List.forall_mem_map.mpr fun p hp => ⟨(hbody p hp).2.2.1, (hbody p hp).2.2.2.2⟩) hsp hsp3 hm hbl
      (Or.inl rfl)
    simp only [hcloser, List.map_map, List.append_nil] at this
    have e : opener ++ ['\n'] ++ (body.map ((· ++ ['\n']) ∘ fun p => p.2)).flatten ++ (closer ++ ['\n']) =
        opener ++ '\n' :: (body.map (·.2 ++ ['\n'])).flatten ++ closer ++ ['\n'] := by
      simp [Function.comp_def]
    rw [e] at this
    rw [show opener.length + 1 = (opener ++ ['\n']).length by simp, this]
    congr 1
    rw [← e]
    simp only [List.length_append]

section Examples6

/-- **non-vacuity of `quoted_fenced_verbatim`**: the subject is

    > ```
    > a  b
    >  c
    > ```
    (blank line)
    rest

the child text of the quote is the four content lines, and the code of the fenced block is `a  b\n c\n` -/
example (pm : ParseMethod) :
    let s := "> ```\n".toList ++ (([(([] : Str), "a  b".toList), ([], " c".toList)] ++
      [([], [] ++ List.replicate 3 '`' ++ [])]).map markLine).flatten ++ "\nrest\n".toList
    extractBlockQuote exCfg pm { start := 0, stop := 5, caps := [(1, (1, 5))] } (BlockState.root s) =
        .ok ("```\na  b\n c\n```\n".toList, none, { BlockState.root s with cursor := 6 + 18 }) ∧
      fencedBody (Py.ctxOf "```\na  b\n c\n```\n".toList) 16 '`' 3 0 4 = ("a  b\n c\n".toList, 16) := by
  intro s
  exact quoted_fenced_verbatim exCfg rfl pm { start := 0, stop := 5, caps := [(1, (1, 5))] } (BlockState.root s)
    (pre := "> ```\n".toList) (rest := "\nrest\n".toList) (opener := "```".toList)
    (body := [([], "a  b".toList), ([], " c".toList)]) (indc := []) (sp := []) (bl := []) (c := '`') (n := 3) (k := 0)
    (m := 3) (sc := quoteExSc)
    (hc1 := by decide +kernel) (hc2 := by decide +kernel) (hc3 := by decide +kernel) (hn := by decide +kernel)
    (hopen := by decide +kernel) (hbody := by decide +kernel) (hindc := by decide +kernel) (hsp := by decide +kernel)
    (hsp3 := by decide +kernel) (hm := by decide +kernel) (hbl := by decide +kernel) (hx := rfl) (hstop := rfl)
    (hq1 := by rw [grp_quote1 exCfg rfl _ _ rfl]; decide +kernel) (hsc := quoteExSc_eq) (hreq := by decide +kernel)
    (hrest := by decide +kernel)

/-- the subject of the example, as a string -/
example : "> ```\n".toList ++ (([(([] : Str), "a  b".toList), ([], " c".toList)] ++
      [([], [] ++ List.replicate 3 '`' ++ [])]).map markLine).flatten ++ "\nrest\n".toList =
    "> ```\n> a  b\n>  c\n> ```\n\nrest\n".toList := by decide +kernel

end Examples6

/-! #### where the hypotheses on the match come from -/

/-- The hypotheses `mt.stop + 1 = pre.length` and `grp cfg st mt "quote_1" = q1` of the handler theorems are what a
match of the block rule `block_quote` (the `mt` that `parse` hands to the handler) gives: the subject at `pos` is
`sp ++ ">" ++ content` followed by a newline or the end of the subject, `mt` ends at the end of `content`, and
`quote_1` is `content`. -/
theorem blockQuote_match (cfg : MdCfg) (hg : cfg.groups = Generated.groupIndex) (st : BlockState) (s : Str)
    (pos : Nat) (mt : RxMatch) (hx : st.x = Py.ctxOf s) (h : blockQuoteRuleExpected.matchAt st.x pos = some mt) :
    ∃ sp content tl, s.drop pos = sp ++ '>' :: content ++ tl ∧ (∀ ch ∈ sp, ch = ' ') ∧ sp.length ≤ 3 ∧
      '\n' ∉ content ∧ (tl = [] ∨ ∃ v, tl = '\n' :: v) ∧ bolAt s pos ∧ mt.start = pos ∧
      mt.stop = pos + sp.length + 1 + content.length ∧ grp cfg st mt "quote_1" = content := by
  rw [hx] at h
  -- from soundness: the span and the group are determined by the subject
  obtain ⟨hstart, hs⟩ := matchAt_sound _ _ _ _ h
  obtain ⟨i0, c0, hbol, hs⟩ := spec_seq.mp hs
  obtain ⟨hb, rfl, rfl⟩ := spec_bol hbol
  obtain ⟨i1, c1, hrep, hs⟩ := spec_seq.mp hs
  obtain ⟨i2, c2, hgt, hs⟩ := spec_seq.mp hs
  obtain ⟨i3, c3, hgrp, heol⟩ := spec_seq.mp hs
  obtain ⟨sp, hsp, hlen, hd, rfl, rfl⟩ := spec_blanks_gt hrep hgt
  obtain ⟨c4, hrep2, rfl⟩ := spec_grp.mp hgrp
  obtain ⟨content, hd2, rfl, rfl, _, _, hco2⟩ := spec_run_any hrep2
  obtain ⟨hstop, hcaps, htl⟩ := spec_eol heol
  refine ⟨sp, content, s.drop (i0 + sp.length + 1 + content.length), by rw [hd, hd2]; simp, hsp, hlen 3 rfl,
    fun e => by simpa using hco2 _ e, htl, hb, hstart, by omega, ?_⟩
  have htake : (s.drop (i0 + sp.length + 1)).take content.length = content := by rw [hd2, List.take_left' rfl]
  rw [grp_quote1 cfg hg st s hx]
  simp [RxMatch.group, hcaps, Caps.get, htake]

/-- every configuration the model is run with -/
theorem blockQuote_match_ofRuleCfg (c : RuleCfg) (hc : c ∈ allCfgs) (st : BlockState) (s : Str) (pos : Nat)
    (mt : RxMatch) (hx : st.x = Py.ctxOf s)
    (h : scanAt st.x ((ofRuleCfg c).blockSc ["block_quote"]) pos = some ("block_quote", mt)) :
    ∃ sp content tl, s.drop pos = sp ++ '>' :: content ++ tl ∧ (∀ ch ∈ sp, ch = ' ') ∧ sp.length ≤ 3 ∧
      '\n' ∉ content ∧ (tl = [] ∨ ∃ v, tl = '\n' :: v) ∧ bolAt s pos ∧ mt.start = pos ∧
      mt.stop = pos + sp.length + 1 + content.length ∧ grp (ofRuleCfg c) st mt "quote_1" = content := by
  apply blockQuote_match (ofRuleCfg c) rfl st s pos mt hx
  have hl : (ofRuleCfg c).blockSpec.lookup "block_quote" = some blockQuoteRuleExpected := blockQuoteRule_lookup c hc
  simp only [MdCfg.blockSc, List.filterMap_cons, List.filterMap_nil, hl, Option.map_some, scanAt] at h
  split at h
  · rename_i mt' hm
    simp only [Option.some.injEq, Prod.mk.injEq, true_and] at h
    rw [← h]; exact hm
  · cases h

/-! #### (5) with the text spelled out: the child text is exactly the de-prefixed lines -/

/-- **(5) verbatim, the quote ends the subject**: the quote is `ind0> l0` followed by the marked lines `ind> l` of
`segs`, up to the end of the subject; `l0` is neither blank nor indented code nor a fence (`hreq`).  Then the child text
is exactly `l0` and the `l`s, each followed by a newline, and the cursor is at the end. -/
theorem extractBlockQuote_verbatim_eos (cfg : MdCfg) (hcfg : cfg.named = Generated.namedRx) (pm : ParseMethod)
    (mt : RxMatch) (st : BlockState) (pre l0 : Str) (segs : List (Str × Str)) (sc breakSc : List (String × Rx))
    (hx : st.x = Py.ctxOf (pre ++ (segs.map markLine).flatten)) (hstop : mt.stop + 1 = pre.length)
    (hmax : st.cursorMax = (pre ++ (segs.map markLine).flatten).length)
    (hq1 : grp cfg st mt "quote_1" = ' ' :: l0) (hl0 : ¬ TabHead l0 ∧ '\n' ∉ l0)
    (hsc : compileSc cfg ["blank_line", "indent_code", "fenced_code"] = .ok sc)
    (hreq : (scMatch (Py.ctxOf (l0 ++ ['\n'])) sc 0).isSome = false)
    (hbsc : compileSc cfg ["blank_line", "thematic_break", "fenced_code", "list", "block_html"] = .ok breakSc)
    (hseg : ∀ p ∈ segs, PlainSeg p) :
    extractBlockQuote cfg pm mt st =
      .ok (((l0 :: segs.map (·.2)).map (· ++ ['\n'])).flatten, none,
        { st with cursor := pre.length + (segs.map markLine).flatten.length }) := by
  rw [extractBlockQuote_lazy_eos cfg hcfg pm mt st pre (' ' :: l0) _ sc breakSc hx hstop hmax hq1
    (by simpa using hl0.2) hsc (by rw [firstQuoteLine_plain l0 hl0.1]; exact hreq) hbsc (markLines_qLine segs hseg),
    markLines_text cfg hcfg l0 segs hl0 hseg]

/-- **(5) verbatim, the quote is ended by a break rule** (e.g. the blank line after it): as above, with `rest` after
the marked lines; a break rule matches at the start of `rest` and its handler accepts with end position `ep` and state
`st2`, and the last content line is not blank (`hbl`, automatically true when there is no marked line). -/
theorem extractBlockQuote_verbatim_break (cfg : MdCfg) (hcfg : cfg.named = Generated.namedRx) (pm : ParseMethod)
    (mt : RxMatch) (st : BlockState) (pre rest l0 : Str) (segs : List (Str × Str)) (sc breakSc : List (String × Rx))
    (hx : st.x = Py.ctxOf (pre ++ (segs.map markLine).flatten ++ rest)) (hstop : mt.stop + 1 = pre.length)
    (hmax : st.cursorMax = (pre ++ (segs.map markLine).flatten ++ rest).length)
    (hq1 : grp cfg st mt "quote_1" = ' ' :: l0) (hl0 : ¬ TabHead l0 ∧ '\n' ∉ l0)
    (hsc : compileSc cfg ["blank_line", "indent_code", "fenced_code"] = .ok sc)
    (hreq : (scMatch (Py.ctxOf (l0 ++ ['\n'])) sc 0).isSome = false)
    (hbsc : compileSc cfg ["blank_line", "thematic_break", "fenced_code", "list", "block_html"] = .ok breakSc)
    (hseg : ∀ p ∈ segs, PlainSeg p) (hrest : ¬ QuoteHead rest) (hne : rest ≠ [])
    (hbl : (!segs.isEmpty && blankEnd cfg ((segs.map (·.2 ++ ['\n'])).flatten)) = false)
    (name : String) (m4 : RxMatch) (ep : Option Nat) (st2 : BlockState)
    (hbr : scMatch st.x breakSc (pre.length + (segs.map markLine).flatten.length) = some (name, m4))
    (hpm : pm name m4 { st with cursor := pre.length + (segs.map markLine).flatten.length } = .ok (ep, st2))
    (ht : truthyPos ep = true) :
    extractBlockQuote cfg pm mt st = .ok (((l0 :: segs.map (·.2)).map (· ++ ['\n'])).flatten, ep, st2) := by
  rw [extractBlockQuote_lazy_break cfg hcfg pm mt st pre rest (' ' :: l0) _ sc breakSc hx hstop hmax hq1
    (by simpa using hl0.2) hsc (by rw [firstQuoteLine_plain l0 hl0.1]; exact hreq) hbsc (markLines_qLine segs hseg) hrest
    hne (by rw [markLines_sub segs hseg]; simpa using hbl) name m4 ep st2 hbr hpm ht,
    markLines_text cfg hcfg l0 segs hl0 hseg]

/-- `extractBlockQuote_verbatim_break` instantiated: `> foo  bar\n  >  x\n\nrest\n` gives the child text
`foo  bar\n x\n` (the blanks inside and after the prefix are kept) -/
example :
    extractBlockQuote exCfg quoteExPm { start := 0, stop := 10, caps := [(1, (1, 10))] }
        (BlockState.root ("> foo  bar\n".toList ++ ([("  ".toList, " x".toList)].map markLine).flatten ++
          "\nrest\n".toList)) =
      .ok ("foo  bar\n x\n".toList, some 19,
        ({ BlockState.root ("> foo  bar\n".toList ++ ([("  ".toList, " x".toList)].map markLine).flatten ++
            "\nrest\n".toList) with cursor := 11 + 7 } : BlockState).appendToken (tok "blank_line" [])) :=
  extractBlockQuote_verbatim_break exCfg rfl quoteExPm _ _ "> foo  bar\n".toList "\nrest\n".toList
    "foo  bar".toList [("  ".toList, " x".toList)] quoteExSc quoteExBreakSc rfl rfl rfl
    (by rw [grp_quote1 exCfg rfl _ _ rfl]; decide +kernel) (by decide +kernel) quoteExSc_eq (by decide +kernel) quoteExBreakSc_eq
    (by decide +kernel) (by decide +kernel) (by decide +kernel) (by rw [blankEnd_rx exCfg rfl]; decide +kernel)
    "blank_line" { start := 18, stop := 19, caps := [(1, (18, 19))] } (some 19) _ (by rfl) rfl rfl

section Examples7

/-- **non-vacuity of `extractBlockQuote_lazy_break`** (and of `parseBlockQuote_of`): the quote `> foo\n> bar\n` followed
by a blank line and a paragraph; the blank line is matched by the break scanner, `parse_blank_line` accepts (end
position 13), the child text is `foo\nbar\n` -/
example :
    extractBlockQuote exCfg quoteExPm { start := 0, stop := 5, caps := [(1, (1, 5))] }
        (BlockState.root ("> foo\n".toList ++ ["> bar\n".toList].flatten ++ "\nrest\n".toList)) =
      .ok (expandTab exCfg (firstQuoteLine " foo".toList ++ '\n' :: subLines quoteLine ["> bar\n".toList].flatten),
        some 13,
        ({ BlockState.root ("> foo\n".toList ++ ["> bar\n".toList].flatten ++ "\nrest\n".toList) with
            cursor := 6 + 6 } : BlockState).appendToken (tok "blank_line" [])) :=
  extractBlockQuote_lazy_break exCfg rfl quoteExPm _ _ "> foo\n".toList "\nrest\n".toList " foo".toList
    ["> bar\n".toList] quoteExSc quoteExBreakSc rfl rfl rfl
    (by rw [grp_quote1 exCfg rfl _ _ rfl]; decide +kernel) (by decide +kernel) quoteExSc_eq (by decide +kernel) quoteExBreakSc_eq
    (List.forall_mem_singleton.mpr ⟨[], " bar".toList, rfl, by simp, by simp, by decide +kernel⟩)
    (by decide +kernel) (by decide +kernel) (by rw [blankEnd_rx exCfg rfl]; decide +kernel) "blank_line"
    { start := 12, stop := 13, caps := [(1, (12, 13))] }
    (some 13) _ (by rfl) rfl rfl

/-- **non-vacuity of `extractBlockQuote_lazy_blank`**: `> foo\n>\nrest\n`: the run of marked lines ends with a blank
quoted line, the quote ends before `rest` (no lazy continuation) -/
example (pm : ParseMethod) :
    extractBlockQuote exCfg pm { start := 0, stop := 5, caps := [(1, (1, 5))] }
        (BlockState.root ("> foo\n".toList ++ [">\n".toList].flatten ++ "rest\n".toList)) =
      .ok (expandTab exCfg (firstQuoteLine " foo".toList ++ '\n' :: subLines quoteLine [">\n".toList].flatten), none,
        { BlockState.root ("> foo\n".toList ++ [">\n".toList].flatten ++ "rest\n".toList) with cursor := 6 + 2 }) :=
  extractBlockQuote_lazy_blank exCfg rfl pm _ _ "> foo\n".toList "rest\n".toList " foo".toList
    [">\n".toList] quoteExSc quoteExBreakSc rfl rfl rfl
    (by rw [grp_quote1 exCfg rfl _ _ rfl]; decide +kernel) (by decide +kernel) quoteExSc_eq (by decide +kernel) quoteExBreakSc_eq
    (List.forall_mem_singleton.mpr ⟨[], [], rfl, by simp, by simp, by decide +kernel⟩)
    (by decide +kernel) (by decide +kernel) (by rw [blankEnd_rx exCfg rfl]; decide +kernel)

example : expandTab exCfg (firstQuoteLine " foo".toList ++ '\n' :: subLines quoteLine [">\n".toList].flatten) =
    "foo\n\n".toList := by
  rw [expandTab_eq exCfg rfl]; decide +kernel

/-- **non-vacuity of `extractBlockQuote_marker`** with a blank first line: `>\n> x\nrest\n` (`blank_line` matches the
first content line, so only marked lines continue the quote) -/
example (pm : ParseMethod) :
    extractBlockQuote exCfg pm { start := 0, stop := 1, caps := [(1, (1, 1))] }
        (BlockState.root (">\n".toList ++ ["> x\n".toList].flatten ++ "rest\n".toList)) =
      .ok (expandTab exCfg (firstQuoteLine [] ++ '\n' :: subLines quoteLine ["> x\n".toList].flatten), none,
        { BlockState.root (">\n".toList ++ ["> x\n".toList].flatten ++ "rest\n".toList) with cursor := 2 + 4 }) :=
  extractBlockQuote_marker exCfg rfl pm _ _ ">\n".toList "rest\n".toList [] ["> x\n".toList] quoteExSc rfl rfl
    (by rw [grp_quote1 exCfg rfl _ _ rfl]; decide +kernel) (by decide +kernel) quoteExSc_eq (by decide +kernel)
    (List.forall_mem_singleton.mpr ⟨[], " x".toList, rfl, by simp, by simp, by decide +kernel⟩)
    (by decide +kernel)

/-- **non-vacuity of `parseBlockQuote_of`**: the handler on `> foo\n> bar\n\nrest\n`: it returns the end position of
the blank-line handler (13) and inserts, before the `blank_line` token, a `block_quote` token whose children are the
tokens of the parse of `foo\nbar\n` -/
example : ∃ (child st1 : BlockState), st1.tokens = [tok "blank_line" []] ∧
    parse exCfg quoteExPm (st1.childState "foo\nbar\n".toList) (some exCfg.quoteRules) = .ok child ∧
    parseBlockQuote exCfg quoteExPm { start := 0, stop := 5, caps := [(1, (1, 5))] }
        (BlockState.root "> foo\n> bar\n\nrest\n".toList) =
      .ok (some 13, { st1 with env := child.env,
                               tokens := [tok "block_quote" [("children", .arr child.tokens)], tok "blank_line" []] }) := by
  have hext : extractBlockQuote exCfg quoteExPm { start := 0, stop := 5, caps := [(1, (1, 5))] }
        (BlockState.root "> foo\n> bar\n\nrest\n".toList) =
      .ok ("foo\nbar\n".toList, some 13,
        ({ BlockState.root "> foo\n> bar\n\nrest\n".toList with cursor := 12 } : BlockState).appendToken
          (tok "blank_line" [])) :=
    extractBlockQuote_verbatim_break exCfg rfl quoteExPm _ _ "> foo\n".toList "\nrest\n".toList "foo".toList
      [([], "bar".toList)] quoteExSc quoteExBreakSc rfl rfl rfl (by rw [grp_quote1 exCfg rfl _ _ rfl]; decide +kernel)
      (by decide +kernel) quoteExSc_eq (by decide +kernel) quoteExBreakSc_eq (by decide +kernel) (by decide +kernel) (by decide +kernel)
      (by rw [blankEnd_rx exCfg rfl]; decide +kernel) "blank_line" { start := 12, stop := 13, caps := [(1, (12, 13))] }
      (some 13) _ (by rfl) rfl rfl
  cases hp : parse exCfg quoteExPm
      ((({ BlockState.root "> foo\n> bar\n\nrest\n".toList with cursor := 12 } : BlockState).appendToken
          (tok "blank_line" [])).childState "foo\nbar\n".toList) (some exCfg.quoteRules) with
  | error e =>
    exfalso
    have : (parse exCfg quoteExPm
      ((({ BlockState.root "> foo\n> bar\n\nrest\n".toList with cursor := 12 } : BlockState).appendToken
          (tok "blank_line" [])).childState "foo\nbar\n".toList) (some exCfg.quoteRules)).toBool = true := by
      decide +kernel
    rw [hp] at this
    cases this
  | ok child =>
    refine ⟨child, _, rfl, hp, ?_⟩
    exact parseBlockQuote_of exCfg quoteExPm _ _ _ _ _ child hext hp

end Examples7

/-! ### axioms of the headline theorems -/

#print axioms quoteLeadingRx_lookup
#print axioms quoteTrimRx_lookup
#print axioms strictQuoteRx_lookup
#print axioms blockQuoteRule_lookup
#print axioms cleanQuote_eq
#print axioms cleanQuote_lines
#print axioms cleanQuote_verbatim
#print axioms cleanQuote_verbatim_tight
#print axioms cleanQuote_verbatim_marked
#print axioms strictQuote_matchAt
#print axioms strictQuote_matchAt_open
#print axioms strictQuote_matchAt_isSome_iff
#print axioms strictQuote_matchAt_none
#print axioms blockQuote_match_ofRuleCfg
#print axioms extractBlockQuote_marker
#print axioms extractBlockQuote_lazy_eos
#print axioms extractBlockQuote_lazy_blank
#print axioms extractBlockQuote_lazy_break
#print axioms parseBlockQuote_of
#print axioms quoteText_verbatim
#print axioms extractBlockQuote_verbatim_eos
#print axioms extractBlockQuote_verbatim_break
#print axioms quoted_fenced_verbatim

end Mistune
