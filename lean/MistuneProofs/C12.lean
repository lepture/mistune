/-
C12 — link references: first definition wins, whatever follows; lookups depend only on the key.
(Case / white-space insensitivity of labels is `unikeyPy_case`, `unikeyPy_ws_run`, … of C18; that every inline
lookup sees the FINAL table is the two-pass structure of `Model.parseDoc`.)
-/
import Mistune.RefTable
namespace Mistune

variable {D : Type}

theorem any_eq_lookup_isSome {κ : Type} [BEq κ] [LawfulBEq κ] (tbl : List (κ × D)) (key : κ) :
    tbl.any (fun p => p.1 == key) = (tbl.lookup key).isSome := by
  induction tbl with
  | nil => simp [List.lookup]
  | cons p r ih =>
    obtain ⟨x, y⟩ := p
    simp only [List.any_cons, List.lookup_cons, ih]
    by_cases hx : x = key
    · subst hx; simp
    · have h1 : (x == key) = false := by simpa using hx
      have h2 : (key == x) = false := by simpa using fun h : key = x => hx h.symm
      simp [h1, h2]

theorem refLookup_refAdd_same (tbl : List (Str × D)) (key : Str) (d : D) :
    refLookup (refAdd tbl key d) key = (refLookup tbl key).orElse (fun _ => some d) := by
  unfold refLookup refAdd
  rw [any_eq_lookup_isSome]
  cases h : tbl.lookup key with
  | none => simp [List.lookup_append, h, List.lookup]
  | some v => simp [h]

theorem refLookup_refAdd_other (tbl : List (Str × D)) (k key : Str) (d : D) (h : k ≠ key) :
    refLookup (refAdd tbl k d) key = refLookup tbl key := by
  unfold refLookup refAdd
  have h2 : (key == k) = false := by simpa using fun e : key = k => h e.symm
  split
  · rfl
  · rw [List.lookup_append]
    simp [List.lookup, h2]

theorem refBuild_lookup_gen (tbl defs : List (Str × D)) (key : Str) :
    refLookup (refBuild tbl defs) key = (refLookup tbl key).orElse (fun _ => firstDef defs key) := by
  induction defs generalizing tbl with
  | nil => simp [refBuild, firstDef]
  | cons p rest ih =>
    obtain ⟨k, d⟩ := p
    simp only [refBuild, firstDef]
    rw [ih]
    by_cases hk : k = key
    · subst hk
      rw [refLookup_refAdd_same]
      cases refLookup tbl k <;> simp
    · rw [refLookup_refAdd_other _ _ _ _ hk]
      have h1 : (k == key) = false := by simpa using hk
      simp [h1]

theorem refBuild_append_aux (tbl defs more : List (Str × D)) :
    refBuild tbl (defs ++ more) = refBuild (refBuild tbl defs) more := by
  induction defs generalizing tbl with
  | nil => rfl
  | cons p rest ih =>
    obtain ⟨k, d⟩ := p
    simp only [List.cons_append, refBuild, ih]

/-- **C12 (first definition wins, for every sequence of definitions).** Looking a key up in the table built
from any list of definitions (in block-pass order) gives the data of the FIRST definition with that key —
later duplicates, wherever they stand, change nothing; an undefined key gives `none` (the reference stays text). -/
theorem refBuild_first (defs : List (Str × D)) (key : Str) :
    refLookup (refBuild [] defs) key = firstDef defs key := by
  rw [refBuild_lookup_gen]
  simp [refLookup, List.lookup]

/-- Appending further definitions never changes what an already defined key resolves to. -/
theorem refBuild_append_stable (defs more : List (Str × D)) (key : Str) (d : D)
    (h : refLookup (refBuild [] defs) key = some d) :
    refLookup (refBuild [] (defs ++ more)) key = some d := by
  rw [refBuild_append_aux, refBuild_lookup_gen, h]
  simp


end Mistune
