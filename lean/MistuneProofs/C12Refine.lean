/-
C12 — refinement: the CONCRETE handlers `Blk.parseRefLink` (definition site) and `Inl.parseLinkRef` (use site)
perform exactly the steps of the abstract reference-table machine `refAdd` / `refBuild` / `refLookup` of
`Mistune.RefTable`, about which `refBuild_first`, `refBuild_append_stable` (C12) are proved.

Abstraction functions
* `absTable : Json → List (Str × Json)`  — a Python dict (JSON object, insertion order) as an association list whose
  keys are code-point lists (`String.toList`);
* `absRefs env = absTable env["ref_links"]` — the abstract table of an `env`.

The definition site is walked once, with `Holds` (partial correctness, the twin of `Blk.Sat`), to `parseRefLink_raw`;
`parseRefLink_step` / `_env` / `_decline` / `_invalid` are read off it.  Each of the three handlers that write `env`
stores under one key (`parseRefLink_keeps`, …), so every other key survives the block pass (`keepKey_envRel`, the
`EnvRel` instance C14 uses for `footnotes`).  The whole block pass: `C12RefineBlock`.
-/
import Mistune.Model.Doc
import MistuneProofs.C05
import MistuneProofs.C12
import MistuneProofs.EnvRel
import MistuneProofs.C18Unikey
import MistuneProofs.Oblig.Unicode
namespace Mistune
namespace Model
open Blk

/-! ### the abstraction functions -/

/-- a Python dict with string keys as an association list (insertion order), keys as code-point lists -/
def absTable : Json → List (Str × Json)
  | .obj kv => kv.map (fun p => (p.1.toList, p.2))
  | _ => []

/-- the abstract reference table of an `env`: `env["ref_links"]` -/
def absRefs (env : Json) : List (Str × Json) :=
  match env.get? "ref_links" with
  | some t => absTable t
  | none => []

/-- `env["ref_links"]` is a dict (true of the root state, kept by every handler) -/
def RefsWf (env : Json) : Prop := ∃ kv, env.get? "ref_links" = some (.obj kv)

theorem toList_beq (s : String) (k : Str) : (s.toList == k) = (s == String.ofList k) := by
  by_cases h : s = String.ofList k
  · subst h; simp
  · have h2 : s.toList ≠ k := by
      intro e; apply h; rw [← e]; simp
    have h3 : (s == String.ofList k) = false := by simpa using h
    have h4 : (s.toList == k) = false := by simpa using h2
    rw [h3, h4]

/-- `key in d` on the dict = membership of the key in the abstract table -/
theorem absTable_has (kv : List (String × Json)) (k : Str) :
    (absTable (.obj kv)).any (fun p => p.1 == k) = (Json.obj kv).has (String.ofList k) := by
  unfold Json.has Json.get? absTable
  rw [← any_eq_lookup_isSome]
  simp only [List.any_map]
  congr 1
  funext p
  exact toList_beq p.1 k

/-- `d.get(key)` on the dict = `refLookup` on the abstract table -/
theorem absTable_lookup (kv : List (String × Json)) (k : Str) :
    refLookup (absTable (.obj kv)) k = (Json.obj kv).get? (String.ofList k) := by
  unfold refLookup absTable Json.get?
  induction kv with
  | nil => rfl
  | cons p r ih =>
    obtain ⟨a, b⟩ := p
    simp only [List.map_cons, List.lookup_cons]
    have : (k == a.toList) = (String.ofList k == a) := by
      rw [Bool.beq_comm, toList_beq, Bool.beq_comm]
    rw [this, ih]

/-- **the abstract step**: `if key not in d: d[key] = data` on the dict is `refAdd` on the abstract table -/
theorem absTable_step (kv : List (String × Json)) (k : Str) (d : Json) :
    absTable (if !(Json.obj kv).has (String.ofList k) then (Json.obj kv).set (String.ofList k) d else .obj kv)
      = refAdd (absTable (.obj kv)) k d := by
  unfold refAdd
  rw [absTable_has]
  by_cases h : (Json.obj kv).has (String.ofList k) = true
  · simp [h]
  · have h' : (Json.obj kv).has (String.ofList k) = false := by simpa using h
    simp only [h', Bool.not_false, if_true, Bool.false_eq_true, if_false]
    unfold Json.set
    have : kv.any (fun p => p.1 == String.ofList k) = false := by
      rw [any_eq_lookup_isSome]; exact h'
    simp [this, absTable]

/-! ### the definition site: `Blk.parseRefLink` -/

theorem appendParagraph_frame (cfg : MdCfg) (st : BlockState) (p : Option Nat) (st1 : BlockState)
    (h : st.appendParagraph cfg = .ok (p, st1)) : st1.env = st.env ∧ st1.x = st.x := by
  unfold BlockState.appendParagraph at h
  cases hl : st.lastParagraph with
  | error e => rw [hl] at h; cases h
  | ok o =>
    rw [hl] at h
    cases o with
    | none => cases h; exact ⟨rfl, rfl⟩
    | some last =>
      simp only [bind, Except.bind] at h
      split at h
      · cases h
      · split at h
        · cases h
        · cases h; exact ⟨rfl, rfl⟩

/-- the `data` dict that `parse_ref_link` stores for a definition -/
def refLinkData (cfg : MdCfg) (label href : Str) (title : Option Str) : Json :=
  let data := Json.obj [("url", .str (escapeUrlM cfg (unescapeChar cfg href))), ("label", .str label)]
  match title with
  | some t => if !t.isEmpty then data.set "title" (.str t) else data
  | none => data

/-- partial correctness for `Except PyErr`: the notion `Blk.Sat` of the block-pass file, under the name the C12 and C14
statements use; its rules are those of `Sat` -/
def Holds {α : Type} (P : α → Prop) (e : Except PyErr α) : Prop := ∀ a, e = .ok a → P a

theorem Holds.bind {α β : Type} {Q : α → Prop} {P : β → Prop} {e : Except PyErr α} {f : α → Except PyErr β}
    (h1 : Holds Q e) (h2 : ∀ a, Q a → Holds P (f a)) : Holds P (e >>= f) := Sat.bind h1 h2

theorem Holds.pure {α : Type} {P : α → Prop} {a : α} (h : P a) : Holds P (pure a : Except PyErr α) := Sat.pure h

theorem Holds.ok {α : Type} {P : α → Prop} {a : α} (h : P a) : Holds P (.ok a : Except PyErr α) := Sat.ok h

theorem Holds.throw {α : Type} {P : α → Prop} {e : PyErr} : Holds P (throw e : Except PyErr α) := Sat.throw

theorem Holds.throw_bind {α β : Type} {P : β → Prop} {e : PyErr} {f : α → Except PyErr β} :
    Holds P ((MonadExcept.throw e : Except PyErr α) >>= f) := Sat.throw_bind

/-- at an `if`, with the condition as a hypothesis in each branch -/
theorem Holds.ite {α : Type} {P : α → Prop} {c : Prop} [Decidable c] {a b : Except PyErr α}
    (ha : c → Holds P a) (hb : ¬c → Holds P b) : Holds P (if c then a else b) := by
  split
  · exact ha ‹_›
  · exact hb ‹_›

theorem Holds.mono {α : Type} {P Q : α → Prop} {e : Except PyErr α} (h : Holds P e) (hpq : ∀ a, P a → Q a) :
    Holds Q e := Sat.mono h hpq

theorem Holds.true {α : Type} (e : Except PyErr α) : Holds (fun _ => True) e := Sat.true e

theorem Holds.self {α : Type} (e : Except PyErr α) : Holds (fun a => e = .ok a) e := fun _ h => h

/-- what `parse_ref_link` does to `env`, on the concrete values -/
def RefLinkPost (cfg : MdCfg) (mt : RxMatch) (st : BlockState) (res : Option Nat × BlockState) : Prop :=
  res.2.env = st.env ∨
    ∃ refs href title, st.env.get? "ref_links" = some refs ∧
      refs.has (String.ofList (unikeyPy (grp cfg st mt "reflink_1"))) = false ∧
      truthyPos res.1 = true ∧ unikeyPy (grp cfg st mt "reflink_1") ≠ [] ∧
      res.2.env = st.env.set "ref_links"
        (refs.set (String.ofList (unikeyPy (grp cfg st mt "reflink_1")))
          (refLinkData cfg (grp cfg st mt "reflink_1") href title))

theorem getE_some (j : Json) (k : String) : Holds (fun v => j.get? k = some v) (getE j k) := by
  unfold getE
  split
  · rename_i v hv; exact Holds.ok hv
  · exact Holds.throw

theorem parseRefLink_raw (cfg : MdCfg) (mt : RxMatch) (st : BlockState) :
    Holds (RefLinkPost cfg mt st) (parseRefLink cfg mt st) := by
  unfold parseRefLink
  refine Holds.bind (Holds.self _) ?_
  rintro ⟨endPos, st1⟩ hap
  obtain ⟨he, hx⟩ := appendParagraph_frame cfg st endPos st1 hap
  have hg : grp cfg st1 mt "reflink_1" = grp cfg st mt "reflink_1" := by unfold grp; rw [hx]
  -- every return but one leaves the state reached after `append_paragraph`
  have hsame : ∀ p, Holds (RefLinkPost cfg mt st) (pure (p, st1)) := fun p => Holds.pure (Or.inl he)
  refine Holds.ite (fun _ => hsame _) (fun _ => ?_)
  refine Holds.ite (fun _ => hsame _) (fun hkey => ?_)
  refine Holds.bind (Holds.true _) (fun r _ => ?_)
  split
  · exact hsame _
  rename_i href0 hrefPos0
  extract_lets maxPos
  -- the three pairs `(title, title_pos)`, `(title, title_pos)`, `(href, href_pos)`
  split
  rename_i title titlePos htp
  split
  rename_i title2 titlePos2 htp2
  split
  rename_i href hrefPos hhp
  refine Holds.ite (fun _ => hsame _) (fun hend => ?_)
  refine Holds.bind (getE_some _ _) (fun refs hrefs => ?_)
  refine Holds.ite (fun hhas => ?_) (fun _ => hsame _)
  cases href with
  | none => exact Holds.throw
  | some href1 =>
    refine Holds.pure (Or.inr ⟨refs, href1, title2, ?_, ?_, ?_, ?_, ?_⟩)
    · rw [← he]; exact hrefs
    · rw [← hg]; simpa using hhas
    · simpa using hend
    · rw [← hg]; intro e; apply hkey; show (unikeyPy (grp cfg st1 mt "reflink_1")).isEmpty = true; rw [e]; rfl
    · rw [← hg, ← he]; rfl

/-- `parse_ref_link` stores under the key `ref_links` only -/
theorem parseRefLink_keeps (cfg : MdCfg) (mt : RxMatch) (st : BlockState) (r : Option Nat) (st' : BlockState)
    (h : parseRefLink cfg mt st = .ok (r, st')) (k : String) (hk : k ≠ "ref_links") :
    st'.env.get? k = st.env.get? k := by
  rcases parseRefLink_raw cfg mt st _ h with he | ⟨_, _, _, _, _, _, _, henv⟩
  · exact congrArg (·.get? k) he
  · exact (congrArg (·.get? k) henv).trans (get?_set_ne _ _ _ _ hk)

/-- `parse_ref_footnote` stores under the key `ref_footnotes` only -/
theorem parseRefFootnote_keeps (cfg : MdCfg) (mt : RxMatch) (st : BlockState) (r : Option Nat) (st' : BlockState)
    (h : parseRefFootnote cfg mt st = .ok (r, st')) (k : String) (hk : k ≠ "ref_footnotes") :
    st'.env.get? k = st.env.get? k := by
  unfold parseRefFootnote at h
  simp only [Except.ok.injEq, Prod.mk.injEq] at h
  obtain ⟨_, hst⟩ := h
  subst hst
  split
  · exact get?_set_ne _ _ _ _ hk
  · rfl

/-- `parse_ref_abbr` stores under the key `ref_abbrs` only -/
theorem parseRefAbbr_keeps (cfg : MdCfg) (mt : RxMatch) (st : BlockState) (r : Option Nat) (st' : BlockState)
    (h : parseRefAbbr cfg mt st = .ok (r, st')) (k : String) (hk : k ≠ "ref_abbrs") :
    st'.env.get? k = st.env.get? k := by
  unfold parseRefAbbr at h
  simp only [Except.ok.injEq, Prod.mk.injEq] at h
  obtain ⟨_, hst⟩ := h
  subst hst
  exact get?_set_ne _ _ _ _ hk

/-- the value under the key `k` of `env` is the same before and after -/
def KeepKey (k : String) (e e' : Json) : Prop := e'.get? k = e.get? k

/-- the block pass leaves every key of `env` alone that is not one of the three the writing handlers store under -/
theorem keepKey_envRel (cfg : MdCfg) (k : String) (h1 : k ≠ "ref_links") (h2 : k ≠ "ref_footnotes")
    (h3 : k ≠ "ref_abbrs") : EnvRel cfg (KeepKey k) where
  refl := fun _ => rfl
  trans := fun hab hbc => Eq.trans hbc hab
  refLink := fun mt st r st' h => parseRefLink_keeps cfg mt st r st' h k h1
  refFootnote := fun mt st r st' h => parseRefFootnote_keeps cfg mt st r st' h k h2
  refAbbr := fun mt st r st' h => parseRefAbbr_keeps cfg mt st r st' h k h3

theorem absRefs_of_get (env refs : Json) (h : env.get? "ref_links" = some refs) : absRefs env = absTable refs := by
  unfold absRefs; rw [h]

/-- `parse_ref_link` on an `env` whose `ref_links` is a dict: `env` is left as it was, or ONE definition is stored (the
table becomes `refAdd table (unikey label) data`, the position is truthy, the key non-empty) -/
theorem parseRefLink_step (cfg : MdCfg) (mt : RxMatch) (st : BlockState) (r : Option Nat) (st' : BlockState)
    (h : parseRefLink cfg mt st = .ok (r, st')) (hwf : RefsWf st.env) :
    st'.env = st.env ∨
      (RefsWf st'.env ∧ ∃ href title, truthyPos r = true ∧ unikeyPy (grp cfg st mt "reflink_1") ≠ [] ∧
        absRefs st'.env = refAdd (absRefs st.env) (unikeyPy (grp cfg st mt "reflink_1"))
          (refLinkData cfg (grp cfg st mt "reflink_1") href title)) := by
  rcases parseRefLink_raw cfg mt st _ h with he | ⟨refs, href, title, hrefs, hhas, htr, hne, henv⟩
  · exact Or.inl he
  · dsimp only at htr henv
    obtain ⟨kv, hkv⟩ := hwf
    have hr : refs = .obj kv := by rw [hrefs] at hkv; cases hkv; rfl
    subst hr
    obtain ⟨ekv, hekv⟩ := isObj_of_get? _ _ _ hrefs
    have hget : st'.env.get? "ref_links" = some ((Json.obj kv).set (String.ofList (unikeyPy (grp cfg st mt "reflink_1")))
        (refLinkData cfg (grp cfg st mt "reflink_1") href title)) := by
      rw [henv, hekv]; exact get?_set_self _ _ _
    refine Or.inr ⟨?_, href, title, htr, hne, ?_⟩
    · obtain ⟨kv', hkv'⟩ := set_obj kv (String.ofList (unikeyPy (grp cfg st mt "reflink_1")))
        (refLinkData cfg (grp cfg st mt "reflink_1") href title)
      exact ⟨kv', by rw [hget, hkv']⟩
    · rw [absRefs_of_get _ _ hget, absRefs_of_get _ _ hrefs, ← absTable_step, hhas]
      rfl

/-- **C12, definition site: `parse_ref_link` is one `refAdd` step of the abstract machine.**  Whenever the handler returns,
`env["ref_links"]` is still a dict, every other key of `env` is untouched, and the abstract table is either unchanged
(the handler declined, the line continued a paragraph, the label normalised to the empty key, …) or it is
`refAdd table (unikey label) data` for the label matched by the rule — i.e. the definition is stored iff its
normalised key was absent; in that case the returned position is truthy and the key non-empty. -/
theorem parseRefLink_env (cfg : MdCfg) (mt : RxMatch) (st : BlockState) (r : Option Nat) (st' : BlockState)
    (h : parseRefLink cfg mt st = .ok (r, st')) (hwf : RefsWf st.env) :
    RefsWf st'.env ∧ (∀ k, k ≠ "ref_links" → st'.env.get? k = st.env.get? k) ∧
    (absRefs st'.env = absRefs st.env ∨
      ∃ href title, truthyPos r = true ∧ unikeyPy (grp cfg st mt "reflink_1") ≠ [] ∧
        absRefs st'.env = refAdd (absRefs st.env) (unikeyPy (grp cfg st mt "reflink_1"))
          (refLinkData cfg (grp cfg st mt "reflink_1") href title)) := by
  rcases parseRefLink_step cfg mt st r st' h hwf with he | ⟨hw', hdef⟩
  · rw [he]
    exact ⟨hwf, fun _ _ => rfl, Or.inl rfl⟩
  · exact ⟨hw', parseRefLink_keeps cfg mt st r st' h, Or.inr hdef⟩

/-- a declined `ref_link` match (falsy position) leaves `env` as it was -/
theorem parseRefLink_decline (cfg : MdCfg) (mt : RxMatch) (st : BlockState) (r : Option Nat) (st' : BlockState)
    (h : parseRefLink cfg mt st = .ok (r, st')) (hr : truthyPos r = false) : st'.env = st.env := by
  rcases parseRefLink_raw cfg mt st _ h with he | ⟨_, _, _, _, _, htr, _, _⟩
  · exact he
  · dsimp only at htr; rw [hr] at htr; cases htr

/-- a label that normalises to the empty key (`[ ]: /url`) defines nothing -/
theorem parseRefLink_invalid (cfg : MdCfg) (mt : RxMatch) (st : BlockState) (r : Option Nat) (st' : BlockState)
    (h : parseRefLink cfg mt st = .ok (r, st')) (hk : unikeyPy (grp cfg st mt "reflink_1") = []) : st'.env = st.env := by
  rcases parseRefLink_raw cfg mt st _ h with he | ⟨_, _, _, _, _, _, hne, _⟩
  · exact he
  · exact absurd hk hne

/-! ### the use site: `Inl.parseLinkRef` -/

/-- what `parse_link` does with the result of `ref_links.get(key)` (the code after the look-up, verbatim) -/
def linkRefResolve (R : Inl.Rec) (isImage : Bool) (text label : Str) (endPos : Nat) (st : Inl.InlineState) :
    Option Json → Inl.HRes
  | none => .ok (none, st)
  | some env =>
    if !env.truthy then .ok (none, st) else do
    let url ← match env.get? "url" with
      | some u => pure u
      | none => .error .keyError
    let title := (env.get? "title").getD .null
    let attrs := Json.obj [("url", url), ("title", title)]
    let (token, st) ← Inl.parseLinkToken R isImage text attrs st
    let token := (token.set "ref" (.str (unikeyPy label))).set "label" (.str label)
    pure (some endPos, st.appendToken token)

/-- **C12, use site: the reference form of `parse_link` is `refLookup` at the normalised key.**  `parse_link`'s reference form resolves a label
by looking `unikey(label)` up in the abstract table of the current `env`, and nothing else of the label or of the
table enters the decision. -/
theorem parseLinkRef_lookup (R : Inl.Rec) (isImage : Bool) (text label : Str) (endPos : Nat) (st : Inl.InlineState)
    (hwf : RefsWf st.env) :
    Inl.parseLinkRef R isImage text (some label) endPos st =
      linkRefResolve R isImage text label endPos st (refLookup (absRefs st.env) (unikeyPy label)) := by
  obtain ⟨kv, hkv⟩ := hwf
  unfold Inl.parseLinkRef
  simp only [hkv, absRefs_of_get _ _ hkv, absTable_lookup]
  by_cases hemp : (Json.obj kv).truthy = true
  · simp only [hemp, Bool.not_true, Bool.false_eq_true, if_false]
    cases (Json.obj kv).get? (String.ofList (unikeyPy label)) with
    | none => rfl
    | some d => rfl
  · have hk : kv = [] := by
      cases kv with
      | nil => rfl
      | cons a b => exact absurd rfl hemp
    subst hk
    simp [Json.truthy, Json.get?, linkRefResolve, List.lookup]

/-- the resolved definition depends on the label only through its key -/
theorem parseLinkRef_key (tbl : List (Str × Json)) (l1 l2 : Str) (h : unikeyPy l1 = unikeyPy l2) :
    refLookup tbl (unikeyPy l1) = refLookup tbl (unikeyPy l2) := by rw [h]

/-- case variants of a label resolve to the same definition (`unikeyPy_case`, C18) -/
theorem parseLinkRef_case (tbl : List (Str × Json)) (t : NatTree Nat)
    (h : t = Generated.lowerTree ∨ t = Generated.upperTree ∨ t = Generated.titleTree ∨ t = Generated.swapcaseTree ∨
      t = Generated.casefoldTree) (label : Str) :
    refLookup tbl (unikeyPy (label.map (variantOf t))) = refLookup tbl (unikeyPy label) := by
  rw [unikeyPy_case t h]

/-- white-space variants of a label resolve to the same definition (`unikeyPy_ws_run`, C18) -/
theorem parseLinkRef_ws (tbl : List (Str × Json)) (a b sp1 sp2 : Str) (h1 : sp1 ≠ []) (h2 : sp2 ≠ [])
    (hs1 : ∀ c ∈ sp1, isSpace c = true) (hs2 : ∀ c ∈ sp2, isSpace c = true) :
    refLookup tbl (unikeyPy (a ++ sp1 ++ b)) = refLookup tbl (unikeyPy (a ++ sp2 ++ b)) := by
  rw [unikeyPy_ws_run a b sp1 sp2 h1 h2 hs1 hs2]

/-! ### non-vacuity: kernel-evaluated runs of the concrete model -/

section Examples
open Mistune.Generated

/-- keys and urls of the final table of a block pass -/
def refsView (env : Json) : List (Str × Str) := (absRefs env).map (fun p => (p.1, p.2.getStr "url"))

def refsOfRun (r : Except PyErr (List Json × Json)) : Option (List (Str × Str)) :=
  match r with
  | .ok (_, env) => some (refsView env)
  | .error _ => none

/-- two definitions of the same label in different case, a third with another white-space run: the first wins -/
example : refsOfRun (Model.blockParse (ofRuleCfg cfg_core) "[Foo]: /a\n[fOO]: /b\n\n[foo  bar]: /c\n[Foo\tBAR]: /d\n".toList)
    = some [("FOO".toList, "/a".toList), ("FOO BAR".toList, "/c".toList)] := by decide +kernel

/-- one call of the handler on the root state of `[Foo]: /a`: accepted (truthy position), one `refAdd` step -/
def refLinkDemo (src : String) (env : Json) : Option (Bool × Bool × List (Str × Str)) :=
  let cfg := ofRuleCfg cfg_core
  let st := { BlockState.root src.toList with env := env }
  match compileSc cfg ["ref_link"] with
  | .ok sc =>
    match scan st.x sc 0 with
    | some (_, m) =>
      match parseRefLink cfg m st with
      | .ok (r, st') => some (truthyPos r, decide (unikeyPy (grp cfg st m "reflink_1") ≠ []), refsView st'.env)
      | .error _ => none
    | none => none
  | .error _ => none

example : refLinkDemo "[Foo]: /a\n" (.obj [("ref_links", .obj [])]) = some (true, true, [("FOO".toList, "/a".toList)]) := by
  decide +kernel

/-- the key is present already (another case variant): accepted, table unchanged -/
example : refLinkDemo "[fOO]: /b\n" (.obj [("ref_links", .obj [("FOO", .obj [("url", Json.s "/a")])])])
    = some (true, true, [("FOO".toList, "/a".toList)]) := by decide +kernel

example : RefsWf (BlockState.root "[Foo]: /a\n".toList).env := ⟨[], rfl⟩

end Examples

end Model
end Mistune
