/-
C12 — refinement, whole block pass: the final `env["ref_links"]` of `Model.blockParse` is `refBuild` over the log of
the definitions that `parse_ref_link` accepted, in handler-call order.

`EnvRel` (`MistuneProofs.EnvRel`) shows that only `parse_ref_link`, `parse_ref_footnote`, `parse_ref_abbr` write
`env` and that every other handler of `Blk.parseMethod` (core and plugins, including the containers that thread
`child.env`) respects any reflexive-transitive relation the three writers respect.  Here the relation is
"there is a `RefTrace`": a decomposition of the `env` evolution into steps each of which is either table-preserving
or ONE accepted call of the concrete `parseRefLink` issued at exactly the `env` reached so far.
-/
import MistuneProofs.C12Refine
import MistuneProofs.EnvRel
namespace Mistune
namespace Model
open Blk

/-- the evolution of `env` during a block pass, with the log of accepted link reference definitions:
`same` — a step that does not touch `env["ref_links"]`;
`define` — one call of the concrete handler `parseRefLink` on a state whose `env` is the current one, which accepted
  the definition `(unikey label, data)` (truthy position, non-empty key) and performed the `refAdd` step;
`trans` — sequencing (the logs are concatenated in call order). -/
inductive RefTrace (cfg : MdCfg) : Json → List (Str × Json) → Json → Prop
  | same {e e' : Json} (h : e'.get? "ref_links" = e.get? "ref_links") : RefTrace cfg e [] e'
  | define {mt : RxMatch} {st : BlockState} {r : Option Nat} {st' : BlockState} {href : Str} {title : Option Str}
      (hcall : parseRefLink cfg mt st = .ok (r, st')) (hwf : RefsWf st.env) (htr : truthyPos r = true)
      (hkey : unikeyPy (grp cfg st mt "reflink_1") ≠ [])
      (hstep : absRefs st'.env = refAdd (absRefs st.env) (unikeyPy (grp cfg st mt "reflink_1"))
        (refLinkData cfg (grp cfg st mt "reflink_1") href title)) :
      RefTrace cfg st.env [(unikeyPy (grp cfg st mt "reflink_1"), refLinkData cfg (grp cfg st mt "reflink_1") href title)]
        st'.env
  | trans {a b c : Json} {l1 l2 : List (Str × Json)} (h1 : RefTrace cfg a l1 b) (h2 : RefTrace cfg b l2 c) :
      RefTrace cfg a (l1 ++ l2) c

theorem absRefs_congr {e e' : Json} (h : e'.get? "ref_links" = e.get? "ref_links") : absRefs e' = absRefs e := by
  unfold absRefs; rw [h]

theorem RefsWf_congr {e e' : Json} (h : e'.get? "ref_links" = e.get? "ref_links") (hw : RefsWf e) : RefsWf e' := by
  obtain ⟨kv, hkv⟩ := hw; exact ⟨kv, by rw [h, hkv]⟩

/-- a trace keeps `env["ref_links"]` a dict -/
theorem RefTrace.wf {cfg : MdCfg} {e e' : Json} {log : List (Str × Json)} (h : RefTrace cfg e log e') :
    RefsWf e → RefsWf e' := by
  induction h with
  | same h => exact RefsWf_congr h
  | define hcall hwf _ _ _ => intro _; exact (parseRefLink_env cfg _ _ _ _ hcall hwf).1
  | trans _ _ ih1 ih2 => exact fun hw => ih2 (ih1 hw)

/-- **soundness of the log**: the table after a trace is `refBuild` of the table before over the log -/
theorem RefTrace.sound {cfg : MdCfg} {e e' : Json} {log : List (Str × Json)} (h : RefTrace cfg e log e') :
    absRefs e' = refBuild (absRefs e) log := by
  induction h with
  | same h => exact absRefs_congr h
  | define _ _ _ _ hstep => exact hstep
  | trans _ _ ih1 ih2 => rw [refBuild_append_aux, ← ih1, ih2]

/-- the relation handed to `EnvRel` -/
def RefRel (cfg : MdCfg) (e e' : Json) : Prop := RefsWf e → ∃ log, RefTrace cfg e log e'

theorem refRel_envRel (cfg : MdCfg) : EnvRel cfg (RefRel cfg) where
  refl := fun e _ => ⟨[], RefTrace.same rfl⟩
  trans := by
    intro a b c h1 h2 hw
    obtain ⟨l1, t1⟩ := h1 hw
    obtain ⟨l2, t2⟩ := h2 (t1.wf hw)
    exact ⟨l1 ++ l2, RefTrace.trans t1 t2⟩
  refLink := by
    intro mt st r st' h hw
    rcases parseRefLink_step cfg mt st r st' h hw with he | ⟨_, href, title, htr, hkey, hstep⟩
    · exact ⟨[], RefTrace.same (by rw [he])⟩
    · exact ⟨_, RefTrace.define h hw htr hkey hstep⟩
  refFootnote := fun mt st r st' h _ =>
    ⟨[], RefTrace.same (parseRefFootnote_keeps cfg mt st r st' h _ (by decide))⟩
  refAbbr := fun mt st r st' h _ =>
    ⟨[], RefTrace.same (parseRefAbbr_keeps cfg mt st r st' h _ (by decide))⟩

/-- every entry of a log is a definition accepted by a call of the concrete handler -/
theorem RefTrace.mem {cfg : MdCfg} {e e' : Json} {log : List (Str × Json)} (h : RefTrace cfg e log e') :
    ∀ d ∈ log, ∃ mt st r st' href title, parseRefLink cfg mt st = .ok (r, st') ∧ truthyPos r = true ∧
      d.1 = unikeyPy (grp cfg st mt "reflink_1") ∧ d.1 ≠ [] ∧
      d.2 = refLinkData cfg (grp cfg st mt "reflink_1") href title := by
  induction h with
  | same _ => intro d hd; cases hd
  | @define mt st r st' href title hcall _ htr hkey _ =>
    intro d hd
    rw [List.mem_singleton.1 hd]
    -- the projections of the pair are reduced first: left to `exact`, the comparison unfolds `unikeyPy`
    dsimp only
    exact ⟨mt, st, r, st', href, title, hcall, htr, rfl, hkey, rfl⟩
  | trans _ _ ih1 ih2 =>
    intro d hd
    rcases List.mem_append.1 hd with h | h
    · exact ih1 d h
    · exact ih2 d h

/-- the `env` of the root state -/
def rootEnv : Json := .obj [("ref_links", .obj [])]

theorem rootEnv_wf : RefsWf rootEnv := ⟨[], rfl⟩
theorem rootEnv_abs : absRefs rootEnv = [] := rfl

/-- every parse method of the concrete dispatcher (any nesting budget, core and plugin rules) extends the trace -/
theorem parseMethod_refs (cfg : MdCfg) (fuel : Nat) (name : String) (mt : RxMatch) (st : BlockState)
    (r : Option Nat) (st' : BlockState) (h : parseMethod cfg fuel name mt st = .ok (r, st')) (hw : RefsWf st.env) :
    ∃ log, RefTrace cfg st.env log st'.env ∧ absRefs st'.env = refBuild (absRefs st.env) log := by
  obtain ⟨log, t⟩ := parseMethod_rel cfg (RefRel cfg) (refRel_envRel cfg) fuel name mt st _ h hw
  exact ⟨log, t, t.sound⟩

/-- **C12, block pass: the table of the block pass is `refBuild` over the accepted definitions.**  For every configuration and
every source string on which `Model.blockParse` returns, the final `env["ref_links"]` is a dict and there is a log —
a `RefTrace` from the root `env`, i.e. the accepted `parse_ref_link` calls in handler-call order, each issued at the
`env` its predecessors produced — such that the abstract table is `refBuild [] log`. -/
theorem blockParse_refs (cfg : MdCfg) (src : Str) (toks : List Json) (env : Json)
    (h : Model.blockParse cfg src = .ok (toks, env)) :
    RefsWf env ∧ ∃ log, RefTrace cfg rootEnv log env ∧ absRefs env = refBuild [] log := by
  obtain ⟨log, t⟩ := blockParse_rel cfg (RefRel cfg) (refRel_envRel cfg) src toks env h rootEnv_wf
  exact ⟨t.wf rootEnv_wf, log, t, t.sound⟩

/-- **C12 (first definition wins, concrete model).**  What a normalised key resolves to in the final table of the block
pass is the data of the FIRST accepted definition with that key (`refBuild_first`); a key no accepted definition has
resolves to nothing. -/
theorem blockParse_first (cfg : MdCfg) (src : Str) (toks : List Json) (env : Json)
    (h : Model.blockParse cfg src = .ok (toks, env)) :
    ∃ log, RefTrace cfg rootEnv log env ∧ ∀ key, refLookup (absRefs env) key = firstDef log key := by
  obtain ⟨_, log, t, hb⟩ := blockParse_refs cfg src toks env h
  exact ⟨log, t, fun key => by rw [hb, refBuild_first]⟩

/-- once a key resolves during the block pass, it resolves to the same data ever after (`refBuild_append_stable`
generalised to a non-empty starting table) -/
theorem RefTrace.stable {cfg : MdCfg} {e e' : Json} {log : List (Str × Json)} (h : RefTrace cfg e log e')
    (key : Str) (d : Json) (hk : refLookup (absRefs e) key = some d) : refLookup (absRefs e') key = some d := by
  rw [h.sound, refBuild_lookup_gen, hk]; rfl

/-- with the use site (`parseLinkRef_lookup`): a reference `[text][label]` processed with the final `env` of the
block pass resolves by `firstDef log (unikey label)` -/
theorem blockParse_use (cfg : MdCfg) (src : Str) (toks : List Json) (env : Json)
    (h : Model.blockParse cfg src = .ok (toks, env)) :
    ∃ log, RefTrace cfg rootEnv log env ∧
      ∀ (R : Inl.Rec) (isImage : Bool) (text label : Str) (endPos : Nat) (st : Inl.InlineState), st.env = env →
        Inl.parseLinkRef R isImage text (some label) endPos st =
          linkRefResolve R isImage text label endPos st (firstDef log (unikeyPy label)) := by
  obtain ⟨hw, log, t, hb⟩ := blockParse_refs cfg src toks env h
  refine ⟨log, t, fun R isImage text label endPos st he => ?_⟩
  rw [parseLinkRef_lookup R isImage text label endPos st (by rw [he]; exact hw), he, hb, refBuild_first]

/-! ### non-vacuity -/

section Examples
open Mistune.Generated

def isOk {α : Type} (r : Except PyErr α) : Bool := match r with | .ok _ => true | .error _ => false

theorem isOk_of_refsOfRun {r : Except PyErr (List Json × Json)} {v : List (Str × Str)} (h : refsOfRun r = some v) :
    isOk r = true := by
  cases r with
  | ok a => rfl
  | error e => cases h

/-- duplicate definitions, at top level and in containers: one evaluation of the block pass -/
theorem refsOfRun_containers :
    refsOfRun (Model.blockParse (ofRuleCfg cfg_core) "[Foo]: /a\n[fOO]: /b\n\n> [foo]: /c\n\n- [bar]: /d\n".toList)
      = some [("FOO".toList, "/a".toList), ("BAR".toList, "/d".toList)] := by decide +kernel

/-- the hypothesis of `blockParse_refs` holds on documents with duplicate definitions, in containers, with plugins -/
example : isOk (Model.blockParse (ofRuleCfg cfg_core) "[Foo]: /a\n[fOO]: /b\n\n> [foo]: /c\n\n- [bar]: /d\n".toList) = true :=
  isOk_of_refsOfRun refsOfRun_containers

example : refsOfRun (Model.blockParse (ofRuleCfg cfg_core) "[Foo]: /a\n[fOO]: /b\n\n> [foo]: /c\n\n- [bar]: /d\n".toList)
    = some [("FOO".toList, "/a".toList), ("BAR".toList, "/d".toList)] := refsOfRun_containers

/-- the abstract machine on the corresponding log -/
example : (refBuild [] [("FOO".toList, 1), ("FOO".toList, 2), ("FOO".toList, 3), ("BAR".toList, 4)] : List (Str × Nat))
    = [("FOO".toList, 1), ("BAR".toList, 4)] := by decide

/-- `url` of every `link` among the children of the top-level tokens -/
def linkUrls (r : Except PyErr (List Json)) : Option (List Str) :=
  match r with
  | .ok toks => some (toks.flatMap (fun t => (t.getArr "children").filterMap (fun c =>
      if c.type == "link" then (c.get? "attrs").map (·.getStr "url") else none)))
  | .error _ => none

/-- use site: case and white-space variants of the label resolve to the FIRST definition; an undefined label stays text -/
example : linkUrls (Model.parseDoc (ofRuleCfg cfg_core) "[Foo  Bar]: /a\n[fOO bar]: /b\n\n[foo bar] [FOO\tBAR] [x][Foo BAR] [nope]\n".toList)
    = some ["/a".toList, "/a".toList, "/a".toList] := by decide +kernel

end Examples

end Model
end Mistune
