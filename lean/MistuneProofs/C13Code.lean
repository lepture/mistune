/-
C13 (code blocks of the Markdown renderer): the fence chosen by `_get_fenced_marker` cannot be closed by any line of
the code, hence parsing what `MarkdownRenderer.block_code` wrote (`Model.Blk.fencedBody` from the line after the
opening fence) gives back exactly the code (up to the final newline the renderer adds), whatever the code contains.
A marker recorded in the token is kept only when no line of the code closes it (`_closes_fence`); the round trip holds
for every token whose marker is absent or of the shape the block parser records (`md_block_code_roundtrip_any`).
-/
import Mistune.MdCode
import MistuneProofs.C11Fence
namespace Mistune
open Mistune.Model Mistune.Model.Blk

/-! ### lines -/

/-- a text that is empty or ends with a newline consists of complete lines, each of which is one of its `splitNl`
lines -/
theorem complete_lines (t : Str) (h : t = [] ∨ t.getLast? = some '\n') :
    ∃ lines : List Str, t = (lines.map (· ++ ['\n'])).flatten ∧ ∀ l ∈ lines, '\n' ∉ l ∧ l ∈ splitNl t := by
  rcases List.eq_nil_or_concat t with rfl | ⟨u, ch, rfl⟩
  · exact ⟨[], rfl, by simp⟩
  · have hch : ch = '\n' := by
      rcases h with h | h
      · simp at h
      · simpa using h
    subst hch
    rw [List.concat_eq_append]
    refine ⟨splitNl u, ?_, ?_⟩
    · rw [flatten_lines_eq_join _ (splitNl_ne_nil u), join_splitNl]
    · intro l hl
      refine ⟨splitNl_mem_no_nl u l hl, ?_⟩
      rw [splitNl_append_nl]
      exact List.mem_append_left _ hl

/-! ### the run of a closing fence line -/

theorem isFenceCh_ne_space {c : Char} (h : isFenceCh c = true) : c ≠ ' ' ∧ c ≠ '\t' ∧ c ≠ '\n' := by
  simp only [isFenceCh, Bool.or_eq_true, beq_iff_eq] at h
  rcases h with rfl | rfl <;> decide

/-- a closing fence line for a fence of `n ≥ 1` characters `c ∈ {'`','~'}` has a run (in the sense of `fenced_re`)
that starts with `c` and has at least `n` characters -/
theorem run_of_closer (c : Char) (n : Nat) (l : Str) (hc : isFenceCh c = true) (hn : 1 ≤ n)
    (h : isCloser c n l = true) : (lineRun l).head? = some c ∧ n ≤ (lineRun l).length := by
  obtain ⟨hc1, _, _⟩ := isFenceCh_ne_space hc
  obtain ⟨sp, m, bl, rfl, hsp, hsp3, hm, _⟩ := shape_of_isCloser c n l h
  obtain ⟨m', rfl⟩ : ∃ m', m = m' + 1 := ⟨m - 1, by omega⟩
  have hrep : ∀ ch ∈ List.replicate (m' + 1) c, isFenceCh ch = true := fun ch hch => by
    rw [List.eq_of_mem_replicate hch]; exact hc
  obtain ⟨h1, h2⟩ := shape_blanks c m' sp bl hc1 hsp
  have h3 : lineRun (sp ++ List.replicate (m' + 1) c ++ bl) =
      List.replicate (m' + 1) c ++ bl.takeWhile isFenceCh := by
    unfold lineRun
    rw [h1, if_pos hsp3, h2, List.takeWhile_append_of_pos hrep]
  rw [h3]
  constructor
  · simp [List.replicate_succ]
  · simp; omega

/-! ### the marker -/

/-- fence character and fence length of the chosen marker -/
def fenceChar (code : Str) : Char := (getFencedMarker code).headD '`'

def fenceLen (code : Str) : Nat := (getFencedMarker code).length

theorem foldl_max_ge (l : List Nat) : ∀ (a : Nat), a ≤ l.foldl max a ∧ ∀ x ∈ l, x ≤ l.foldl max a := by
  induction l with
  | nil => intro a; simp
  | cons y r ih =>
    intro a
    obtain ⟨h1, h2⟩ := ih (max a y)
    simp only [List.foldl_cons]
    refine ⟨by omega, ?_⟩
    intro x hx
    rcases List.mem_cons.mp hx with rfl | hx
    · omega
    · exact h2 x hx

theorem le_maxNat (l : List Nat) (x : Nat) (h : x ∈ l) : x ≤ maxNat l := (foldl_max_ge l 0).2 x h

theorem replicate_max3 (k : Nat) (c : Char) :
    (List.replicate (max 3 k) c).headD '`' = c ∧ (List.replicate (max 3 k) c).length = max 3 k := by
  obtain ⟨j, hj⟩ : ∃ j, max 3 k = j + 1 := ⟨max 3 k - 1, by omega⟩
  rw [hj]
  simp [List.replicate_succ]

/-- the chosen marker, case by case, with what each case knows about the runs of the code: every run that starts with
the fence character is strictly shorter than the fence -/
theorem marker_beats_runs (code : Str) :
    getFencedMarker code = List.replicate (fenceLen code) (fenceChar code) ∧
      (fenceChar code = '`' ∨ fenceChar code = '~') ∧ 3 ≤ fenceLen code ∧
      ∀ r ∈ fenceRuns code, r.head? = some (fenceChar code) → r.length < fenceLen code := by
  unfold fenceLen fenceChar getFencedMarker
  simp only
  split
  · rename_i h
    refine ⟨by decide, Or.inl (by decide), by decide, ?_⟩
    intro r hr
    rw [List.isEmpty_iff.mp h] at hr
    simp at hr
  · split
    · rename_i h
      refine ⟨by decide, Or.inl (by decide), by decide, ?_⟩
      intro r hr hhead
      exfalso
      have h0 := List.isEmpty_iff.mp h
      rw [List.map_eq_nil_iff, List.filter_eq_nil_iff] at h0
      have hd : "```".toList.headD '`' = '`' := by decide
      rw [hd] at hhead
      exact h0 r hr (by simp [hhead])
    · split
      · rename_i h
        refine ⟨by decide, Or.inr (by decide), by decide, ?_⟩
        intro r hr hhead
        exfalso
        have h0 := List.isEmpty_iff.mp h
        rw [List.map_eq_nil_iff, List.filter_eq_nil_iff] at h0
        have hd : "~~~".toList.headD '`' = '~' := by decide
        rw [hd] at hhead
        exact h0 r hr (by simp [hhead])
      · obtain ⟨hd, hl⟩ := replicate_max3
          (maxNat (((fenceRuns code).filter (fun s => s.head? == some '`')).map List.length) + 1) '`'
        rw [hd, hl]
        refine ⟨rfl, Or.inl rfl, by omega, ?_⟩
        intro r hr hhead
        have := le_maxNat (((fenceRuns code).filter (fun s => s.head? == some '`')).map List.length) r.length
          (List.mem_map.mpr ⟨r, List.mem_filter.mpr ⟨hr, by simp [hhead]⟩, rfl⟩)
        omega

/-- **the marker is a fence**: at least three back-ticks or at least three tildes -/
theorem marker_shape (code : Str) :
    getFencedMarker code = List.replicate (fenceLen code) (fenceChar code) ∧
      (fenceChar code = '`' ∨ fenceChar code = '~') ∧ 3 ≤ fenceLen code :=
  ⟨(marker_beats_runs code).1, (marker_beats_runs code).2.1, (marker_beats_runs code).2.2.1⟩

/-- the same without the two names -/
theorem marker_shape' (code : Str) :
    ∃ (c : Char) (n : Nat), getFencedMarker code = List.replicate n c ∧ (c = '`' ∨ c = '~') ∧ 3 ≤ n :=
  ⟨_, _, marker_shape code⟩

theorem fenceChar_isFenceCh (code : Str) : isFenceCh (fenceChar code) = true := by
  rcases (marker_shape code).2.1 with h | h <;> rw [h] <;> decide

theorem mem_fenceRuns (code l : Str) (hl : l ∈ splitNl code) (hne : lineRun l ≠ []) : lineRun l ∈ fenceRuns code := by
  unfold fenceRuns
  rw [lineSplit_eq_splitNl]
  exact List.mem_filter.mpr ⟨List.mem_map.mpr ⟨l, hl, rfl⟩, by cases h : lineRun l <;> simp_all⟩

/-- **no line of the code closes the chosen fence** -/
theorem marker_not_closable (code : Str) :
    ∀ l ∈ splitNl code, isCloser (fenceChar code) (fenceLen code) l = false := by
  intro l hl
  cases hcl : isCloser (fenceChar code) (fenceLen code) l with
  | false => rfl
  | true =>
    exfalso
    obtain ⟨_, _, h3, hruns⟩ := marker_beats_runs code
    obtain ⟨hhead, hlen⟩ := run_of_closer _ _ l (fenceChar_isFenceCh code) (by omega) hcl
    have hne : lineRun l ≠ [] := by
      intro e; rw [e] at hhead; cases hhead
    have := hruns _ (mem_fenceRuns code l hl hne) hhead
    omega

/-! ### the final newline does not change the marker -/

theorem lineRun_nil : lineRun [] = [] := rfl

theorem fenceRuns_append_nl (code : Str) : fenceRuns (code ++ ['\n']) = fenceRuns code := by
  unfold fenceRuns
  rw [lineSplit_eq_splitNl, lineSplit_eq_splitNl, splitNl_append_nl]
  simp [splitNl, lineRun_nil]

theorem fenceRuns_ensureNl (code : Str) : fenceRuns (ensureNl code) = fenceRuns code := by
  unfold ensureNl
  split
  · exact fenceRuns_append_nl code
  · rfl

theorem getFencedMarker_ensureNl (code : Str) : getFencedMarker (ensureNl code) = getFencedMarker code := by
  unfold getFencedMarker
  rw [fenceRuns_ensureNl]

theorem ensureNl_terminated (code : Str) : ensureNl code = [] ∨ (ensureNl code).getLast? = some '\n' := by
  unfold ensureNl
  split
  · right; simp
  · rename_i h
    simp only [Bool.and_eq_true, Bool.not_eq_true', not_and, Bool.not_eq_false] at h
    cases code with
    | nil => exact Or.inl rfl
    | cons ch r => right; simpa using h (by simp)

theorem mdMarker_none (code : Str) : mdMarker none (ensureNl code) = getFencedMarker code := by
  unfold mdMarker
  exact getFencedMarker_ensureNl code

theorem mdBlockCode_eq (marker? : Option Str) (info code : Str) :
    mdBlockCode marker? info code =
      mdMarker marker? (ensureNl code) ++ info ++ ['\n'] ++ ensureNl code ++ mdMarker marker? (ensureNl code) ++
        ['\n', '\n'] := rfl

theorem mdBlockCode_none (info code : Str) :
    mdBlockCode none info code =
      getFencedMarker code ++ info ++ ['\n'] ++ ensureNl code ++ getFencedMarker code ++ ['\n', '\n'] := by
  rw [mdBlockCode_eq, mdMarker_none]

/-! ### the round trip -/

/-- the common core: a fence of `n ≥ 1` characters `c ∈ {'`','~'}` around a text of complete lines none of which
closes it -/
theorem fence_roundtrip (c : Char) (n : Nat) (pre post info body : Str) (cursorMax : Nat)
    (hc : isFenceCh c = true) (hn : 1 ≤ n) (hterm : body = [] ∨ body.getLast? = some '\n')
    (hno : ∀ l ∈ splitNl body, isCloser c n l = false) :
    fencedBody
        (Py.ctxOf (pre ++ (List.replicate n c ++ info ++ ['\n'] ++ body ++ List.replicate n c ++ ['\n', '\n']) ++ post))
        cursorMax c n 0 (pre.length + n + info.length + 1) =
      (body, pre.length + n + info.length + 1 + body.length + n + 1) := by
  obtain ⟨lines, hbody, hlines⟩ := complete_lines body hterm
  obtain ⟨hc1, hc2, hc3⟩ := isFenceCh_ne_space hc
  have hclose : ∀ l ∈ lines, '\n' ∉ l ∧ isCloser c n l = false :=
    fun l hl => ⟨(hlines l hl).1, hno l (hlines l hl).2⟩
  have key := fenced_closed_verbatim_notrim c n n (pre ++ List.replicate n c ++ info ++ ['\n']) ('\n' :: post)
    [] [] ['\n'] lines cursorMax hc1 hc2 hc3 hn (Or.inr (by simp)) hclose (by simp) (by simp)
    (Nat.le_refl _) (by simp) (Or.inl rfl)
  simp only [← hbody] at key
  have hs : pre ++ (List.replicate n c ++ info ++ ['\n'] ++ body ++ List.replicate n c ++ ['\n', '\n']) ++ post =
      pre ++ List.replicate n c ++ info ++ ['\n'] ++ body ++ ([] ++ List.replicate n c ++ [] ++ ['\n']) ++
      '\n' :: post := by
    simp
  have hstart : (pre ++ List.replicate n c ++ info ++ ['\n']).length = pre.length + n + info.length + 1 := by
    simp; omega
  rw [← hs, hstart] at key
  rw [key]
  simp
  omega

/-- **Round trip.** Whatever `code` and `info` are: in a subject in which the block written by
`MarkdownRenderer.block_code` (no marker in the token) starts at a line start, `parse_fenced_code`'s body computation,
started on the line after the opening fence with the fence character and fence length of the written marker, returns
exactly the code (with the final newline the renderer adds unless the code is empty or already ends with one) and stops
just after the closing fence line.

No hypothesis on `info` or `pre` is needed for this statement (the length of `info` only fixes where the body starts, and
the body starts after the `'\n'` of the opening line whatever `pre` is).  What the *opening* line needs in order to be
read as this fence with this info string is outside `fencedBody`: `pre` empty or ending with `'\n'`, `info` without
`'\n'`, not starting with the fence character (the fence would become longer) and, for a back-tick fence, without
back-tick (`parseFencedCode_decline`). -/
theorem md_block_code_roundtrip (pre post info code : Str) (cursorMax : Nat) :
    let c := fenceChar code
    let n := fenceLen code
    let code' := ensureNl code
    let s := pre ++ mdBlockCode none info code ++ post
    let start := pre.length + n + info.length + 1
    fencedBody (Py.ctxOf s) cursorMax c n 0 start = (code', start + code'.length + n + 1) := by
  intro c n code' s start
  obtain ⟨hmk, _, hn3⟩ := marker_shape code
  have hno : ∀ l ∈ splitNl code', isCloser c n l = false := by
    intro l hl
    have := marker_not_closable code' l hl
    unfold fenceChar fenceLen at this
    rw [getFencedMarker_ensureNl] at this
    exact this
  have := fence_roundtrip c n pre post info code' cursorMax (fenceChar_isFenceCh code) (by omega)
    (ensureNl_terminated code) hno
  simp only [s, mdBlockCode_none, hmk]
  exact this

/-! ### `_closes_fence` and a marker recorded in the token -/

theorem isBlankCh_eq (ch : Char) : isBlankCh ch = isBlank ch := rfl

theorem all_dropWhile {p q : Char → Bool} : ∀ {l : Str}, l.all q = true → (l.dropWhile p).all q = true := by
  intro l
  induction l with
  | nil => intro h; exact h
  | cons a r ih =>
    intro h
    rw [List.dropWhile_cons]
    split
    · exact ih (by simp only [List.all_cons, Bool.and_eq_true] at h; exact h.2)
    · exact h

/-- the one-line test of `_closes_fence` is the closing-fence predicate of C11Fence as soon as the fence character is
neither a blank nor a tab and the fence is not empty (for `c = ' '` they differ: four blanks close a fence of one
blank for the regex — indentation three — but `isCloser ' ' 1 "    " = false`, see the example below) -/
theorem closerLine_eq_isCloser (c : Char) (n : Nat) (line : Str) (hc1 : c ≠ ' ') (hc2 : c ≠ '\t') (hn : 1 ≤ n) :
    closerLine c n line = isCloser c n line := by
  rw [Bool.eq_iff_iff]
  constructor
  · intro h
    simp only [closerLine, List.any_eq_true, List.mem_range, Bool.and_eq_true, decide_eq_true_eq,
      List.all_eq_true, beq_iff_eq, closerTail] at h
    obtain ⟨k, hk, ⟨hkl, hsp⟩, hm, hbl⟩ := h
    have hrep : List.replicate ((line.drop k).takeWhile (· == c)).length c = (line.drop k).takeWhile (· == c) := by
      symm
      rw [List.eq_replicate_iff]
      exact ⟨rfl, fun b hb => by simpa using (mem_takeWhile_pos hb)⟩
    have hline : line = line.take k ++ List.replicate ((line.drop k).takeWhile (· == c)).length c ++
        (line.drop k).dropWhile (· == c) := by
      rw [hrep, List.append_assoc, List.takeWhile_append_dropWhile, List.take_append_drop]
    rw [hline]
    exact isCloser_of_shape c n _ _ _ hc1 hc2 hn hsp (by rw [List.length_take]; omega) hm
      (fun ch hch => by rw [← isBlankCh_eq]; exact hbl ch hch)
  · intro h
    obtain ⟨sp, m, bl, rfl, hsp, hsp3, hm, hbl⟩ := shape_of_isCloser c n line h
    simp only [closerLine, List.any_eq_true, List.mem_range, Bool.and_eq_true, decide_eq_true_eq,
      List.all_eq_true, beq_iff_eq, closerTail]
    refine ⟨sp.length, by omega, ⟨by simp, ?_⟩, ?_, ?_⟩
    · intro ch hch
      rw [List.append_assoc, List.take_left] at hch
      exact hsp ch hch
    · rw [List.append_assoc, List.drop_left,
        List.takeWhile_append_of_pos (fun ch hch => by simp [List.eq_of_mem_replicate hch])]
      simp; omega
    · rw [List.append_assoc, List.drop_left,
        List.dropWhile_append_of_pos (fun ch hch => by simp [List.eq_of_mem_replicate hch])]
      have hall : bl.all isBlankCh = true := by
        rw [List.all_eq_true]; intro ch hch; rw [isBlankCh_eq]; exact hbl ch hch
      exact List.all_eq_true.mp (all_dropWhile hall)

/-- why `c ≠ ' '` is needed above (the regex backtracks on the indentation, `isCloser` takes all leading blanks) -/
example : closerLine ' ' 1 "    ".toList = true ∧ isCloser ' ' 1 "    ".toList = false := by decide

/-- **`_closes_fence` on a marker of the parser's shape: some line of the code is a closing fence line** -/
theorem closesFence_eq (c : Char) (n : Nat) (code : Str) (hc : isFenceCh c = true) (hn : 1 ≤ n) :
    closesFence (List.replicate n c) code = (splitNl code).any (isCloser c n) := by
  obtain ⟨hc1, hc2, _⟩ := isFenceCh_ne_space hc
  obtain ⟨n', rfl⟩ : ∃ n', n = n' + 1 := ⟨n - 1, by omega⟩
  simp only [List.replicate_succ, closesFence, lineSplit_eq_splitNl, List.length_cons, List.length_replicate]
  congr 1
  funext line
  exact closerLine_eq_isCloser c (n' + 1) line hc1 hc2 hn

theorem closesFence_false_iff (c : Char) (n : Nat) (code : Str) (hc : isFenceCh c = true) (hn : 1 ≤ n) :
    closesFence (List.replicate n c) code = false ↔ ∀ l ∈ splitNl code, isCloser c n l = false := by
  rw [closesFence_eq c n code hc hn, List.any_eq_false]
  simp

/-- the newline appended by the renderer does not matter for the test (lines of `code` instead of `ensureNl code`) -/
theorem closers_ensureNl (c : Char) (n : Nat) (code : Str) (hn : 1 ≤ n) :
    (∀ l ∈ splitNl (ensureNl code), isCloser c n l = false) ↔ ∀ l ∈ splitNl code, isCloser c n l = false := by
  unfold ensureNl
  split
  · rw [splitNl_append_nl]
    have h0 : isCloser c n [] = false := by
      simp [isCloser]; omega
    constructor
    · intro h l hl
      exact h l (List.mem_append_left _ hl)
    · intro h l hl
      rcases List.mem_append.mp hl with hl | hl
      · exact h l hl
      · simp only [splitNl, List.mem_singleton] at hl
        rw [hl]; exact h0
  · exact Iff.rfl

/-- fence character and fence length of the marker `block_code` writes for a token with `marker` = `marker?` -/
def writtenFence (marker? : Option Str) (code : Str) : Char × Nat :=
  ((mdMarker marker? (ensureNl code)).headD '`', (mdMarker marker? (ensureNl code)).length)

theorem writtenFence_none (code : Str) : writtenFence none code = (fenceChar code, fenceLen code) := by
  unfold writtenFence fenceChar fenceLen
  rw [mdMarker_none]

theorem replicate_headD (c : Char) (n : Nat) (hn : 1 ≤ n) : (List.replicate n c).headD '`' = c := by
  obtain ⟨n', rfl⟩ : ∃ n', n = n' + 1 := ⟨n - 1, by omega⟩
  simp [List.replicate_succ]

/-- **the recorded fence is kept whenever no line of the code closes it** (lines of the code as given; the appended
newline adds an empty line, which closes nothing) -/
theorem written_eq_recorded (c : Char) (n : Nat) (code : Str) (hc : c = '`' ∨ c = '~') (hn : 3 ≤ n)
    (hno : ∀ l ∈ splitNl code, isCloser c n l = false) :
    mdMarker (some (List.replicate n c)) (ensureNl code) = List.replicate n c ∧
      writtenFence (some (List.replicate n c)) code = (c, n) := by
  have hfc : isFenceCh c = true := by rcases hc with rfl | rfl <;> decide
  have hcl : closesFence (List.replicate n c) (ensureNl code) = false :=
    (closesFence_false_iff c n _ hfc (by omega)).mpr ((closers_ensureNl c n code (by omega)).mpr hno)
  have hne : (List.replicate n c).isEmpty = false := by
    obtain ⟨n', rfl⟩ : ∃ n', n = n' + 1 := ⟨n - 1, by omega⟩
    rfl
  have hmk : mdMarker (some (List.replicate n c)) (ensureNl code) = List.replicate n c := by
    simp only [mdMarker, hne, hcl, Bool.or_false, Bool.false_eq_true, if_false]
  refine ⟨hmk, ?_⟩
  unfold writtenFence
  rw [hmk, replicate_headD c n (by omega), List.length_replicate]

/-- otherwise (some line of the code closes the recorded fence) the fence is computed as for a token without marker -/
theorem written_eq_computed (c : Char) (n : Nat) (code : Str) (hc : c = '`' ∨ c = '~') (hn : 3 ≤ n)
    (l : Str) (hl : l ∈ splitNl code) (hcl : isCloser c n l = true) :
    mdMarker (some (List.replicate n c)) (ensureNl code) = getFencedMarker code ∧
      writtenFence (some (List.replicate n c)) code = (fenceChar code, fenceLen code) := by
  have hfc : isFenceCh c = true := by rcases hc with rfl | rfl <;> decide
  have hcf : closesFence (List.replicate n c) (ensureNl code) = true := by
    cases h : closesFence (List.replicate n c) (ensureNl code) with
    | true => rfl
    | false =>
      have := (closers_ensureNl c n code (by omega)).mp ((closesFence_false_iff c n _ hfc (by omega)).mp h) l hl
      rw [hcl] at this; cases this
  have hmk : mdMarker (some (List.replicate n c)) (ensureNl code) = getFencedMarker code := by
    simp only [mdMarker, hcf, Bool.or_true, if_true]
    exact getFencedMarker_ensureNl code
  refine ⟨hmk, ?_⟩
  unfold writtenFence fenceChar fenceLen
  rw [hmk]

/-- the written marker is a fence that no line of the (newline-terminated) code closes, whatever the token records -/
theorem written_fence_ok (marker? : Option Str) (code : Str)
    (hm : marker? = none ∨ ∃ c n, marker? = some (List.replicate n c) ∧ (c = '`' ∨ c = '~') ∧ 3 ≤ n) :
    mdMarker marker? (ensureNl code) =
        List.replicate (writtenFence marker? code).2 (writtenFence marker? code).1 ∧
      isFenceCh (writtenFence marker? code).1 = true ∧ 3 ≤ (writtenFence marker? code).2 ∧
      ∀ l ∈ splitNl (ensureNl code),
        isCloser (writtenFence marker? code).1 (writtenFence marker? code).2 l = false := by
  have hcomputed : mdMarker marker? (ensureNl code) = getFencedMarker code →
      writtenFence marker? code = (fenceChar code, fenceLen code) →
      mdMarker marker? (ensureNl code) =
          List.replicate (writtenFence marker? code).2 (writtenFence marker? code).1 ∧
        isFenceCh (writtenFence marker? code).1 = true ∧ 3 ≤ (writtenFence marker? code).2 ∧
        ∀ l ∈ splitNl (ensureNl code),
          isCloser (writtenFence marker? code).1 (writtenFence marker? code).2 l = false := by
    intro h1 h2
    rw [h1, h2]
    refine ⟨(marker_shape code).1, fenceChar_isFenceCh code, (marker_shape code).2.2, ?_⟩
    exact (closers_ensureNl _ _ code (by have := (marker_shape code).2.2; omega)).mpr (marker_not_closable code)
  rcases hm with rfl | ⟨c, n, rfl, hc, hn⟩
  · exact hcomputed (mdMarker_none code) (writtenFence_none code)
  · by_cases hex : ∀ l ∈ splitNl code, isCloser c n l = false
    · obtain ⟨h1, h2⟩ := written_eq_recorded c n code hc hn hex
      rw [h1, h2]
      refine ⟨rfl, by rcases hc with rfl | rfl <;> rfl, hn, ?_⟩
      exact (closers_ensureNl c n code (by omega)).mpr hex
    · have : ∃ l, l ∈ splitNl code ∧ isCloser c n l = true := by
        apply Classical.byContradiction
        intro hne
        apply hex
        intro l hl
        cases h : isCloser c n l with
        | false => rfl
        | true => exact absurd ⟨l, hl, h⟩ hne
      obtain ⟨l, hl, hcl⟩ := this
      obtain ⟨h1, h2⟩ := written_eq_computed c n code hc hn l hl hcl
      exact hcomputed h1 h2

/-- **Round trip, any token.** For a token without marker, or with a marker of the shape the block parser records
(`n ≥ 3` back-ticks or tildes): whatever `code`, `info`, `pre`, `post` are, `parse_fenced_code`'s body computation,
started on the line after the opening fence with the fence `(c', n')` actually written, returns exactly the code (with
the final newline the renderer adds) and stops just after the closing fence line. -/
theorem md_block_code_roundtrip_any (marker? : Option Str) (pre post info code : Str) (cursorMax : Nat)
    (hm : marker? = none ∨ ∃ c n, marker? = some (List.replicate n c) ∧ (c = '`' ∨ c = '~') ∧ 3 ≤ n) :
    let c' := (writtenFence marker? code).1
    let n' := (writtenFence marker? code).2
    let code' := ensureNl code
    let s := pre ++ mdBlockCode marker? info code ++ post
    let start := pre.length + n' + info.length + 1
    fencedBody (Py.ctxOf s) cursorMax c' n' 0 start = (code', start + code'.length + n' + 1) := by
  intro c' n' code' s start
  obtain ⟨hmk, hfc, hn3, hno⟩ := written_fence_ok marker? code hm
  have := fence_roundtrip c' n' pre post info code' cursorMax hfc (by omega) (ensureNl_terminated code) hno
  simp only [s, mdBlockCode_eq, hmk]
  exact this

/-- the corner `code = ""`: the block is `marker + info + "\n" + marker + "\n\n"` with the default marker, and the
body is empty -/
theorem md_block_code_empty (info : Str) :
    mdBlockCode none info [] = "```".toList ++ info ++ "\n```\n\n".toList := by
  rw [mdBlockCode_none]
  simp [show getFencedMarker [] = "```".toList by decide, show ensureNl [] = [] from rfl]

/-! ### concrete inputs -/

/-- four blanks: not a run -/
example : fenceRuns "    x".toList = [] ∧ getFencedMarker "    x".toList = "```".toList := by decide +kernel

example : fenceRuns "    ```".toList = [] ∧ getFencedMarker "    ```".toList = "```".toList := by decide +kernel

/-- only back-tick runs: tildes -/
example : fenceRuns "```\nx".toList = ["```".toList] ∧ getFencedMarker "```\nx".toList = "~~~".toList := by decide +kernel

/-- both kinds: one back-tick more than the longest back-tick run (the closer-like line ```` ```` ```` has four) -/
example : fenceRuns " ~~~\n```` \n".toList = ["~~~".toList, "````".toList] ∧
    getFencedMarker " ~~~\n```` \n".toList = "`````".toList := by decide +kernel

example : fenceRuns "`\n~~~".toList = ["`".toList, "~~~".toList] ∧
    getFencedMarker "`\n~~~".toList = "```".toList := by decide +kernel

/-- a mixed run counts with its whole length under its first character -/
example : fenceRuns "`~`\n".toList = ["`~`".toList] ∧ getFencedMarker "`~`\n".toList = "~~~".toList := by decide +kernel

example : mdBlockCode none "py".toList "```\nx".toList = "~~~py\n```\nx\n~~~\n\n".toList := by decide +kernel

example : mdBlockCode none [] [] = "```\n```\n\n".toList := by decide +kernel

/-- the round trip on `" ~~~\n```` \n"` (fence of five back-ticks), evaluated and as an instance of the theorem -/
example :
    fencedBody (Py.ctxOf ("a\n".toList ++ mdBlockCode none "py".toList " ~~~\n```` \n".toList ++ "rest".toList)) 99
      '`' 5 0 10 = (" ~~~\n```` \n".toList, 27) := by decide +kernel

example :
    fencedBody (Py.ctxOf ("a\n".toList ++ mdBlockCode none "py".toList " ~~~\n```` \n".toList ++ "rest".toList)) 99
      '`' 5 0 10 = (" ~~~\n```` \n".toList, 27) :=
  md_block_code_roundtrip "a\n".toList "rest".toList "py".toList " ~~~\n```` \n".toList 99

/-- the corner: empty code -/
example : fencedBody (Py.ctxOf (mdBlockCode none "py".toList [] ++ "rest".toList)) 99 '`' 3 0 6 = ([], 10) :=
  md_block_code_roundtrip [] "rest".toList "py".toList [] 99

/-! ### a marker taken from the token (`marker? = some m`)

The block parser stores the marker of every fenced block.  The code of a fence indented by `k ≥ 1` blanks is stripped
of up to `k` blanks per line, which can turn a line with four leading blanks (not a closing line) into one with three
(a closing line).  Source `" ~~~\n    ~~~\n ~~~\n"`: parsed code `"   ~~~\n"` with marker `"~~~"`.  A renderer
that tested `if not marker:` only would write `"~~~\n   ~~~\n~~~\n\n"`, whose body parses as empty (third conjunct).
With `_closes_fence` the recorded marker is dropped here, the computed one (three back-ticks) is written, and the block
round-trips. -/

example :
    fencedBody (Py.ctxOf " ~~~\n    ~~~\n ~~~\n".toList) 18 '~' 3 1 5 = ("   ~~~\n".toList, 18) ∧
    closesFence "~~~".toList "   ~~~\n".toList = true ∧
    fencedBody (Py.ctxOf "~~~\n   ~~~\n~~~\n\n".toList) 16 '~' 3 0 4 = ([], 11) ∧
    mdBlockCode (some "~~~".toList) [] "   ~~~\n".toList = "```\n   ~~~\n```\n\n".toList ∧
    writtenFence (some "~~~".toList) "   ~~~\n".toList = ('`', 3) ∧
    fencedBody (Py.ctxOf "```\n   ~~~\n```\n\n".toList) 16 '`' 3 0 4 = ("   ~~~\n".toList, 15) := by decide +kernel

/-- the same round trip as an instance of the theorem -/
example :
    fencedBody (Py.ctxOf (mdBlockCode (some "~~~".toList) [] "   ~~~\n".toList)) 16 '`' 3 0 4 =
      ("   ~~~\n".toList, 15) :=
  md_block_code_roundtrip_any (some (List.replicate 3 '~')) [] [] [] "   ~~~\n".toList 16
    (Or.inr ⟨'~', 3, rfl, Or.inr rfl, by decide⟩)

/-- a recorded fence of four tildes around the code `"~~~\n"` is kept (three tildes do not close four) -/
example :
    closesFence "~~~~".toList "~~~\n".toList = false ∧
    mdBlockCode (some "~~~~".toList) "py".toList "~~~\n".toList = "~~~~py\n~~~\n~~~~\n\n".toList ∧
    writtenFence (some "~~~~".toList) "~~~\n".toList = ('~', 4) ∧
    fencedBody (Py.ctxOf "~~~~py\n~~~\n~~~~\n\n".toList) 17 '~' 4 0 7 = ("~~~\n".toList, 16) := by decide +kernel

example : writtenFence (some "~~~~".toList) "~~~\n".toList = ('~', 4) :=
  (written_eq_recorded '~' 4 "~~~\n".toList (Or.inr rfl) (by decide) (by decide)).2

/-- the final newline is added before the test: a last line without newline can close the recorded fence as well -/
example : mdBlockCode (some "```".toList) [] "  ```".toList = "~~~\n  ```\n~~~\n\n".toList := by decide +kernel

/-- an empty recorded marker is treated as a missing one -/
example : mdBlockCode (some []) [] "x".toList = mdBlockCode none [] "x".toList := by decide +kernel

end Mistune
