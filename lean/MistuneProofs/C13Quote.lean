/-
C13 / C04 — the Markdown renderer's block quote and the parser's quote extraction are inverse on canonical content.

* `mdBlockQuote` (Mistune/MdBlocks.lean) is the list-level transcription of `MarkdownRenderer.block_quote`
  (`textwrap.indent` with the always-true predicate, the `split("\n")` / `pop()` loop that trims the trailing empty quote
  lines, `+ "\n\n"`), tied to the method by the driver op `md_block_quote` (harness/props/c13.py, `quote_tie`).
* `md_block_quote_lines`: an exact characterisation of what the method writes on newline-terminated lines.
* `blockQuoteRule_matchAt_hit`: the block rule `block_quote` fires on a line `>content`.
* `md_block_quote_extract` / `md_block_quote_roundtrip`: on that output, followed by arbitrary text that does not start
  with a further blank line, `extract_block_quote` returns exactly the lines the renderer was given (minus the trailing
  empty quote lines it dropped), the quote is ended by the `blank_line` rule on the renderer's blank line, and
  `parse_block_quote` parses exactly that text as the children.
* `NotSpoiler` / `parseMethod_quote`: the plugin `spoiler` rebinds the handler of `block_quote`; under `NotSpoiler` (plugin not
  installed, or nested quote, or the text does not match `_BLOCK_SPOILER_MATCH`; `notSpoiler_of_first`: decided by the first
  character) `parse_method` computes `parse_block_quote`.
* `md_block_quote_step`: one iteration of `BlockParser.parse` consumes exactly what the renderer wrote (`quoteRules_ok`: no
  rule tried before `block_quote` can start with `>`).
* `md_block_quote_extract_eos` / `md_block_quote_step_eos` / `md_quote_only_parse` / `md_block_quote_nested`: the quote that
  ends its subject (the child text of an enclosing quote), and two levels of nesting (`> > x`).
-/
import Mistune.MdBlocks
import MistuneProofs.C11Quote
import MistuneProofs.C04LeafDoc
namespace Mistune
open Mistune.Model Mistune.Model.Blk Mistune.Generated
/-- the text made of the lines `ls`, each newline-terminated -/
def linesNl (ls : List Str) : Str := (ls.map (· ++ ['\n'])).flatten

theorem linesNl_cons (l : Str) (ls : List Str) : linesNl (l :: ls) = l ++ '\n' :: linesNl ls := by
  simp [linesNl]

theorem linesNl_append (a b : List Str) : linesNl (a ++ b) = linesNl a ++ linesNl b := by
  simp [linesNl]

/-- no character of the line is a line boundary of `str.splitlines` -/
def NoBreak (l : Str) : Prop := ∀ c ∈ l, Py.isLineBreak c = false

instance (l : Str) : Decidable (NoBreak l) := by unfold NoBreak; infer_instance

theorem NoBreak.no_nl {l : Str} (h : NoBreak l) : '\n' ∉ l := fun hm => by
  have := h _ hm; revert this; decide

theorem splitLinesKeep_nl (r : Str) : splitLinesKeep ('\n' :: r) = ['\n'] :: splitLinesKeep r := by
  rw [splitLinesKeep]
  · simp [Py.isLineBreak]
  · intro r' e; cases e

theorem splitLinesKeep_other (c : Char) (r : Str) (h : Py.isLineBreak c = false) :
    splitLinesKeep (c :: r) = (c :: (splitLinesKeep r).headD []) :: (splitLinesKeep r).tail := by
  rw [splitLinesKeep]
  · simp only [h]
    cases splitLinesKeep r <;> simp
  · intro r' e
    subst e
    exact absurd h (by decide)

theorem splitLinesKeep_line (l rest : Str) (h : NoBreak l) :
    splitLinesKeep (l ++ '\n' :: rest) = (l ++ ['\n']) :: splitLinesKeep rest := by
  induction l with
  | nil => exact splitLinesKeep_nl rest
  | cons c l ih =>
    rw [List.cons_append, splitLinesKeep_other c _ (h c (by simp)), ih (fun d hd => h d (by simp [hd]))]
    rfl

theorem splitLinesKeep_lines (ls : List Str) (h : ∀ l ∈ ls, NoBreak l) :
    splitLinesKeep (linesNl ls) = ls.map (· ++ ['\n']) := by
  induction ls with
  | nil => rfl
  | cons l ls ih =>
    rw [linesNl_cons, splitLinesKeep_line l _ (h l (by simp)), ih (fun m hm => h m (by simp [hm]))]
    rfl

/-- **`textwrap.indent` with the always-true predicate on newline-terminated lines without exotic separators**: every
line gets the prefix. -/
theorem indentAll_lines (p : Str) (ls : List Str) (h : ∀ l ∈ ls, NoBreak l) :
    indentAll p (linesNl ls) = linesNl (ls.map (p ++ ·)) := by
  unfold indentAll
  rw [splitLinesKeep_lines ls h]
  simp [linesNl, List.map_map, Function.comp_def]

theorem lineSplit_ne_nil (s : Str) : lineSplit s ≠ [] := by
  rw [lineSplit_eq_splitNl]
  exact splitNl_ne_nil s

theorem lineSplit_lines (ls : List Str) (h : ∀ l ∈ ls, '\n' ∉ l) : lineSplit (linesNl ls) = ls ++ [[]] := by
  rw [lineSplit_eq_splitNl]
  exact splitNl_lines ls h

theorem join_nl_lines (ls : List Str) (hne : ls ≠ []) : Py.join ['\n'] ls ++ ['\n'] = linesNl ls :=
  (flatten_lines_eq_join ls hne).symm

/-- the line consists of `>` and blanks only (what `not line.strip("> ")` tests) -/
def QuoteBlank (l : Str) : Prop := ∀ c ∈ l, c = '>' ∨ c = ' '

instance (l : Str) : Decidable (QuoteBlank l) := by unfold QuoteBlank; infer_instance

theorem quoteBlankLine_iff (l : Str) : quoteBlankLine l = true ↔ QuoteBlank l := by
  have hP : ∀ c : Char, (['>', ' '].contains c) = true ↔ (c = '>' ∨ c = ' ') := by
    intro c; simp
  unfold quoteBlankLine Py.stripC Py.rstripC Py.lstripC QuoteBlank
  rw [List.isEmpty_iff, List.reverse_eq_nil_iff, dropWhile_nil_iff]
  constructor
  · intro h
    cases hd : List.dropWhile (fun c => ['>', ' '].contains c) l with
    | nil =>
      intro c hc
      exact (hP c).mp ((dropWhile_nil_iff _ l).mp hd c hc)
    | cons a t =>
      exfalso
      have h1 := head?_dropWhile_ne _ l a (by rw [hd]; rfl)
      have h2 := h a (by rw [hd]; simp)
      rw [h1] at h2; cases h2
  · intro h c hc
    have hc' : c ∈ l := (List.dropWhile_sublist _).subset (by simpa using hc)
    exact (hP c).mpr (h c hc')

theorem QuoteBlank.noBreak {l : Str} (h : QuoteBlank l) : NoBreak l := by
  intro c hc
  rcases h c hc with rfl | rfl <;> decide

theorem quoteBlank_prefix (l : Str) : QuoteBlank (['>', ' '] ++ l) ↔ QuoteBlank l := by
  simp [QuoteBlank]

/-- the `while … pop()` loop: the trailing lines made of `>` and blanks go, the last content line stays -/
theorem popQuoteBlank_lines (ms bs : List Str) (z : Str) (hz : ¬ QuoteBlank z) (hbs : ∀ b ∈ bs, QuoteBlank b) :
    popQuoteBlank (ms ++ z :: bs) = ms ++ [z] := by
  unfold popQuoteBlank
  have hrev : (ms ++ z :: bs).reverse = bs.reverse ++ z :: ms.reverse := by simp
  rw [hrev, List.dropWhile_append_of_pos (fun x hx => (quoteBlankLine_iff x).mpr (hbs x (by simpa using hx))),
    List.dropWhile_cons, if_neg (fun h => hz ((quoteBlankLine_iff z).mp h))]
  simp

/-- **`md_block_quote_lines`: what `MarkdownRenderer.block_quote` writes, exactly.**  The rendered children are the
newline-terminated lines `ls`, then `z` (the last content line: it has a character other than `>` and blank), then
the lines `bs` made of `>` and blanks only (in particular the empty lines every rendered block ends with); no line
contains a line boundary of `str.splitlines` (`\n`, `\r`, `\v`, `\f`, `\x1c`–`\x1e`, `\x85`, `\u2028`, `\u2029`).  Then the
method writes `"> " ++ l ++ "\n"` for every line `l` of `ls ++ [z]` — the lines `bs` are dropped — followed by one empty
line. -/
theorem md_block_quote_lines (ls bs : List Str) (z : Str) (hls : ∀ l ∈ ls, NoBreak l) (hz : NoBreak z)
    (hzb : ¬ QuoteBlank z) (hbs : ∀ b ∈ bs, QuoteBlank b) :
    mdBlockQuote (linesNl (ls ++ z :: bs)) = linesNl ((ls ++ [z]).map (['>', ' '] ++ ·)) ++ ['\n'] := by
  have hall : ∀ l ∈ ls ++ z :: bs, NoBreak l :=
    List.forall_mem_append.mpr ⟨hls, List.forall_mem_cons.mpr ⟨hz, fun b hb => (hbs b hb).noBreak⟩⟩
  have hnl : ∀ l ∈ (ls ++ z :: bs).map (['>', ' '] ++ ·), '\n' ∉ l :=
    List.forall_mem_map.mpr fun m hm => by simpa using (hall m hm).no_nl
  unfold mdBlockQuote
  simp only []
  rw [indentAll_lines _ _ hall, lineSplit_lines _ hnl, List.map_append, List.map_cons, List.append_assoc,
    List.cons_append,
    popQuoteBlank_lines _ _ _ (fun h => hzb ((quoteBlank_prefix z).mp h))
      (List.forall_mem_append.mpr ⟨List.forall_mem_map.mpr fun m hm => (quoteBlank_prefix m).mpr (hbs m hm),
        List.forall_mem_singleton.mpr fun c hc => by cases hc⟩),
    show ['\n', '\n'] = ['\n'] ++ ['\n'] from rfl, ← List.append_assoc, join_nl_lines _ (by simp)]
  simp

/-! ### the block rule `block_quote` fires on `>content` -/

/-- the match of the block rule on the line `>content` at `p` -/
def quoteMatch (p : Nat) (content : Str) : RxMatch :=
  { start := p, stop := p + 1 + content.length, caps := [(1, (p + 1, p + 1 + content.length))] }

/-- **The rule `block_quote` fires on every line that starts with `>`** (no indentation, as the renderer writes it): at a
line start, on `>content` followed by a newline or the end of the subject, the match ends at the end of the line and
`quote_1` is `content`. -/
theorem blockQuoteRule_matchAt_hit (pre content tl : Str) (hbol : pre = [] ∨ pre.getLast? = some '\n')
    (hnl : '\n' ∉ content) (htl : tl = [] ∨ ∃ v, tl = '\n' :: v) :
    blockQuoteRuleExpected.matchAt (Py.ctxOf (pre ++ '>' :: content ++ tl)) pre.length =
      some (quoteMatch pre.length content) := by
  generalize hS : pre ++ '>' :: content ++ tl = S
  have hle : pre.length + 1 ≤ S.length := by rw [← hS]; simp
  have hd : S.drop pre.length = [] ++ '>' :: (content ++ tl) := by rw [← hS]; simp
  obtain ⟨h1, h2, hd2⟩ := reaches_blanks_gt (some 3) [] hd (Nat.le_of_succ_le hle) (fun _ h => by cases h) (fun m hm => by cases hm; simp)
  have hb : bolAt S pre.length := by rw [← hS, List.append_assoc]; exact (bolAt_append_length _ _).mpr hbol
  exact (reaches_seq (reaches_bol [] hb) (reaches_seq h1 (reaches_seq h2
    (reaches_lazy_eol 1 [] hd2 hle hnl htl)))).matchAt

/-- `quote_1` of that match is `content` -/
theorem quoteMatch_grp (cfg : MdCfg) (hg : cfg.groups = Generated.groupIndex) (st : BlockState) (pre content tl : Str)
    (hx : st.x = Py.ctxOf (pre ++ '>' :: content ++ tl)) :
    grp cfg st (quoteMatch pre.length content) "quote_1" = content := by
  rw [grp_quote1 cfg hg st _ hx]
  simp [RxMatch.group, quoteMatch, Caps.get]

/-! ### the round trip -/

/-- a content line of a canonical quote: no newline, and it does not start with (0–3 blanks) tab (the tab after `> ` would
be expanded by the parser) -/
def PlainLine (l : Str) : Prop := '\n' ∉ l ∧ ¬ TabHead l

/-- the lines `ls`, each written as `"> " ++ l ++ "\n"` -/
def quoteLines (ls : List Str) : Str := linesNl (ls.map (['>', ' '] ++ ·))

theorem quoteLines_cons (l0 : Str) (ls : List Str) :
    quoteLines (l0 :: ls) = '>' :: ' ' :: l0 ++ ['\n'] ++ ((ls.map (fun l => (([] : Str), l))).map markLine).flatten := by
  simp [quoteLines, linesNl, markLine, List.map_map, Function.comp_def]

theorem linesNl_concat (ls : List Str) (hne : ls ≠ []) : ∃ X, linesNl ls = X ++ ['\n'] := by
  rcases List.eq_nil_or_concat ls with rfl | ⟨init, z, rfl⟩
  · exact absurd rfl hne
  · exact ⟨linesNl init ++ z, by simp [linesNl]⟩

theorem not_quoteHead_nl (rest : Str) : ¬ QuoteHead ('\n' :: rest) := by
  rw [quoteHead_iff]
  simp [spRun]

/-- a canonical quote `> l0⏎> l1⏎…` in the terms of `extractBlockQuote_verbatim_eos` / `_break`: the text up to the end of
its first line, and the marked forms of the other lines; `quoteMatch before.length (' ' :: l0)` is the match of the rule
on the first line -/
theorem quoteLines_canon (cfg : MdCfg) (hg : cfg.groups = Generated.groupIndex) (st : BlockState) (before l0 : Str)
    (ls : List Str) (tail : Str) (hx : st.x = Py.ctxOf (before ++ quoteLines (l0 :: ls) ++ tail))
    (hls : ∀ l ∈ ls, PlainLine l) :
    ∃ (pre : Str) (segs : List (Str × Str)), before ++ quoteLines (l0 :: ls) = pre ++ (segs.map markLine).flatten ∧
      (∀ p ∈ segs, PlainSeg p) ∧
      (quoteMatch before.length (' ' :: l0)).stop + 1 = pre.length ∧
      grp cfg st (quoteMatch before.length (' ' :: l0)) "quote_1" = ' ' :: l0 ∧ segs.map (·.2) = ls := by
  refine ⟨before ++ '>' :: ' ' :: l0 ++ ['\n'], ls.map (fun l => ([], l)), by rw [quoteLines_cons]; simp,
    List.forall_mem_map.mpr fun l hl => ⟨by simp, by simp, (hls l hl).1, (hls l hl).2⟩, ?_, ?_,
    by simp [List.map_map, Function.comp_def]⟩
  · simp only [quoteMatch, List.length_append, List.length_cons, List.length_nil]; omega
  · apply quoteMatch_grp cfg hg st before (' ' :: l0) ('\n' :: (quoteLines ls ++ tail))
    rw [hx]; simp [quoteLines, linesNl]

/-- **`md_block_quote_extract`: `extract_block_quote` inverts the renderer.**  The subject is `before`,
then the canonical quote `> l0⏎> l1⏎…> ln⏎`, then the empty line the renderer writes, then `rest`, which does not
start with a further blank line (`BlankStop`: it is empty or starts with a character other than blank, tab, `\v`, `\f`,
newline).  The handler is given the match of the block rule on the first line (`quoteMatch`, `blockQuoteRule_matchAt_hit`).
The content lines
have no newline and no tab in their indentation (`PlainLine`: the hypothesis `¬ TabHead` of `cleanQuote_verbatim`); the
first one is not blank, indented code or a fence (`hreq`: otherwise `require_marker` is set), the last one is not blank
(`hbl`, about `ls` only: `prev_blank_line`).  Then the extracted child text is exactly `l0⏎l1⏎…ln⏎`; the quote is ended
by the rule `blank_line` matching the renderer's empty line: `end_pos` is the position just after that line, and the state
has the cursor at the start of that line and one more token, `blank_line`. -/
theorem md_block_quote_extract (cfg : MdCfg) (hcfg : cfg.named = Generated.namedRx)
    (hg : cfg.groups = Generated.groupIndex) (pm : ParseMethod)
    (hpm : ∀ m s, pm "blank_line" m s = parseBlankLine m s)
    (st : BlockState) (before rest l0 : Str) (ls : List Str) (sc breakTail : List (String × Rx))
    (hx : st.x = Py.ctxOf (before ++ quoteLines (l0 :: ls) ++ '\n' :: rest))
    (hmax : st.cursorMax = (before ++ quoteLines (l0 :: ls) ++ '\n' :: rest).length)
    (hl0 : PlainLine l0) (hls : ∀ l ∈ ls, PlainLine l)
    (hsc : compileSc cfg ["blank_line", "indent_code", "fenced_code"] = .ok sc)
    (hreq : (scMatch (Py.ctxOf (l0 ++ ['\n'])) sc 0).isSome = false)
    (hbsc : compileSc cfg ["blank_line", "thematic_break", "fenced_code", "list", "block_html"] =
      .ok (("blank_line", blankRuleRx) :: breakTail))
    (hbl : (!ls.isEmpty && blankEnd cfg (linesNl ls)) = false)
    (hrest : BlankStop rest) :
    extractBlockQuote cfg pm (quoteMatch before.length (' ' :: l0)) st =
      .ok (linesNl (l0 :: ls), some (before.length + (quoteLines (l0 :: ls)).length + 1),
        ({ st with cursor := before.length + (quoteLines (l0 :: ls)).length } : BlockState).appendToken
          (tok "blank_line" [])) := by
  obtain ⟨pre, segs, hA, hseg, hmt, hq1, hsegs⟩ := quoteLines_canon cfg hg st before l0 ls _ hx hls
  have hP : pre.length + (segs.map markLine).flatten.length = before.length + (quoteLines (l0 :: ls)).length := by
    rw [← List.length_append, ← hA, List.length_append]
  rw [hA] at hx hmax
  -- the renderer's empty line is matched by `blank_line`
  have hbolA : pre ++ (segs.map markLine).flatten = [] ∨ (pre ++ (segs.map markLine).flatten).getLast? = some '\n' := by
    right
    obtain ⟨X, hX⟩ := linesNl_concat ((l0 :: ls).map (['>', ' '] ++ ·)) (by simp)
    rw [← hA, quoteLines, hX, ← List.append_assoc]
    simp
  have hblank := blankRule_matchAt_hit (pre ++ (segs.map markLine).flatten) rest hbolA hrest
  have hbr : scMatch st.x (("blank_line", blankRuleRx) :: breakTail) (pre.length + (segs.map markLine).flatten.length) =
      some ("blank_line", blankMatch (pre.length + (segs.map markLine).flatten.length)) := by
    unfold scMatch
    rw [hx, ctxOf_n, Nat.min_eq_left (by simp only [List.length_append]; omega), scanAt]
    rw [show pre ++ (segs.map markLine).flatten ++ '\n' :: rest = pre ++ (segs.map markLine).flatten ++ ['\n'] ++ rest by simp,
      show pre.length + (segs.map markLine).flatten.length = (pre ++ (segs.map markLine).flatten).length by simp, hblank]
  have := extractBlockQuote_verbatim_break cfg hcfg pm (quoteMatch before.length (' ' :: l0)) st pre ('\n' :: rest) l0
    segs sc (("blank_line", blankRuleRx) :: breakTail) hx hmt hmax hq1 ⟨hl0.2, hl0.1⟩ hsc hreq
    hbsc hseg (not_quoteHead_nl rest) (by simp)
    (by rw [← hsegs] at hbl; simpa [linesNl, List.map_map, Function.comp_def] using hbl) "blank_line"
    (blankMatch (pre.length + (segs.map markLine).flatten.length))
    (some (pre.length + (segs.map markLine).flatten.length + 1))
    (({ st with cursor := pre.length + (segs.map markLine).flatten.length } : BlockState).appendToken
      (tok "blank_line" []))
    hbr (by rw [hpm, parseBlankLine_eq]; rfl) rfl
  rw [this, hsegs, hP]
  rfl

/-- `md_block_quote_lines` with the content lines given as one list `L` whose last line is not made of `>` and blanks only -/
theorem md_block_quote_lines_last (L bs : List Str) (hL : ∀ l ∈ L, NoBreak l)
    (hlast : ∃ z, L.getLast? = some z ∧ ¬ QuoteBlank z) (hbs : ∀ b ∈ bs, QuoteBlank b) :
    mdBlockQuote (linesNl (L ++ bs)) = quoteLines L ++ ['\n'] := by
  obtain ⟨z, hz, hzb⟩ := hlast
  obtain ⟨init, rfl⟩ := List.getLast?_eq_some_iff.mp hz
  rw [List.append_assoc, List.singleton_append,
    md_block_quote_lines init bs z (fun l hl => hL l (by simp [hl])) (hL z (by simp)) hzb hbs]
  rfl

/-- **Obligation:** in every regenerated configuration the scanner of the rules that may end a quote starts with the
rule `blank_line`, which is the expected regex. -/
theorem quoteBreakSc_ok : ∀ c ∈ allCfgs,
    (match compileSc (ofRuleCfg c) ["blank_line", "thematic_break", "fenced_code", "list", "block_html"] with
      | .ok ((n, r) :: _) => n == "blank_line" && r == blankRuleRx
      | _ => false) = true := by decide +kernel

theorem quoteBreakSc_of (c : RuleCfg) (hc : c ∈ allCfgs) : ∃ breakTail,
    compileSc (ofRuleCfg c) ["blank_line", "thematic_break", "fenced_code", "list", "block_html"] =
      .ok (("blank_line", blankRuleRx) :: breakTail) := by
  have := quoteBreakSc_ok c hc
  split at this
  · rename_i n r tl heq
    simp only [Bool.and_eq_true, beq_iff_eq] at this
    exact ⟨tl, by rw [heq, this.1, this.2]⟩
  · cases this

/-- **`md_block_quote_roundtrip`.**  `c` is any regenerated configuration, the handlers are the real ones
(`parseMethod`).  The subject is `before` (ending a line), then what `MarkdownRenderer.block_quote` writes for the rendered
children `l0⏎l1⏎…ln⏎` followed by the lines `bs` made of `>` and blanks only (the empty lines every rendered block ends
with), then `rest` (not starting with a blank line).  Hypotheses on the content: no line has a line boundary of
`str.splitlines` (`NoBreak`) nor a tab in its indentation (`PlainLine`), the last is not made of `>` and blanks only
(`hlast`) and not blank (`hbl`), the first is not blank / indented code / a fence (`hreq`).  Then

* the block rule `block_quote` matches at the start of what the renderer wrote;
* `extract_block_quote` returns exactly `l0⏎l1⏎…ln⏎` — the rendered children without the trailing lines `bs` the renderer
  dropped — and the end position is exactly the end of what the renderer wrote (its final empty line included, consumed
  by the rule `blank_line`, whose token is appended);
* hence `parse_block_quote` parses exactly that text as the children (`child` is the result of the child parse on the
  child state whose source is `l0⏎…ln⏎`), inserts the `block_quote` token before the `blank_line` token and continues
  at the end of what the renderer wrote. -/
theorem md_block_quote_roundtrip (c : RuleCfg) (hc : c ∈ allCfgs) (pmFuel : Nat) (st : BlockState)
    (before rest l0 : Str) (ls bs : List Str) (sc : List (String × Rx))
    (hx : st.x = Py.ctxOf (before ++ mdBlockQuote (linesNl (l0 :: ls ++ bs)) ++ rest))
    (hmax : st.cursorMax = (before ++ mdBlockQuote (linesNl (l0 :: ls ++ bs)) ++ rest).length)
    (hbol : before = [] ∨ before.getLast? = some '\n')
    (hnb : ∀ l ∈ l0 :: ls, NoBreak l) (hl0 : ¬ TabHead l0) (hls : ∀ l ∈ ls, ¬ TabHead l)
    (hlast : ∃ z, (l0 :: ls).getLast? = some z ∧ ¬ QuoteBlank z) (hbs : ∀ b ∈ bs, QuoteBlank b)
    (hsc : compileSc (ofRuleCfg c) ["blank_line", "indent_code", "fenced_code"] = .ok sc)
    (hreq : (scMatch (Py.ctxOf (l0 ++ ['\n'])) sc 0).isSome = false)
    (hbl : (!ls.isEmpty && blankEnd (ofRuleCfg c) (linesNl ls)) = false)
    (hrest : BlankStop rest) :
    let out := mdBlockQuote (linesNl (l0 :: ls ++ bs))
    let mt := quoteMatch before.length (' ' :: l0)
    let st1 := ({ st with cursor := before.length + out.length - 1 } : BlockState).appendToken (tok "blank_line" [])
    out = quoteLines (l0 :: ls) ++ ['\n'] ∧
    scanAt st.x ((ofRuleCfg c).blockSc ["block_quote"]) before.length = some ("block_quote", mt) ∧
    extractBlockQuote (ofRuleCfg c) (parseMethod (ofRuleCfg c) (pmFuel + 1)) mt st =
      .ok (linesNl (l0 :: ls), some (before.length + out.length), st1) ∧
    ∀ child, parse (ofRuleCfg c) (parseMethod (ofRuleCfg c) (pmFuel + 1)) (st1.childState (linesNl (l0 :: ls)))
        (some (if st1.depth + 1 ≥ (ofRuleCfg c).maxNested then withoutContainers (ofRuleCfg c).quoteRules
          else (ofRuleCfg c).quoteRules)) = .ok child →
      parseBlockQuote (ofRuleCfg c) (parseMethod (ofRuleCfg c) (pmFuel + 1)) mt st =
        .ok (some (before.length + out.length),
          { st1 with env := child.env,
                     tokens := st.tokens ++ [tok "block_quote" [("children", .arr child.tokens)], tok "blank_line" []] }) := by
  intro out mt st1
  have hout : out = quoteLines (l0 :: ls) ++ ['\n'] := by
    show mdBlockQuote (linesNl (l0 :: ls ++ bs)) = _
    rw [show l0 :: ls ++ bs = (l0 :: ls) ++ bs from rfl]
    exact md_block_quote_lines_last (l0 :: ls) bs hnb hlast hbs
  have hS : before ++ out ++ rest = before ++ quoteLines (l0 :: ls) ++ '\n' :: rest := by rw [hout]; simp
  have hx' : st.x = Py.ctxOf (before ++ quoteLines (l0 :: ls) ++ '\n' :: rest) := by rw [← hS]; exact hx
  have hmax' : st.cursorMax = (before ++ quoteLines (l0 :: ls) ++ '\n' :: rest).length := by rw [← hS]; exact hmax
  have hlen : out.length = (quoteLines (l0 :: ls)).length + 1 := by rw [hout]; simp
  obtain ⟨breakTail, hbsc⟩ := quoteBreakSc_of c hc
  have hext := md_block_quote_extract (ofRuleCfg c) rfl rfl (parseMethod (ofRuleCfg c) (pmFuel + 1)) (fun _ _ => rfl) st
    before rest l0 ls sc breakTail hx' hmax' ⟨(hnb l0 (by simp)).no_nl, hl0⟩
    (fun l hl => ⟨(hnb l (by simp [hl])).no_nl, hls l hl⟩) hsc hreq hbsc hbl hrest
  have hst1 : st1 = ({ st with cursor := before.length + (quoteLines (l0 :: ls)).length } : BlockState).appendToken
      (tok "blank_line" []) := by
    show ({ st with cursor := before.length + out.length - 1 } : BlockState).appendToken _ = _
    rw [hlen]; rfl
  have hE : before.length + out.length = before.length + (quoteLines (l0 :: ls)).length + 1 := by rw [hlen]; omega
  refine ⟨hout, ?_, ?_, ?_⟩
  · -- the rule fires
    have hl : (ofRuleCfg c).blockSpec.lookup "block_quote" = some blockQuoteRuleExpected := blockQuoteRule_lookup c hc
    simp only [MdCfg.blockSc, List.filterMap_cons, List.filterMap_nil, hl, Option.map_some, scanAt]
    have hsub : before ++ quoteLines (l0 :: ls) ++ '\n' :: rest =
        before ++ '>' :: (' ' :: l0) ++ ('\n' :: (quoteLines ls ++ '\n' :: rest)) := by
      simp [quoteLines, linesNl]
    rw [hx', hsub, blockQuoteRule_matchAt_hit before (' ' :: l0) _ hbol
      (by simpa using (hnb l0 (by simp)).no_nl) (Or.inr ⟨_, rfl⟩)]
  · rw [hext, hst1, hE]
  · intro child hchild
    rw [hst1] at hchild
    have := parseBlockQuote_of (ofRuleCfg c) (parseMethod (ofRuleCfg c) (pmFuel + 1)) mt st _ _ _ child hext hchild
    rw [this, hst1, hE]
    simp [truthyPos, listInsert, BlockState.appendToken]

/-! ### the handler bound to `block_quote` (the plugin `spoiler` rebinds it) -/

/-- the handler bound to the rule `block_quote` treats the extracted `text` as an ordinary quote: either the plugin
`spoiler` is not installed (`parse_block_quote` is bound), or `parse_block_spoiler` is bound and does not see a spoiler
(the quote is nested, or `_BLOCK_SPOILER_MATCH` — every line starts with (0–3 blanks) `!` — does not match `text`).
Decidable on instances. -/
def NotSpoiler (cfg : MdCfg) (depth : Nat) (text : Str) : Prop :=
  spoilerActive cfg = false ∨
    (depth == 0 && (Py.matchAt (cfg.rx "mistune.plugins.spoiler._BLOCK_SPOILER_MATCH") (Py.ctxOf text) 0).isSome) = false

instance (cfg : MdCfg) (depth : Nat) (text : Str) : Decidable (NotSpoiler cfg depth text) := by
  unfold NotSpoiler; infer_instance

theorem endsWith_nl (X : Str) : Py.endsWith (X ++ ['\n']) ['\n'] = true := by
  simp [Py.endsWith, Py.startsWith]

/-- `parse_block_spoiler` on a quote that is not a spoiler is `parse_block_quote` -/
theorem parseBlockSpoiler_eq_quote (cfg : MdCfg) (pm : ParseMethod) (mt : RxMatch) (st : BlockState) (X : Str)
    (endPos : Option Nat) (st1 : BlockState)
    (hext : extractBlockQuote cfg pm mt st = .ok (X ++ ['\n'], endPos, st1))
    (hno : (st1.depth == 0 &&
      (Py.matchAt (cfg.rx "mistune.plugins.spoiler._BLOCK_SPOILER_MATCH") (Py.ctxOf (X ++ ['\n'])) 0).isSome) = false) :
    parseBlockSpoiler cfg pm mt st = parseBlockQuote cfg pm mt st := by
  unfold parseBlockSpoiler parseBlockQuote
  simp only [hext, ok_eq_pure, pure_bind, endsWith_nl, if_true, hno, Bool.false_eq_true, if_false]

/-- **the dispatch on `block_quote`**: under `NotSpoiler` (for the text the extraction returns, at the depth of the
state it returns) `parse_method` runs `parse_block_quote` -/
theorem parseMethod_quote (cfg : MdCfg) (f : Nat) (mt : RxMatch) (st : BlockState) (X : Str)
    (endPos : Option Nat) (st1 : BlockState)
    (hext : extractBlockQuote cfg (parseMethod cfg f) mt st = .ok (X ++ ['\n'], endPos, st1))
    (hsp : NotSpoiler cfg st1.depth (X ++ ['\n'])) :
    parseMethod cfg (f + 1) "block_quote" mt st = parseBlockQuote cfg (parseMethod cfg f) mt st := by
  show (if spoilerActive cfg then parseBlockSpoiler cfg (parseMethod cfg f) mt st
    else parseBlockQuote cfg (parseMethod cfg f) mt st) = _
  rcases hsp with h | h
  · rw [h]; rfl
  · split
    · exact parseBlockSpoiler_eq_quote cfg _ mt st X endPos st1 hext h
    · rfl

/-- a nested quote is never a spoiler -/
theorem notSpoiler_nested (cfg : MdCfg) (d : Nat) (text : Str) : NotSpoiler cfg (d + 1) text := by
  right; simp

/-- `re.compile(r"^( {0,3}![^\n]*\n)+$")` -/
def spoilerMatchRxExpected : Rx :=
  .seq .bos (.seq (.rep (.grp 1 (.seq (.rep (.cls false [.chr 32]) 0 (some 3) true) (.seq (.cls false [.chr 33])
    (.seq (.rep (.cls true [.chr 10]) 0 none true) (.cls false [.chr 10]))))) 1 none true) .eos)

/-- **Obligation:** the regenerated `mistune.plugins.spoiler._BLOCK_SPOILER_MATCH` is the expected term. -/
theorem spoilerMatchRx_lookup :
    namedRx.lookup "mistune.plugins.spoiler._BLOCK_SPOILER_MATCH" = some spoilerMatchRxExpected := by
  decide +kernel

/-- `NotSpoiler` with the regex looked up -/
theorem notSpoiler_rx (cfg : MdCfg) (hcfg : cfg.named = Generated.namedRx) (depth : Nat) (text : Str) :
    NotSpoiler cfg depth text ↔ spoilerActive cfg = false ∨
      (depth == 0 && (Py.matchAt spoilerMatchRxExpected (Py.ctxOf text) 0).isSome) = false := by
  unfold NotSpoiler
  rw [rx_of_lookup cfg _ _ (hcfg ▸ spoilerMatchRx_lookup)]

/-- **`NotSpoiler` from the first character**: if `_BLOCK_SPOILER_MATCH` (which does not match the empty string) cannot
start with the first character of the text (a decidable fact about the character: every character except blank and
`!`) -/
theorem notSpoiler_of_first (cfg : MdCfg) (hcfg : cfg.named = Generated.namedRx) (depth : Nat) (a : Char) (more : Str)
    (hf : spoilerMatchRxExpected.firstOk pyCats a.toNat = false) : NotSpoiler cfg depth (a :: more) := by
  rw [notSpoiler_rx cfg hcfg]
  right
  have : Py.matchAt spoilerMatchRxExpected (Py.ctxOf (a :: more)) 0 = none := by
    unfold Py.matchAt
    rw [Nat.zero_min]
    exact firstOk_none _ (a :: more) 0 a rfl (by decide) hf
  rw [this]; simp

/-- a quote whose first content line is itself a quote line is not a spoiler, in every regenerated configuration -/
theorem notSpoiler_gt (c : RuleCfg) (depth : Nat) (more : Str) : NotSpoiler (ofRuleCfg c) depth ('>' :: more) :=
  notSpoiler_of_first (ofRuleCfg c) rfl depth '>' more (by decide)

/-- **which regenerated configurations bind `parse_block_quote` itself**: all but the nine with the plugin `spoiler` -/
theorem spoilerActive_cfgs : ∀ c ∈ allCfgs, spoilerActive (ofRuleCfg c) =
    decide (c.name ∈ ["all", "all-speedup", "all-fenced", "all-rst", "all-tochook", "all-fenced-colon", "ast-all",
      "only-spoiler", "all-noescape-hardwrap"]) := by decide +kernel

/-! ### one iteration of `BlockParser.parse` on a rendered quote -/

/-- the rules tried before `block_quote` cannot start with `>` (and `block_quote` is the expected regex) -/
def quoteOk : List (String × Rx) → Bool
  | [] => false
  | (n, r) :: rest =>
    if n == "block_quote" then r == blockQuoteRuleExpected
    else decide (1 ≤ r.minLen) && !r.firstOk pyCats '>'.toNat && quoteOk rest

theorem quoteOk_split : ∀ (sc : List (String × Rx)), quoteOk sc = true →
    ∃ bf after, sc = bf ++ ("block_quote", blockQuoteRuleExpected) :: after ∧
      bf.all (fun p => decide (1 ≤ p.2.minLen) && !p.2.firstOk pyCats '>'.toNat) = true := by
  intro sc
  induction sc with
  | nil => intro h; cases h
  | cons p rest ih =>
    obtain ⟨n, r⟩ := p
    intro h
    unfold quoteOk at h
    split at h
    · rename_i hn
      refine ⟨[], rest, ?_, rfl⟩
      simp only [beq_iff_eq] at hn h
      rw [hn, h]; rfl
    · simp only [Bool.and_eq_true] at h
      obtain ⟨bf, after, e, hb⟩ := ih h.2
      refine ⟨(n, r) :: bf, after, by rw [e]; rfl, ?_⟩
      simp only [List.all_cons, Bool.and_eq_true]
      exact ⟨h.1, hb⟩

/-- **Obligation:** in every regenerated configuration, in the top-level rule list and in the rule list used inside
quotes, no rule tried before `block_quote` can start with `>`. -/
theorem quoteRules_ok : ∀ c ∈ allCfgs,
    (match compileSc (ofRuleCfg c) (ofRuleCfg c).blockRules with
      | .ok sc => quoteOk sc
      | _ => false) = true ∧
    (match compileSc (ofRuleCfg c) (ofRuleCfg c).quoteRules with
      | .ok sc => quoteOk sc
      | _ => false) = true := by decide +kernel

/-- in a rule list in which nothing tried before `block_quote` can start with `>`, the scanner reports `block_quote`
at the start of a line `>content` -/
theorem scanAt_quote (rules : List (String × Rx)) (hrules : quoteOk rules = true) (before content tl : Str)
    (hbol : before = [] ∨ before.getLast? = some '\n') (hnl : '\n' ∉ content) (htl : tl = [] ∨ ∃ v, tl = '\n' :: v) :
    scanAt (Py.ctxOf (before ++ '>' :: content ++ tl)) rules before.length =
      some ("block_quote", quoteMatch before.length content) := by
  obtain ⟨bf, after, rfl, hb⟩ := quoteOk_split rules hrules
  rw [scanAt_skip bf _ _ _ '>' (by simp) hb]
  simp only [scanAt, blockQuoteRule_matchAt_hit before content tl hbol hnl htl]

/-- **`md_block_quote_step`: one iteration of the `while` loop of `BlockParser.parse` consumes exactly what
`MarkdownRenderer.block_quote` wrote.**  Hypotheses as in `md_block_quote_roundtrip`; `rules` is a compiled rule list in
which nothing before `block_quote` can start with `>` (`quoteRules_ok`: the top-level list and the list used inside
quotes of every regenerated configuration), the cursor is at the start of the rendered quote, and the child parse of the
text `l0⏎…ln⏎` succeeds with `child`.  Then the iteration appends the token `block_quote` whose children are
`child.tokens`, then the `blank_line` token of the renderer's empty line, and continues at the end of what the renderer
wrote.  The loop runs under `parseMethod … (pmFuel + 2)` and the child parse under `parseMethod … (pmFuel + 1)`:
`parseMethod cfg (f + 1)` hands `parseMethod cfg f` to the handlers for their own calls of `parse`. -/
theorem md_block_quote_step (c : RuleCfg) (hc : c ∈ allCfgs) (rules : List (String × Rx)) (hrules : quoteOk rules = true)
    (pmFuel fuel : Nat) (st : BlockState)
    (before rest l0 : Str) (ls bs : List Str) (sc : List (String × Rx))
    (hx : st.x = Py.ctxOf (before ++ mdBlockQuote (linesNl (l0 :: ls ++ bs)) ++ rest))
    (hmax : st.cursorMax = (before ++ mdBlockQuote (linesNl (l0 :: ls ++ bs)) ++ rest).length)
    (hcur : st.cursor = before.length)
    (hbol : before = [] ∨ before.getLast? = some '\n')
    (hnb : ∀ l ∈ l0 :: ls, NoBreak l) (hl0 : ¬ TabHead l0) (hls : ∀ l ∈ ls, ¬ TabHead l)
    (hlast : ∃ z, (l0 :: ls).getLast? = some z ∧ ¬ QuoteBlank z) (hbs : ∀ b ∈ bs, QuoteBlank b)
    (hsc : compileSc (ofRuleCfg c) ["blank_line", "indent_code", "fenced_code"] = .ok sc)
    (hreq : (scMatch (Py.ctxOf (l0 ++ ['\n'])) sc 0).isSome = false)
    (hbl : (!ls.isEmpty && blankEnd (ofRuleCfg c) (linesNl ls)) = false)
    (hrest : BlankStop rest) (hsp : NotSpoiler (ofRuleCfg c) st.depth (linesNl (l0 :: ls))) (child : BlockState)
    (hchild : parse (ofRuleCfg c) (parseMethod (ofRuleCfg c) (pmFuel + 1))
      ((({ st with cursor := before.length + (mdBlockQuote (linesNl (l0 :: ls ++ bs))).length - 1 } :
          BlockState).appendToken (tok "blank_line" [])).childState (linesNl (l0 :: ls)))
      (some (if st.depth + 1 ≥ (ofRuleCfg c).maxNested then withoutContainers (ofRuleCfg c).quoteRules
        else (ofRuleCfg c).quoteRules)) = .ok child) :
    parseLoop (ofRuleCfg c) (parseMethod (ofRuleCfg c) (pmFuel + 2)) rules (fuel + 1) st =
      parseLoop (ofRuleCfg c) (parseMethod (ofRuleCfg c) (pmFuel + 2)) rules fuel
        { st with env := child.env,
                  tokens := st.tokens ++ [tok "block_quote" [("children", .arr child.tokens)], tok "blank_line" []],
                  cursor := before.length + (mdBlockQuote (linesNl (l0 :: ls ++ bs))).length } := by
  obtain ⟨hout, _, hext, hparse⟩ := md_block_quote_roundtrip c hc pmFuel st before rest l0 ls bs sc hx hmax hbol hnb
    hl0 hls hlast hbs hsc hreq hbl hrest
  have hparse := hparse child hchild
  obtain ⟨X, hX⟩ := linesNl_concat (l0 :: ls) (by simp)
  rw [hX] at hext hsp
  have hlen : (mdBlockQuote (linesNl (l0 :: ls ++ bs))).length = (quoteLines (l0 :: ls)).length + 1 := by
    rw [hout]; simp
  have hsub : before ++ mdBlockQuote (linesNl (l0 :: ls ++ bs)) ++ rest =
      before ++ '>' :: (' ' :: l0) ++ ('\n' :: (quoteLines ls ++ '\n' :: rest)) := by
    rw [hout]; simp [quoteLines, linesNl]
  have hscan := scanAt_quote rules hrules before (' ' :: l0) ('\n' :: (quoteLines ls ++ '\n' :: rest)) hbol
    (by simpa using (hnb l0 (by simp)).no_nl) (Or.inr ⟨_, rfl⟩)
  rw [← hsub] at hscan
  rw [parseLoop_step_at _ _ rules fuel st _ before.length "block_quote" (quoteMatch before.length (' ' :: l0))
    (before.length + (quoteLines (l0 :: ls)).length) _ hx hcur hmax (by simp only [List.length_append]; omega) hscan rfl
    (by rw [parseMethod_quote (ofRuleCfg c) (pmFuel + 1) _ st X _ _ hext hsp, hparse, hlen]; rfl), hlen]
  rfl

/-! ### `require_marker` decided by the first character of the first content line -/

/-- **`require_marker` from the first character.**  If none of the rules of `sc` (`blank_line`, `indent_code`,
`fenced_code`) can start with the character `a` (a decidable fact about the regenerated regexes and `a`), then on every
line that starts with `a` the scanner of `extract_block_quote` does not match: `require_marker` is `False`. -/
theorem reqMarker_false_of_first (sc : List (String × Rx)) (a : Char) (more : Str)
    (hall : sc.all (fun p => decide (1 ≤ p.2.minLen) && !p.2.firstOk pyCats a.toNat) = true) :
    (scMatch (Py.ctxOf (a :: more ++ ['\n'])) sc 0).isSome = false := by
  unfold scMatch
  rw [Nat.zero_min]
  have := scanAt_skip sc [] (a :: more ++ ['\n']) 0 a rfl hall
  rw [List.append_nil] at this
  rw [this]
  rfl

/-- **Obligation:** in every regenerated configuration none of `blank_line`, `indent_code`, `fenced_code` can start with
`>`: a content line that is itself a quote line never sets `require_marker`. -/
theorem quoteReqSc_gt_ok : ∀ c ∈ allCfgs,
    (match compileSc (ofRuleCfg c) ["blank_line", "indent_code", "fenced_code"] with
      | .ok sc => sc.all (fun p => decide (1 ≤ p.2.minLen) && !p.2.firstOk pyCats '>'.toNat)
      | _ => false) = true := by decide +kernel

/-- the same for a letter (`x`), as an instance of what the hypothesis looks like on ordinary text -/
example : quoteExSc.all (fun p => decide (1 ≤ p.2.minLen) && !p.2.firstOk pyCats 'x'.toNat) = true := by decide +kernel
example : (scMatch (Py.ctxOf ('x' :: "yz".toList ++ ['\n'])) quoteExSc 0).isSome = false :=
  reqMarker_false_of_first quoteExSc 'x' "yz".toList (by decide +kernel)

/-! ### the quote at the end of the subject (the child text of an outer quote: the renderer's empty line was dropped) -/

/-- **`md_block_quote_extract_eos`**: as `md_block_quote_extract`, when the subject ends with the last quote line (this is
what the child parse of an enclosing quote sees: the enclosing `block_quote` dropped the empty line).  The child text is
`l0⏎…ln⏎`, there is no end position (`None`: the handler then returns the cursor), the cursor is at the end. -/
theorem md_block_quote_extract_eos (cfg : MdCfg) (hcfg : cfg.named = Generated.namedRx)
    (hg : cfg.groups = Generated.groupIndex) (pm : ParseMethod)
    (st : BlockState) (before l0 : Str) (ls : List Str) (sc breakSc : List (String × Rx))
    (hx : st.x = Py.ctxOf (before ++ quoteLines (l0 :: ls)))
    (hmax : st.cursorMax = (before ++ quoteLines (l0 :: ls)).length)
    (hl0 : PlainLine l0) (hls : ∀ l ∈ ls, PlainLine l)
    (hsc : compileSc cfg ["blank_line", "indent_code", "fenced_code"] = .ok sc)
    (hreq : (scMatch (Py.ctxOf (l0 ++ ['\n'])) sc 0).isSome = false)
    (hbsc : compileSc cfg ["blank_line", "thematic_break", "fenced_code", "list", "block_html"] = .ok breakSc) :
    extractBlockQuote cfg pm (quoteMatch before.length (' ' :: l0)) st =
      .ok (linesNl (l0 :: ls), none, { st with cursor := before.length + (quoteLines (l0 :: ls)).length }) := by
  obtain ⟨pre, segs, hA, hseg, hmt, hq1, hsegs⟩ :=
    quoteLines_canon cfg hg st before l0 ls [] (by rw [List.append_nil]; exact hx) hls
  have hP : pre.length + (segs.map markLine).flatten.length = before.length + (quoteLines (l0 :: ls)).length := by
    rw [← List.length_append, ← hA, List.length_append]
  rw [hA] at hx hmax
  rw [extractBlockQuote_verbatim_eos cfg hcfg pm (quoteMatch before.length (' ' :: l0)) st pre l0 segs sc breakSc
    hx hmt hmax hq1 ⟨hl0.2, hl0.1⟩ hsc hreq hbsc hseg, hsegs, hP]
  rfl

/-! ### nesting: the child parse of a quote whose only child is a quote; two levels -/

/-- **`md_block_quote_step_eos`: one iteration of `BlockParser.parse` on a canonical quote that ends the subject** (the
child text of an enclosing quote).  The iteration appends the token `block_quote` whose children are the tokens of the
child parse of `l0⏎…ln⏎`, and the cursor reaches the end of the subject. -/
theorem md_block_quote_step_eos (c : RuleCfg) (hc : c ∈ allCfgs) (rules : List (String × Rx))
    (hrules : quoteOk rules = true) (pmFuel fuel : Nat) (st : BlockState) (before l0 : Str) (ls : List Str)
    (sc : List (String × Rx))
    (hx : st.x = Py.ctxOf (before ++ quoteLines (l0 :: ls)))
    (hmax : st.cursorMax = (before ++ quoteLines (l0 :: ls)).length)
    (hcur : st.cursor = before.length) (hbol : before = [] ∨ before.getLast? = some '\n')
    (hl0 : PlainLine l0) (hls : ∀ l ∈ ls, PlainLine l)
    (hsc : compileSc (ofRuleCfg c) ["blank_line", "indent_code", "fenced_code"] = .ok sc)
    (hreq : (scMatch (Py.ctxOf (l0 ++ ['\n'])) sc 0).isSome = false)
    (hsp : NotSpoiler (ofRuleCfg c) st.depth (linesNl (l0 :: ls))) (child : BlockState)
    (hchild : parse (ofRuleCfg c) (parseMethod (ofRuleCfg c) pmFuel)
      (({ st with cursor := before.length + (quoteLines (l0 :: ls)).length } : BlockState).childState (linesNl (l0 :: ls)))
      (some (if st.depth + 1 ≥ (ofRuleCfg c).maxNested then withoutContainers (ofRuleCfg c).quoteRules
        else (ofRuleCfg c).quoteRules)) = .ok child) :
    parseLoop (ofRuleCfg c) (parseMethod (ofRuleCfg c) (pmFuel + 1)) rules (fuel + 1) st =
      parseLoop (ofRuleCfg c) (parseMethod (ofRuleCfg c) (pmFuel + 1)) rules fuel
        { st with env := child.env,
                  tokens := st.tokens ++ [tok "block_quote" [("children", .arr child.tokens)]],
                  cursor := before.length + (quoteLines (l0 :: ls)).length } := by
  obtain ⟨breakSc, hbsc⟩ := quoteBreakSc_of c hc
  have hext := md_block_quote_extract_eos (ofRuleCfg c) rfl rfl (parseMethod (ofRuleCfg c) pmFuel) st before l0 ls sc _
    hx hmax hl0 hls hsc hreq hbsc
  obtain ⟨X, hX⟩ := linesNl_concat (l0 :: ls) (by simp)
  have hext' := hext
  rw [hX] at hext' hsp
  have hparse := parseBlockQuote_of (ofRuleCfg c) (parseMethod (ofRuleCfg c) pmFuel) _ st _ _ _ child hext hchild
  have hsub : before ++ quoteLines (l0 :: ls) = before ++ '>' :: (' ' :: l0) ++ ('\n' :: quoteLines ls) := by
    simp [quoteLines, linesNl]
  have hlen : 3 ≤ (quoteLines (l0 :: ls)).length := by
    simp [quoteLines, linesNl]; omega
  have hE : before.length + (quoteLines (l0 :: ls)).length - 1 + 1 = before.length + (quoteLines (l0 :: ls)).length := by
    omega
  have hscan := scanAt_quote rules hrules before (' ' :: l0) ('\n' :: quoteLines ls) hbol (by simpa using hl0.1)
    (Or.inr ⟨_, rfl⟩)
  rw [← hsub] at hscan
  rw [parseLoop_step_at _ _ rules fuel st _ before.length "block_quote" (quoteMatch before.length (' ' :: l0))
    (before.length + (quoteLines (l0 :: ls)).length - 1) _ hx hcur hmax (by simp only [List.length_append]; omega) hscan rfl
    (by rw [parseMethod_quote (ofRuleCfg c) pmFuel _ st X _ _ hext' hsp, hparse, hE]
        simp only [truthyPos, Bool.false_eq_true, if_false]
        rfl), hE]
  rfl

theorem quoteRulesSc_of (c : RuleCfg) (hc : c ∈ allCfgs) :
    ∃ scQ, compileSc (ofRuleCfg c) (ofRuleCfg c).quoteRules = .ok scQ ∧ quoteOk scQ = true := by
  have := (quoteRules_ok c hc).2
  split at this
  · rename_i scQ heq; exact ⟨scQ, heq, this⟩
  · cases this

/-- **`md_quote_only_parse`: `BlockParser.parse` (with the rules used inside quotes) on a text that is exactly one
canonical quote `> l0⏎…> ln⏎`** — what the child parse of an enclosing quote is given when the enclosed quote is its only
child — returns exactly one token `block_quote`, whose children are the tokens of the parse of `l0⏎…ln⏎`. -/
theorem md_quote_only_parse (c : RuleCfg) (hc : c ∈ allCfgs) (pmFuel : Nat) (cs : BlockState) (l0 : Str) (ls : List Str)
    (sc : List (String × Rx))
    (hx : cs.x = Py.ctxOf (quoteLines (l0 :: ls))) (hmax : cs.cursorMax = (quoteLines (l0 :: ls)).length)
    (hcur : cs.cursor = 0) (hl0 : PlainLine l0) (hls : ∀ l ∈ ls, PlainLine l)
    (hsc : compileSc (ofRuleCfg c) ["blank_line", "indent_code", "fenced_code"] = .ok sc)
    (hreq : (scMatch (Py.ctxOf (l0 ++ ['\n'])) sc 0).isSome = false)
    (hsp : NotSpoiler (ofRuleCfg c) cs.depth (linesNl (l0 :: ls))) (child : BlockState)
    (hchild : parse (ofRuleCfg c) (parseMethod (ofRuleCfg c) pmFuel)
      (({ cs with cursor := (quoteLines (l0 :: ls)).length } : BlockState).childState (linesNl (l0 :: ls)))
      (some (if cs.depth + 1 ≥ (ofRuleCfg c).maxNested then withoutContainers (ofRuleCfg c).quoteRules
        else (ofRuleCfg c).quoteRules)) = .ok child) :
    parse (ofRuleCfg c) (parseMethod (ofRuleCfg c) (pmFuel + 1)) cs (some (ofRuleCfg c).quoteRules) =
      .ok { cs with env := child.env,
                    tokens := cs.tokens ++ [tok "block_quote" [("children", .arr child.tokens)]],
                    cursor := (quoteLines (l0 :: ls)).length } := by
  obtain ⟨scQ, hcomp, hq⟩ := quoteRulesSc_of c hc
  have hstep := md_block_quote_step_eos c hc scQ hq pmFuel cs.cursorMax cs [] l0 ls sc hx hmax hcur (Or.inl rfl) hl0 hls
    hsc hreq hsp child (by simpa using hchild)
  unfold parse
  simp only [Option.getD_some, hcomp, bind, Except.bind]
  rw [hstep, parseLoop_done _ _ _ _ _ (by simp [hmax])]
  simp [hmax, pure, Except.pure]

theorem not_tabHead_gt (l : Str) : ¬ TabHead (['>', ' '] ++ l) := by
  rw [tabHead_iff]
  simp [spRun]

theorem noBreak_gt {l : Str} (h : NoBreak l) : NoBreak (['>', ' '] ++ l) :=
  List.forall_mem_cons.mpr ⟨by decide, List.forall_mem_cons.mpr ⟨by decide, h⟩⟩

/-- **`md_block_quote_nested`: two levels, `> > x`.**  The children of the outer quote are one quote, whose rendered
children are `m0⏎…mn⏎` followed by the lines `bs2` of `>` and blanks; the subject is `before`, what
`MarkdownRenderer.block_quote` writes for the outer quote (i.e. `block_quote` applied to the output of `block_quote`), and
`rest`.  Below the nesting limit (`hdepth`), one iteration of `BlockParser.parse` appends a `block_quote` token whose only
child is a `block_quote` token whose children are the tokens of the parse of exactly `m0⏎…mn⏎` (`child2`, parsed in a
state two levels below `st`), then the `blank_line` token, and continues at the end of what the renderer wrote. -/
theorem md_block_quote_nested (c : RuleCfg) (hc : c ∈ allCfgs) (rules : List (String × Rx)) (hrules : quoteOk rules = true)
    (pmFuel fuel : Nat) (st : BlockState) (before rest m0 : Str) (ms bs2 : List Str) (sc : List (String × Rx))
    (hx : st.x = Py.ctxOf (before ++ mdBlockQuote (mdBlockQuote (linesNl (m0 :: ms ++ bs2))) ++ rest))
    (hmax : st.cursorMax = (before ++ mdBlockQuote (mdBlockQuote (linesNl (m0 :: ms ++ bs2))) ++ rest).length)
    (hcur : st.cursor = before.length) (hbol : before = [] ∨ before.getLast? = some '\n')
    (hnb : ∀ l ∈ m0 :: ms, NoBreak l) (hm0 : ¬ TabHead m0) (hms : ∀ l ∈ ms, ¬ TabHead l)
    (hlast : ∃ z, (m0 :: ms).getLast? = some z ∧ ¬ QuoteBlank z) (hbs2 : ∀ b ∈ bs2, QuoteBlank b)
    (hsc : compileSc (ofRuleCfg c) ["blank_line", "indent_code", "fenced_code"] = .ok sc)
    (hreq : (scMatch (Py.ctxOf (m0 ++ ['\n'])) sc 0).isSome = false)
    (hbl : (!ms.isEmpty && blankEnd (ofRuleCfg c) (linesNl (ms.map (['>', ' '] ++ ·)))) = false)
    (hrest : BlankStop rest) (hdepth : st.depth + 1 < (ofRuleCfg c).maxNested) (child2 : BlockState)
    (hchild2 : parse (ofRuleCfg c) (parseMethod (ofRuleCfg c) pmFuel)
      ((st.childState []).childState (linesNl (m0 :: ms)))
      (some (if st.depth + 1 + 1 ≥ (ofRuleCfg c).maxNested then withoutContainers (ofRuleCfg c).quoteRules
        else (ofRuleCfg c).quoteRules)) = .ok child2) :
    parseLoop (ofRuleCfg c) (parseMethod (ofRuleCfg c) (pmFuel + 2)) rules (fuel + 1) st =
      parseLoop (ofRuleCfg c) (parseMethod (ofRuleCfg c) (pmFuel + 2)) rules fuel
        { st with env := child2.env,
                  tokens := st.tokens ++
                    [tok "block_quote" [("children", .arr [tok "block_quote" [("children", .arr child2.tokens)]])],
                     tok "blank_line" []],
                  cursor := before.length + (mdBlockQuote (mdBlockQuote (linesNl (m0 :: ms ++ bs2)))).length } := by
  -- the inner quote as written: the lines `> m`, then one empty line
  have hK : mdBlockQuote (linesNl (m0 :: ms ++ bs2)) =
      linesNl ((['>', ' '] ++ m0) :: ms.map (['>', ' '] ++ ·) ++ [[]]) := by
    rw [show m0 :: ms ++ bs2 = (m0 :: ms) ++ bs2 from rfl, md_block_quote_lines_last (m0 :: ms) bs2 hnb hlast hbs2,
      show (['>', ' '] ++ m0) :: ms.map (['>', ' '] ++ ·) ++ [[]] = (m0 :: ms).map (['>', ' '] ++ ·) ++ [[]] from rfl,
      linesNl_append]
    rfl
  rw [hK] at hx hmax ⊢
  have hsc' : (scMatch (Py.ctxOf ((['>', ' '] ++ m0) ++ ['\n'])) sc 0).isSome = false := by
    have := quoteReqSc_gt_ok c hc
    rw [hsc] at this
    exact reqMarker_false_of_first sc '>' (' ' :: m0) this
  have hnot : ¬ (st.depth + 1 ≥ (ofRuleCfg c).maxNested) := by omega
  -- the child parse of the outer quote: its text is exactly the inner quote
  have hinner := md_quote_only_parse c hc pmFuel
    ((({ st with cursor := before.length +
        (mdBlockQuote (linesNl ((['>', ' '] ++ m0) :: ms.map (['>', ' '] ++ ·) ++ [[]]))).length - 1 } :
          BlockState).appendToken (tok "blank_line" [])).childState (quoteLines (m0 :: ms)))
    m0 ms sc rfl rfl rfl ⟨(hnb m0 (by simp)).no_nl, hm0⟩ (fun l hl => ⟨(hnb l (by simp [hl])).no_nl, hms l hl⟩) hsc hreq
    (notSpoiler_nested (ofRuleCfg c) st.depth _) child2 hchild2
  have := md_block_quote_step c hc rules hrules pmFuel fuel st before rest (['>', ' '] ++ m0) (ms.map (['>', ' '] ++ ·))
    [[]] sc hx hmax hcur hbol
    ((List.forall_mem_map (f := (['>', ' '] ++ ·)) (l := m0 :: ms)).mpr fun m hm => noBreak_gt (hnb m hm))
    (not_tabHead_gt m0) (List.forall_mem_map.mpr fun m _ => not_tabHead_gt m)
    (by
      obtain ⟨z, hz, hzb⟩ := hlast
      refine ⟨['>', ' '] ++ z, ?_, fun h => hzb ((quoteBlank_prefix z).mp h)⟩
      rw [show (['>', ' '] ++ m0) :: ms.map (['>', ' '] ++ ·) = (m0 :: ms).map (['>', ' '] ++ ·) from rfl,
        List.getLast?_map, hz]
      rfl)
    (List.forall_mem_singleton.mpr fun ch hch => by cases hch)
    hsc hsc' (by simpa using hbl) hrest (by rw [linesNl_cons]; exact notSpoiler_gt c _ _) _
    (by rw [if_neg hnot]; exact hinner)
  rw [this]
  rfl

/-! ### Examples: non-vacuity, and what happens outside the hypotheses -/

section Examples

/-- `md_block_quote_lines` instantiated: content lines `foo`, (empty), `> bar`, `baz`, then two lines the renderer drops -/
example : mdBlockQuote "foo\n\n> bar\nbaz\n\n> \n".toList = "> foo\n> \n> > bar\n> baz\n\n".toList :=
  md_block_quote_lines ["foo".toList, [], "> bar".toList] [[], "> ".toList] "baz".toList (by decide +kernel) (by decide +kernel)
    (by decide +kernel) (by decide +kernel)

/-- the empty quote -/
example : mdBlockQuote [] = "\n\n".toList := by decide +kernel
/-- a last line without final newline is written the same way -/
example : mdBlockQuote "foo\nbar".toList = "> foo\n> bar\n\n".toList := by decide +kernel

/-- **the hypothesis `NoBreak` is necessary**: `textwrap.indent` works on `str.splitlines(True)`, so a form feed (or `\v`,
`\x1c`–`\x1e`, `\x85`, `\u2028`, `\u2029`, a lone `\r`) inside a line is followed by another `> `, which the parser does not
remove: the content `a\x0cb` is written `> a\x0c> b` and re-read as `a\x0c> b`. -/
example : mdBlockQuote "a\x0cb\n".toList = "> a\x0c> b\n\n".toList := by decide +kernel
example : ¬ NoBreak "a\x0cb".toList := by decide +kernel
example : mdBlockQuote "a\u2028b\n".toList = "> a\u2028> b\n\n".toList := by decide +kernel

/-- **the hypothesis on the last line is necessary**: a last content line made of `>` and blanks is dropped with the
empty lines (the children `foo⏎>⏎` — a quote whose last child is an empty quote — lose it) -/
example : mdBlockQuote "foo\n>\n\n".toList = "> foo\n\n".toList := by decide +kernel

/-- the rule on the engine: `> foo` at position 4 of `bar⏎> foo⏎> x⏎` -/
example : blockQuoteRuleExpected.matchAt (Py.ctxOf ("bar\n".toList ++ '>' :: " foo".toList ++ "\n> x\n".toList)) 4 =
    some { start := 4, stop := 9, caps := [(1, (5, 9))] } :=
  blockQuoteRule_matchAt_hit "bar\n".toList " foo".toList "\n> x\n".toList (by decide +kernel) (by decide +kernel) (Or.inr ⟨_, rfl⟩)

/-- the document of the example below: a heading line, then the quote as the renderer writes it, then a paragraph -/
def exQuoteDoc : Str := "# t\n".toList ++ mdBlockQuote (linesNl ("foo  bar".toList :: ["".toList, "> x".toList] ++ [[], []])) ++
  "next\n".toList

example : exQuoteDoc = "# t\n> foo  bar\n> \n> > x\n\nnext\n".toList := by decide +kernel

/-- **non-vacuity of `md_block_quote_roundtrip`** (core configuration): the rendered children are `foo  bar⏎⏎> x⏎⏎⏎`
(a paragraph and a nested quote); the rule fires at 4, the extracted child text is `foo  bar⏎⏎> x⏎`, the end position
25 is the end of the renderer's output -/
example :=
  md_block_quote_roundtrip cfg_core cfg_core_mem 2 (BlockState.root exQuoteDoc) "# t\n".toList "next\n".toList
    "foo  bar".toList ["".toList, "> x".toList] [[], []] quoteExSc rfl rfl (by decide +kernel) (by decide +kernel) (by decide +kernel) (by decide +kernel)
    ⟨"> x".toList, rfl, by decide +kernel⟩ (by decide +kernel) rfl (by decide +kernel) (by rw [blankEnd_rx _ rfl]; decide +kernel)
    (Or.inr ⟨'n', "ext\n".toList, rfl, by decide +kernel, by decide +kernel⟩)

/-- the values in that instance -/
example : linesNl ("foo  bar".toList :: ["".toList, "> x".toList]) = "foo  bar\n\n> x\n".toList := by decide +kernel
example : "# t\n".toList.length +
    (mdBlockQuote (linesNl ("foo  bar".toList :: ["".toList, "> x".toList] ++ [[], []]))).length = 25 := by decide +kernel

/-- the child parse of that example succeeds (so the last part of the theorem applies to it) -/
example : (parse exCfg (parseMethod exCfg 3)
    ((({ BlockState.root exQuoteDoc with cursor := 24 } : BlockState).appendToken (tok "blank_line" [])).childState
      "foo  bar\n\n> x\n".toList) (some exCfg.quoteRules)).toBool = true := by decide +kernel

/-- the document `> > x⏎⏎next⏎`, as `block_quote` applied twice writes it -/
example : mdBlockQuote (mdBlockQuote (linesNl ("x".toList :: [] ++ [[], []]))) ++ "next\n".toList =
    "> > x\n\nnext\n".toList := by decide +kernel

/-- **non-vacuity of `md_block_quote_nested`** (core configuration, top-level rules, root state): on `> > x⏎⏎next⏎` the
first iteration of `BlockParser.parse` appends the nested `block_quote` tokens and the `blank_line` token -/
example (rules : List (String × Rx)) (hr : compileSc exCfg exCfg.blockRules = .ok rules) (fuel : Nat) :
    ∃ child2, parse exCfg (parseMethod exCfg 1)
        (((BlockState.root ([] ++ mdBlockQuote (mdBlockQuote (linesNl ("x".toList :: [] ++ [[], []]))) ++
          "next\n".toList)).childState []).childState (linesNl ["x".toList])) (some exCfg.quoteRules) = .ok child2 ∧
      parseLoop exCfg (parseMethod exCfg 3) rules (fuel + 1)
          (BlockState.root ([] ++ mdBlockQuote (mdBlockQuote (linesNl ("x".toList :: [] ++ [[], []]))) ++ "next\n".toList)) =
        parseLoop exCfg (parseMethod exCfg 3) rules fuel
          { BlockState.root ([] ++ mdBlockQuote (mdBlockQuote (linesNl ("x".toList :: [] ++ [[], []]))) ++
              "next\n".toList) with
            env := child2.env,
            tokens := [] ++
              [tok "block_quote" [("children", .arr [tok "block_quote" [("children", .arr child2.tokens)]])],
               tok "blank_line" []],
            cursor := ([] : Str).length + (mdBlockQuote (mdBlockQuote (linesNl ("x".toList :: [] ++ [[], []])))).length } := by
  have hrules : quoteOk rules = true := by
    have := (quoteRules_ok cfg_core cfg_core_mem).1
    rw [hr] at this
    exact this
  cases hp : parse exCfg (parseMethod exCfg 1)
      (((BlockState.root ([] ++ mdBlockQuote (mdBlockQuote (linesNl ("x".toList :: [] ++ [[], []]))) ++
        "next\n".toList)).childState []).childState (linesNl ["x".toList])) (some exCfg.quoteRules) with
  | error e =>
    exfalso
    have : (parse exCfg (parseMethod exCfg 1)
      (((BlockState.root ([] ++ mdBlockQuote (mdBlockQuote (linesNl ("x".toList :: [] ++ [[], []]))) ++
        "next\n".toList)).childState []).childState (linesNl ["x".toList])) (some exCfg.quoteRules)).toBool = true := by
      decide +kernel
    rw [hp] at this
    cases this
  | ok child2 =>
    refine ⟨child2, rfl, ?_⟩
    exact md_block_quote_nested cfg_core cfg_core_mem rules hrules 1 fuel _ [] "next\n".toList "x".toList [] [[], []]
      quoteExSc rfl rfl rfl (Or.inl rfl) (by decide +kernel) (by decide +kernel) (by decide +kernel) ⟨"x".toList, rfl, by decide +kernel⟩ (by decide +kernel) rfl
      (by decide +kernel) rfl (Or.inr ⟨'n', "ext\n".toList, rfl, by decide +kernel, by decide +kernel⟩) (by decide +kernel) child2 hp

/-! #### the handler bound to `block_quote` -/

/-- core configuration: `parse_block_quote` itself is bound -/
example : spoilerActive exCfg = false := by decide +kernel
example : NotSpoiler exCfg 0 "! x\n".toList := Or.inl (by decide +kernel)
/-- `only-spoiler`: `parse_block_spoiler` is bound; a quote without `!` is not a spoiler, `! x` is, a nested one is not -/
example : spoilerActive (ofRuleCfg cfg_only_spoiler) = true := by decide +kernel
example : NotSpoiler (ofRuleCfg cfg_only_spoiler) 0 "foo  bar\n\n> x\n".toList := by
  rw [notSpoiler_rx _ rfl]; decide +kernel
example : ¬ NotSpoiler (ofRuleCfg cfg_only_spoiler) 0 "! x\n".toList := by
  rw [notSpoiler_rx _ rfl]; decide +kernel
example : NotSpoiler (ofRuleCfg cfg_only_spoiler) 1 "! x\n".toList := notSpoiler_nested _ 0 _
/-- from the first character (`f`) -/
example : NotSpoiler (ofRuleCfg cfg_only_spoiler) 0 ('f' :: "oo\n".toList) :=
  notSpoiler_of_first _ rfl 0 'f' _ (by decide +kernel)

theorem cfg_only_spoiler_mem : cfg_only_spoiler ∈ allCfgs := by simp [allCfgs]

/-- **non-vacuity of `md_block_quote_step` on a configuration WITH the plugin `spoiler`** (`only-spoiler`, root state,
top-level rules): the document `# t⏎> foo  bar⏎> ⏎> > x⏎⏎next⏎` with the cursor at 4; the dispatch goes to
`parse_block_spoiler`, which computes what `parse_block_quote` computes -/
example (rules : List (String × Rx))
    (hr : compileSc (ofRuleCfg cfg_only_spoiler) (ofRuleCfg cfg_only_spoiler).blockRules = .ok rules) (fuel : Nat)
    (child : BlockState)
    (hchild : parse (ofRuleCfg cfg_only_spoiler) (parseMethod (ofRuleCfg cfg_only_spoiler) 2)
      ((({ ({ BlockState.root exQuoteDoc with cursor := 4 } : BlockState) with
          cursor := "# t\n".toList.length +
            (mdBlockQuote (linesNl ("foo  bar".toList :: ["".toList, "> x".toList] ++ [[], []]))).length - 1 } :
          BlockState).appendToken (tok "blank_line" [])).childState
        (linesNl ("foo  bar".toList :: ["".toList, "> x".toList])))
      (some (ofRuleCfg cfg_only_spoiler).quoteRules) = .ok child) :
    parseLoop (ofRuleCfg cfg_only_spoiler) (parseMethod (ofRuleCfg cfg_only_spoiler) 3) rules (fuel + 1)
        ({ BlockState.root exQuoteDoc with cursor := 4 } : BlockState) =
      parseLoop (ofRuleCfg cfg_only_spoiler) (parseMethod (ofRuleCfg cfg_only_spoiler) 3) rules fuel
        { ({ BlockState.root exQuoteDoc with cursor := 4 } : BlockState) with
          env := child.env,
          tokens := [] ++ [tok "block_quote" [("children", .arr child.tokens)], tok "blank_line" []],
          cursor := "# t\n".toList.length +
            (mdBlockQuote (linesNl ("foo  bar".toList :: ["".toList, "> x".toList] ++ [[], []]))).length } :=
  md_block_quote_step cfg_only_spoiler cfg_only_spoiler_mem rules
    (by have := (quoteRules_ok cfg_only_spoiler cfg_only_spoiler_mem).1; rw [hr] at this; exact this)
    1 fuel _ "# t\n".toList "next\n".toList "foo  bar".toList ["".toList, "> x".toList] [[], []] quoteExSc rfl rfl rfl
    (by decide +kernel) (by decide +kernel) (by decide +kernel) (by decide +kernel) ⟨"> x".toList, rfl, by decide +kernel⟩ (by decide +kernel) rfl (by decide +kernel)
    (by rw [blankEnd_rx _ rfl]; decide +kernel) (Or.inr ⟨'n', "ext\n".toList, rfl, by decide +kernel, by decide +kernel⟩)
    (by rw [notSpoiler_rx _ rfl]; decide +kernel) child hchild

/-- … and the child parse of that instance succeeds -/
example : (parse (ofRuleCfg cfg_only_spoiler) (parseMethod (ofRuleCfg cfg_only_spoiler) 2)
    ((({ BlockState.root exQuoteDoc with cursor := 24 } : BlockState).appendToken (tok "blank_line" [])).childState
      "foo  bar\n\n> x\n".toList) (some (ofRuleCfg cfg_only_spoiler).quoteRules)).toBool = true := by decide +kernel

end Examples

/-! ### axioms of the headline theorems -/

#print axioms md_block_quote_lines
#print axioms md_block_quote_lines_last
#print axioms indentAll_lines
#print axioms blockQuoteRule_matchAt_hit
#print axioms quoteBreakSc_ok
#print axioms md_block_quote_extract
#print axioms md_block_quote_roundtrip
#print axioms quoteRules_ok
#print axioms md_block_quote_step
#print axioms reqMarker_false_of_first
#print axioms quoteReqSc_gt_ok
#print axioms md_block_quote_extract_eos
#print axioms md_block_quote_step_eos
#print axioms md_quote_only_parse
#print axioms md_block_quote_nested
#print axioms parseBlockSpoiler_eq_quote
#print axioms parseMethod_quote
#print axioms notSpoiler_of_first
#print axioms spoilerMatchRx_lookup
#print axioms notSpoiler_gt
#print axioms spoilerActive_cfgs

end Mistune
