/-
C14 — footnote references and notes stay in bijection: theorems about the numbering machine for ALL
definition sets and ALL reference sequences.
-/
import Mistune.Footnotes
namespace Mistune

theorem firstOccs_congr (l : List Str) : ∀ (s s' : List Str), (∀ k, k ∈ s ↔ k ∈ s') →
    firstOccs s l = firstOccs s' l := by
  induction l with
  | nil => intros; rfl
  | cons k ks ih =>
    intro s s' h
    simp only [firstOccs]
    have hc : s.contains k = s'.contains k := by
      rw [Bool.eq_iff_iff]; simp [h]
    rw [hc]
    split
    · exact ih _ _ h
    · congr 1
      apply ih
      intro k'
      simp [h]

theorem firstOccs_cons (seen : List Str) (k : Str) (ks : List Str) :
    firstOccs seen (k :: ks) = if k ∈ seen then firstOccs seen ks else k :: firstOccs (k :: seen) ks := by
  simp [firstOccs]

theorem fnRef_fst (defs notes : List Str) (k : Str) :
    (fnRef defs notes k).1 = if k ∈ defs ∧ k ∉ notes then notes ++ [k] else notes := by
  unfold fnRef
  by_cases h1 : k ∈ defs <;> by_cases h2 : k ∈ notes <;> simp [h1, h2]

theorem fnRef_snd (defs notes : List Str) (k : Str) :
    (fnRef defs notes k).2 =
      if k ∈ defs then some ((fnRef defs notes k).1.idxOf k + 1) else none := by
  unfold fnRef
  by_cases h1 : k ∈ defs <;> simp [h1]

theorem fnRun_cons (defs notes : List Str) (k : Str) (ks : List Str) :
    fnRun defs notes (k :: ks) =
      ((fnRun defs (fnRef defs notes k).1 ks).1,
        (k, (fnRef defs notes k).2) :: (fnRun defs (fnRef defs notes k).1 ks).2) := rfl

theorem fnRun_append_fst (defs : List Str) (k1 k2 : List Str) : ∀ notes,
    (fnRun defs notes (k1 ++ k2)).1 = (fnRun defs (fnRun defs notes k1).1 k2).1 := by
  induction k1 with
  | nil => intro notes; rfl
  | cons k ks ih => intro notes; simp only [List.cons_append, fnRun_cons, ih]

theorem fnRun_prefix (defs : List Str) (refs : List Str) :
    ∀ notes, ∃ more, (fnRun defs notes refs).1 = notes ++ more := by
  induction refs with
  | nil => intro notes; exact ⟨[], by simp [fnRun]⟩
  | cons k ks ih =>
    intro notes
    rw [fnRun_cons]
    obtain ⟨more, hm⟩ := ih (fnRef defs notes k).1
    show ∃ more', (fnRun defs (fnRef defs notes k).1 ks).1 = notes ++ more'
    rw [hm, fnRef_fst]
    split
    · exact ⟨[k] ++ more, by simp⟩
    · exact ⟨more, rfl⟩

theorem fnRun_notes_gen (defs : List Str) (refs : List Str) :
    ∀ notes seen, (∀ k, k ∈ seen ↔ k ∈ notes) →
      (fnRun defs notes refs).1 = notes ++ firstOccs seen (refs.filter (fun k => defs.contains k)) := by
  induction refs with
  | nil => intro notes seen _; simp [fnRun, firstOccs]
  | cons k ks ih =>
    intro notes seen h
    rw [fnRun_cons]
    simp only [fnRef_fst]
    by_cases h1 : k ∈ defs
    · have h1' : defs.contains k = true := by simpa using h1
      by_cases h2 : k ∈ notes
      · have h2' : k ∈ seen := (h k).2 h2
        rw [List.filter_cons_of_pos h1', firstOccs_cons, if_pos h2', if_neg (by simp [h2])]
        exact ih notes seen h
      · have h2' : k ∉ seen := fun hh => h2 ((h k).1 hh)
        rw [List.filter_cons_of_pos h1', firstOccs_cons, if_neg h2', if_pos ⟨h1, h2⟩]
        rw [ih (notes ++ [k]) (k :: seen) (by intro k'; simp [h, or_comm])]
        simp only [List.append_assoc, List.singleton_append]
    · have h1' : ¬ (defs.contains k = true) := by simpa using h1
      rw [List.filter_cons_of_neg h1', if_neg (by simp [h1])]
      exact ih notes seen h

theorem fnRun_nodup_gen (defs : List Str) (refs : List Str) :
    ∀ notes, notes.Nodup → (fnRun defs notes refs).1.Nodup := by
  induction refs with
  | nil => intro notes h; simpa [fnRun] using h
  | cons k ks ih =>
    intro notes h
    rw [fnRun_cons]
    apply ih
    rw [fnRef_fst]
    split
    · rename_i hc
      rw [List.nodup_append]
      refine ⟨h, by simp, ?_⟩
      intro a ha b hb hab
      rw [List.mem_singleton.1 hb] at hab
      subst hab
      exact hc.2 ha
    · exact h

theorem fnRun_mem_gen (defs : List Str) (refs : List Str) :
    ∀ notes, ∀ k ∈ (fnRun defs notes refs).1, k ∈ notes ∨ (k ∈ defs ∧ k ∈ refs) := by
  induction refs with
  | nil => intro notes k hk; left; simpa [fnRun] using hk
  | cons k ks ih =>
    intro notes k' hk'
    rw [fnRun_cons] at hk'
    rcases ih _ k' hk' with h | h
    · rw [fnRef_fst] at h
      split at h
      · rename_i hc
        rcases List.mem_append.1 h with h | h
        · exact Or.inl h
        · rw [List.mem_singleton.1 h]; exact Or.inr ⟨hc.1, List.mem_cons_self⟩
      · exact Or.inl h
    · exact Or.inr ⟨h.1, by simp [h.2]⟩

theorem fnRef_mem (defs notes : List Str) (k : Str) (h : k ∈ defs) :
    k ∈ (fnRef defs notes k).1 := by
  rw [fnRef_fst]
  split
  · simp
  · rename_i hc
    exact Decidable.byContradiction fun hn => hc ⟨h, hn⟩

theorem fnRun_sound_gen (defs : List Str) (refs : List Str) :
    ∀ notes, ∀ p ∈ (fnRun defs notes refs).2,
      (p.2 = none ↔ p.1 ∉ defs) ∧
      (∀ i, p.2 = some i → 1 ≤ i ∧ (fnRun defs notes refs).1[i - 1]? = some p.1) := by
  induction refs with
  | nil => intro notes p hp; simp [fnRun] at hp
  | cons k ks ih =>
    intro notes p hp
    rw [fnRun_cons] at hp ⊢
    simp only [List.mem_cons] at hp
    rcases hp with hp | hp
    · subst hp
      simp only
      rw [fnRef_snd]
      by_cases h1 : k ∈ defs
      · have hmem := fnRef_mem defs notes k h1
        obtain ⟨more, hm⟩ := fnRun_prefix defs ks (fnRef defs notes k).1
        rw [if_pos h1]
        refine ⟨by simp [h1], ?_⟩
        intro i hi
        cases hi
        refine ⟨by omega, ?_⟩
        rw [hm]
        have hlt : List.idxOf k (fnRef defs notes k).1 < (fnRef defs notes k).1.length :=
          List.idxOf_lt_length_of_mem hmem
        simp only [Nat.add_sub_cancel]
        rw [List.getElem?_append_left hlt]
        simp [List.getElem?_eq_getElem hlt]
      · rw [if_neg h1]
        simp [h1]
    · exact ih _ p hp

theorem fnRun_items_gen (defs : List Str) (refs : List Str) :
    ∀ notes i, notes.length ≤ i → (h : i < (fnRun defs notes refs).1.length) →
      ((fnRun defs notes refs).1[i], some (i + 1)) ∈ (fnRun defs notes refs).2 := by
  induction refs with
  | nil => intro notes i h1 h2; simp [fnRun] at h2; omega
  | cons k ks ih =>
    intro notes i h1 h2
    simp only [fnRun_cons] at h2 ⊢
    by_cases hi : (fnRef defs notes k).1.length ≤ i
    · exact List.mem_cons_of_mem _ (ih _ i hi h2)
    · have hfst := fnRef_fst defs notes k
      split at hfst
      · rename_i hc
        have hlen : i = notes.length := by
          rw [hfst] at hi; simp at hi; omega
        obtain ⟨more, hm⟩ := fnRun_prefix defs ks (fnRef defs notes k).1
        have hget : (fnRun defs (fnRef defs notes k).1 ks).1[i] = k := by
          have : (fnRun defs (fnRef defs notes k).1 ks).1[i]? = some k := by
            rw [hm, hfst, hlen]; simp
          simpa [List.getElem?_eq_getElem h2] using this
        rw [hget]
        apply List.mem_cons.2
        left
        rw [fnRef_snd, hfst, if_pos hc.1]
        congr 2
        rw [hlen]
        simp [List.idxOf_append, hc.2]
      · rw [hfst] at hi; omega

/-- **C14 (order of first reference).** The emitted notes are exactly the distinct *defined* keys that are
referenced, in order of first reference. -/
theorem fn_notes_eq (defs refs : List Str) :
    (fnRun defs [] refs).1 = firstOccs [] (refs.filter (fun k => defs.contains k)) := by
  have h := fnRun_notes_gen defs refs [] [] (by simp)
  simpa using h

/-- **C14 (no duplicates, only defined, only referenced).** -/
theorem fn_notes_nodup (defs refs : List Str) :
    (fnRun defs [] refs).1.Nodup ∧
    (∀ k ∈ (fnRun defs [] refs).1, k ∈ defs ∧ k ∈ refs) := by
  refine ⟨fnRun_nodup_gen defs refs [] List.nodup_nil, ?_⟩
  intro k hk
  rcases fnRun_mem_gen defs refs [] k hk with h | h
  · simp at h
  · exact h

/-- **C14 (every reference carries the final number of its note; undefined stay literal).**
For every reference occurrence: it became a `footnote_ref` iff its key is defined, and then its index `i`
satisfies `1 ≤ i ≤ n` and the `i`-th emitted note is that key — so repeated references reuse the number and
the number never changes later. -/
theorem fn_refs_sound (defs refs : List Str) :
    ∀ p ∈ (fnRun defs [] refs).2,
      (p.2 = none ↔ p.1 ∉ defs) ∧
      (∀ i, p.2 = some i → 1 ≤ i ∧ (fnRun defs [] refs).1[i - 1]? = some p.1) := by
  exact fnRun_sound_gen defs refs []

/-- the outcome list has one entry per reference, in order -/
theorem fn_refs_keys (defs refs : List Str) : ((fnRun defs [] refs).2.map Prod.fst) = refs := by
  suffices h : ∀ notes, ((fnRun defs notes refs).2.map Prod.fst) = refs from h []
  induction refs with
  | nil => intro notes; rfl
  | cons k ks ih => intro notes; rw [fnRun_cons]; simp [ih]

/-- **C14 (every emitted note is referenced, with its own number).** -/
theorem fn_items_referenced (defs refs : List Str) :
    ∀ q ∈ fnItems (fnRun defs [] refs).1, (q.1, some q.2) ∈ (fnRun defs [] refs).2 := by
  intro q hq
  unfold fnItems at hq
  rw [List.mem_map] at hq
  obtain ⟨⟨a, i⟩, hmem, rfl⟩ := hq
  rw [List.mem_zipIdx_iff_getElem?] at hmem
  simp only at hmem ⊢
  obtain ⟨hlt, hget⟩ := List.getElem?_eq_some_iff.1 hmem
  have := fnRun_items_gen defs refs [] i (by simp) hlt
  rw [hget] at this
  exact this

/-- **C14 (numbering is 1..n in order).** -/
theorem fn_items_numbers (notes : List Str) :
    (fnItems notes).map Prod.snd = (List.range notes.length).map (· + 1) ∧
    (fnItems notes).map Prod.fst = notes := by
  unfold fnItems
  rw [List.map_map, List.map_map]
  constructor
  · -- the second components of `zipIdx` are `0, …, n - 1`
    rw [List.range_eq_range', ← List.zipIdx_map_snd 0 notes, List.map_map]
    rfl
  · exact List.zipIdx_map_fst 0 notes

/-- non-vacuity: a concrete history with a repeated, an undefined and an unreferenced key -/
example :
    fnRun ["A".toList, "B".toList, "C".toList] [] ["B".toList, "X".toList, "A".toList, "B".toList]
      = (["B".toList, "A".toList],
         [("B".toList, some 1), ("X".toList, none), ("A".toList, some 2), ("B".toList, some 1)]) := by
  decide

end Mistune
