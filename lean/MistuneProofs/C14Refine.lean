/-
C14 — refinement: the CONCRETE footnote handlers `Inl.parseInlineFootnote` (one call per `[^key]` occurrence) and
`Hooks.mdFootnotesHook` / `Hooks.footnoteItems` perform exactly the steps of the abstract numbering machine
`fnRef` / `fnItems` of `Mistune.Footnotes`, about which `fn_notes_eq`, `fn_notes_nodup`, `fn_refs_sound`,
`fn_items_referenced`, `fn_items_numbers` (C14) are proved.

Abstraction functions
* `absDefs env`  — the keys of the dict `env["ref_footnotes"]` (the machine's `defs`);
* `absNotes env` — the list `env["footnotes"]` (the machine's `notes`), `[]` when the key is absent;
* `NotesWf env`  — `env["footnotes"]` is absent or a list of strings (true initially, kept by the handler).
-/
import MistuneProofs.C12Refine
import MistuneProofs.C14
namespace Mistune
namespace Model
open Inl

/-! ### abstraction functions -/

def strOf : Json → Option Str
  | .str s => some s
  | _ => none

/-- the machine's `defs`: keys of `env["ref_footnotes"]` -/
def absDefs (env : Json) : List Str := (absTable ((env.get? "ref_footnotes").getD .null)).map (·.1)

/-- the machine's `notes`: the list `env["footnotes"]` -/
def absNotes (env : Json) : List Str :=
  match env.get? "footnotes" with
  | some (.arr l) => l.filterMap strOf
  | _ => []

/-- `env["footnotes"]` is absent or a list of strings -/
def NotesWf (env : Json) : Prop :=
  env.get? "footnotes" = none ∨ ∃ ns : List Str, env.get? "footnotes" = some (.arr (ns.map Json.str))

theorem filterMap_strOf (ns : List Str) : (ns.map Json.str).filterMap strOf = ns := by
  induction ns with
  | nil => rfl
  | cons a r ih => simp [strOf, ih]

theorem absNotes_of (env : Json) (ns : List Str) (h : env.get? "footnotes" = some (.arr (ns.map Json.str))) :
    absNotes env = ns := by
  unfold absNotes; rw [h]; exact filterMap_strOf ns

theorem absNotes_none (env : Json) (h : env.get? "footnotes" = none) : absNotes env = [] := by
  unfold absNotes; rw [h]

/-- the handler's membership test `key in notes` -/
def isKey (key : Str) (j : Json) : Bool := match j with | .str s => s == key | _ => false

theorem any_isKey (ns : List Str) (key : Str) : (ns.map Json.str).any (isKey key) = ns.contains key := by
  induction ns with
  | nil => rfl
  | cons a r ih =>
    simp only [List.map_cons, List.any_cons, List.contains_cons, ih, isKey]
    rw [Bool.beq_comm]

theorem findIdx_isKey (ns : List Str) (key : Str) : (ns.map Json.str).findIdx (isKey key) = ns.idxOf key := by
  induction ns with
  | nil => rfl
  | cons a r ih =>
    simp only [List.map_cons, List.findIdx_cons, List.idxOf_cons, ih, isKey]

/-- `key in ref` for the dict `env["ref_footnotes"]` -/
theorem absDefs_contains (env : Json) (key : Str) :
    (absDefs env).contains key =
      (((env.get? "ref_footnotes").getD .null).truthy && ((env.get? "ref_footnotes").getD .null).has (String.ofList key)) := by
  unfold absDefs
  generalize (env.get? "ref_footnotes").getD .null = ref
  cases ref with
  | obj kv =>
    rw [← absTable_has]
    have : (absTable (Json.obj kv)).any (fun p => p.1 == key) = ((absTable (Json.obj kv)).map (·.1)).contains key := by
      rw [List.contains_eq_any_beq, List.any_map]
      congr 1; funext p; exact Bool.beq_comm
    rw [this]
    cases kv with
    | nil => rfl
    | cons a b => simp [Json.truthy]
  | _ => simp [absTable, Json.truthy, Json.has, Json.get?]

/-! ### one reference: `Inl.parseInlineFootnote` is `fnRef` -/

/-- the list the handler works on: `notes = state.env.get("footnotes"); if not notes: notes = []` -/
def concNotes (env : Json) : List Json :=
  match env.get? "footnotes" with
  | some (.arr l) => l
  | _ => []

theorem concNotes_abs (env : Json) (hwf : NotesWf env) : concNotes env = (absNotes env).map Json.str := by
  rcases hwf with h | ⟨ns, h⟩
  · unfold concNotes; rw [absNotes_none env h, h]; rfl
  · unfold concNotes; rw [absNotes_of env ns h, h]

/-- the `footnote_ref` token -/
def footnoteRefTok (key : Str) (index : Nat) : Json :=
  tok "footnote_ref" [("raw", .str key), ("attrs", .obj [("index", .num index)])]

/-- the token a reference becomes, from the machine's outcome -/
def outcomeTok (key raw : Str) : Option Nat → Json
  | some i => footnoteRefTok key i
  | none => textTok raw

/-- the state with a new `env` and one more token, everything else unchanged -/
def withEnvTok (st : InlineState) (env' : Json) (t : Json) : InlineState :=
  { st with env := env', tokens := st.tokens.push t }

/-- `parse_inline_footnote` with the key, the matched text and `m.end()` as parameters -/
def footnoteCore (key raw : Str) (stop : Nat) (st : InlineState) : HRes :=
  if ((st.env.get? "ref_footnotes").getD .null).truthy && ((st.env.get? "ref_footnotes").getD .null).has (String.ofList key)
      && !st.inImage then
    if !(concNotes st.env).any (isKey key) then
      .ok (some stop, withEnvTok st (st.env.set "footnotes" (.arr (concNotes st.env ++ [Json.str key])))
        (footnoteRefTok key ((concNotes st.env ++ [Json.str key]).findIdx (isKey key) + 1)))
    else
      .ok (some stop, withEnvTok st st.env (footnoteRefTok key ((concNotes st.env).findIdx (isKey key) + 1)))
  else .ok (some stop, withEnvTok st st.env (textTok raw))

/-- the handler's code with `concNotes` / `isKey` named and key, matched text, `m.end()` as parameters: the body of
`parseInlineFootnote`, tied to it by `rfl` in `parseInlineFootnote_eq0` -/
def footnoteCore0 (key raw : Str) (stop : Nat) (st : InlineState) : HRes :=
  let ref := (st.env.get? "ref_footnotes").getD .null
  if ref.truthy && ref.has (String.ofList key) && !st.inImage then
    let notes := concNotes st.env
    let (notes, st) :=
      if !notes.any (isKey key) then
        let notes := notes ++ [Json.str key]
        (notes, { st with env := st.env.set "footnotes" (.arr notes) })
      else (notes, st)
    let index := (notes.findIdx (isKey key)) + 1
    .ok (some stop, st.appendToken (tok "footnote_ref" [("raw", .str key), ("attrs", .obj [("index", .num index)])]))
  else .ok (some stop, st.appendToken (textTok raw))

theorem parseInlineFootnote_eq0 (cfg : MdCfg) (m : RxMatch) (st : InlineState) :
    parseInlineFootnote cfg m st =
      footnoteCore0 (unikeyPy (groupNamed cfg st.x.s m "inline:footnote/footnote_key")) (group0 st m) m.stop st := rfl

theorem footnoteCore0_eq (key raw : Str) (stop : Nat) (st : InlineState) :
    footnoteCore0 key raw stop st = footnoteCore key raw stop st := by
  unfold footnoteCore0 footnoteCore
  cases hA : (concNotes st.env).any (isKey key)
  · simp only [hA, Bool.not_false, if_true]; rfl
  · simp only [hA, Bool.not_true, Bool.false_eq_true, if_false]; rfl

theorem parseInlineFootnote_eq (cfg : MdCfg) (m : RxMatch) (st : InlineState) :
    parseInlineFootnote cfg m st =
      footnoteCore (unikeyPy (groupNamed cfg st.x.s m "inline:footnote/footnote_key")) (group0 st m) m.stop st := by
  rw [parseInlineFootnote_eq0, footnoteCore0_eq]

theorem footnoteCore_step (key raw : Str) (stop : Nat) (st : InlineState) (hwf : NotesWf st.env)
    (himg : st.inImage = false) :
    ∃ env', footnoteCore key raw stop st =
        .ok (some stop, withEnvTok st env' (outcomeTok key raw (fnRef (absDefs st.env) (absNotes st.env) key).2)) ∧
      NotesWf env' ∧ absNotes env' = (fnRef (absDefs st.env) (absNotes st.env) key).1 ∧
      (∀ k, k ≠ "footnotes" → env'.get? k = st.env.get? k) ∧
      (key ∉ absDefs st.env → env' = st.env) := by
  have hdef := absDefs_contains st.env key
  -- outside an image the handler's test is `key in defs`
  have hcond : (((st.env.get? "ref_footnotes").getD .null).truthy &&
      ((st.env.get? "ref_footnotes").getD .null).has (String.ofList key) && !st.inImage) =
        (absDefs st.env).contains key := by
    rw [hdef, himg, Bool.not_false, Bool.and_true]
  cases hc : (absDefs st.env).contains key with
  | false =>
    -- undefined
    have hr : fnRef (absDefs st.env) (absNotes st.env) key = (absNotes st.env, none) := by
      unfold fnRef; rw [hc]; rfl
    refine ⟨st.env, ?_, hwf, by rw [hr], fun _ _ => rfl, fun _ => rfl⟩
    unfold footnoteCore
    rw [hr, if_neg (by rw [hcond, hc]; exact Bool.false_ne_true)]
    rfl
  | true =>
    -- defined
    have hmem : key ∈ absDefs st.env := List.contains_iff_mem.mp hc
    rw [hc] at hdef
    -- `env` is a dict
    obtain ⟨ekv, hekv⟩ : ∃ ekv, st.env = .obj ekv := by
      cases hg : st.env.get? "ref_footnotes" with
      | none => rw [hg] at hdef; simp [Json.truthy] at hdef
      | some v => exact isObj_of_get? _ _ _ hg
    have hcn := concNotes_abs st.env hwf
    have hany : (concNotes st.env).any (isKey key) = (absNotes st.env).contains key := by rw [hcn, any_isKey]
    cases hin : (absNotes st.env).contains key with
    | true =>
      -- already referenced
      have hr : fnRef (absDefs st.env) (absNotes st.env) key = (absNotes st.env, some ((absNotes st.env).idxOf key + 1)) := by
        unfold fnRef; rw [hc, hin]; rfl
      refine ⟨st.env, ?_, hwf, by rw [hr], fun _ _ => rfl, fun h => absurd hmem h⟩
      unfold footnoteCore
      rw [hr, if_pos (hcond.trans hc), hany, hin, hcn, findIdx_isKey]
      rfl
    | false =>
      -- first reference
      have hr : fnRef (absDefs st.env) (absNotes st.env) key =
          (absNotes st.env ++ [key], some ((absNotes st.env ++ [key]).idxOf key + 1)) := by
        unfold fnRef; rw [hc, hin]; rfl
      have hl : (concNotes st.env ++ [Json.str key]) = (absNotes st.env ++ [key]).map Json.str := by rw [hcn]; simp
      have hset : (st.env.set "footnotes" (.arr ((absNotes st.env ++ [key]).map Json.str))).get? "footnotes" =
          some (.arr ((absNotes st.env ++ [key]).map Json.str)) := by rw [hekv]; exact get?_set_self _ _ _
      refine ⟨st.env.set "footnotes" (.arr ((absNotes st.env ++ [key]).map Json.str)), ?_, Or.inr ⟨_, hset⟩, ?_,
        fun k hk => get?_set_ne _ _ _ _ hk, fun h => absurd hmem h⟩
      · unfold footnoteCore
        rw [hr, if_pos (hcond.trans hc), hany, hin, hl, findIdx_isKey]
        rfl
      · rw [absNotes_of _ _ hset, hr]

/-- **C14, one reference: `parse_inline_footnote` is one `fnRef` step of the numbering machine.**  Outside an image
description, the handler always returns `m.end()`; the new `env["footnotes"]` and the emitted token are the two
components of `fnRef defs notes key` (`defs` = keys of `env["ref_footnotes"]`, `notes` = `env["footnotes"]`,
`key = unikey(m.group("footnote_key"))`): a defined key is appended iff absent and the `footnote_ref` token carries
`position + 1`; an undefined key leaves `env` untouched and yields the literal text.  Nothing else of the state
changes. -/
theorem parseInlineFootnote_step (cfg : MdCfg) (m : RxMatch) (st : InlineState) (hwf : NotesWf st.env)
    (himg : st.inImage = false) :
    ∃ env', parseInlineFootnote cfg m st =
        .ok (some m.stop, withEnvTok st env'
          (outcomeTok (unikeyPy (groupNamed cfg st.x.s m "inline:footnote/footnote_key")) (group0 st m)
            (fnRef (absDefs st.env) (absNotes st.env)
              (unikeyPy (groupNamed cfg st.x.s m "inline:footnote/footnote_key"))).2)) ∧
      NotesWf env' ∧
      absNotes env' = (fnRef (absDefs st.env) (absNotes st.env)
        (unikeyPy (groupNamed cfg st.x.s m "inline:footnote/footnote_key"))).1 ∧
      (∀ k, k ≠ "footnotes" → env'.get? k = st.env.get? k) ∧
      (unikeyPy (groupNamed cfg st.x.s m "inline:footnote/footnote_key") ∉ absDefs st.env → env' = st.env) := by
  rw [parseInlineFootnote_eq]
  exact footnoteCore_step _ _ _ st hwf himg

/-- inside an image description a reference is always literal text and `env` is untouched -/
theorem parseInlineFootnote_inImage (cfg : MdCfg) (m : RxMatch) (st : InlineState) (himg : st.inImage = true) :
    parseInlineFootnote cfg m st = .ok (some m.stop, withEnvTok st st.env (textTok (group0 st m))) := by
  rw [parseInlineFootnote_eq]
  unfold footnoteCore
  rw [himg]
  simp

/-! ### the notes section: `Hooks.footnoteItems` / `Hooks.mdFootnotesHook` are `fnItems` -/

open Hooks

/-- the `attrs` of a `footnote_item` token -/
def itemAttrs (key : Str) (index : Nat) : Json := .obj [("key", .str key), ("index", .num index)]

theorem parseFootnoteItem_attrs (cfg : MdCfg) (key : Str) (index : Nat) (env : Json) :
    Holds (fun t => t.get? "type" = some (Json.s "footnote_item") ∧ t.get? "attrs" = some (itemAttrs key index))
      (parseFootnoteItem cfg key index env) := by
  unfold parseFootnoteItem
  -- every return is `tok "footnote_item" [("children", …), ("attrs", {"key": key, "index": index})]`
  refine Holds.ite (fun _ => Holds.throw_bind) (fun _ => ?_)
  refine Holds.bind (Holds.true _) (fun v _ => ?_)
  cases v with
  | str s => exact Holds.bind (Holds.true _) (fun text _ => Holds.pure ⟨rfl, rfl⟩)
  | _ => exact Holds.throw_bind

/-- `[parse_footnote_item(md.block, k, i + 1, state) for i, k in enumerate(notes)]`: one `footnote_item` per key, in
list order, the `j`-th (0-based, counting from `i`) carrying `attrs = {"key": notes[j], "index": i + j + 1}` -/
theorem footnoteItems_spec (cfg : MdCfg) (env : Json) (ns : List Str) :
    ∀ i, Holds (fun items =>
        items.map (fun t => (t.get? "type", t.get? "attrs")) =
          (ns.zipIdx i).map (fun p => (some (Json.s "footnote_item"), some (itemAttrs p.1 (p.2 + 1)))))
      (footnoteItems cfg env (ns.map Json.str) i) := by
  induction ns with
  | nil => intro i; exact Holds.ok rfl
  | cons k rest ih =>
    intro i
    simp only [List.map_cons, footnoteItems]
    refine Holds.bind (Holds.pure (P := fun s => s = k) rfl) (fun key hkey => ?_)
    subst hkey
    refine Holds.bind (parseFootnoteItem_attrs cfg key (i + 1) env) (fun item hitem => ?_)
    refine Holds.bind (ih (i + 1)) (fun items hitems => ?_)
    refine Holds.pure ?_
    simp only [List.map_cons, List.zipIdx_cons, hitem.1, hitem.2, hitems]

/-- the same with the machine's item list `fnItems` -/
theorem footnoteItems_fnItems (cfg : MdCfg) (env : Json) (ns : List Str) (items : List Json)
    (h : footnoteItems cfg env (ns.map Json.str) 0 = .ok items) :
    items.map (fun t => (t.get? "type", t.get? "attrs")) =
      (fnItems ns).map (fun q => (some (Json.s "footnote_item"), some (itemAttrs q.1 q.2))) := by
  rw [footnoteItems_spec cfg env ns 0 items h]
  unfold fnItems
  simp [List.map_map]

/-! #### the second pass keeps `type` and `attrs` of every token -/

/-- what `_iter_render` keeps of a token -/
def keep (t : Json) : Option Json × Option Json := (t.get? "type", t.get? "attrs")

theorem keep_set_children (t v : Json) : keep (t.set "children" v) = keep t := by
  unfold keep
  rw [get?_set_ne _ _ _ _ (by decide), get?_set_ne _ _ _ _ (by decide)]

theorem keep_erase_text (t : Json) : keep (t.erase "text") = keep t := by
  unfold keep
  rw [get?_erase_ne _ _ _ (by decide), get?_erase_ne _ _ _ (by decide)]

theorem foldlM_shape {σ : Type} (f : List Json × σ → Json → Except PyErr (List Json × σ))
    (hf : ∀ acc t, Holds (fun acc' => ∃ t', acc'.1 = acc.1 ++ [t'] ∧ keep t' = keep t) (f acc t)) :
    ∀ (toks : List Json) (acc : List Json × σ),
      Holds (fun res => ∃ more : List Json, res.1 = acc.1 ++ more ∧ more.map keep = toks.map keep)
        (toks.foldlM f acc) := by
  intro toks
  induction toks with
  | nil => intro acc; exact Holds.pure ⟨[], by simp, rfl⟩
  | cons t rest ih =>
    intro acc
    rw [List.foldlM_cons]
    refine Holds.bind (hf acc t) ?_
    rintro acc' ⟨t', h1, h2⟩
    refine Holds.mono (ih acc') ?_
    rintro res ⟨more, h3, h4⟩
    refine ⟨t' :: more, ?_, ?_⟩
    · rw [h3, h1]; simp
    · simp only [List.map_cons, h2, h4]

/-- `_iter_render` returns one token per input token, with the same `type` and `attrs` -/
theorem iterRenderEnv_shape (cfg : MdCfg) : ∀ (fuel : Nat) (env : Json) (toks : List Json),
    Holds (fun res => res.1.map keep = toks.map keep) (iterRenderEnv cfg fuel env toks) := by
  intro fuel
  induction fuel with
  | zero => intro env toks; unfold iterRenderEnv; exact Holds.throw
  | succ fuel ih =>
    intro env toks
    unfold iterRenderEnv
    refine Holds.mono (foldlM_shape _ ?_ toks ([], env)) ?_
    · rintro ⟨out, env1⟩ t
      dsimp only
      split
      · rename_i cs hcs
        refine Holds.bind (ih env1 cs) ?_
        rintro ⟨cs', env2⟩ _
        exact Holds.pure ⟨_, rfl, keep_set_children _ _⟩
      · split
        · refine Holds.bind (Holds.true _) ?_
          rintro ⟨cs', env2⟩ _
          refine Holds.pure ⟨_, rfl, ?_⟩
          rw [keep_set_children, keep_erase_text]
        · exact Holds.pure ⟨_, rfl, rfl⟩
    · rintro res ⟨more, h1, h2⟩
      simp only [List.nil_append] at h1
      rw [h1]; exact h2

theorem iterRenderEnv_single (cfg : MdCfg) (fuel : Nat) (env t : Json) (cs : List Json)
    (h : t.get? "children" = some (.arr cs)) :
    iterRenderEnv cfg (fuel + 1) env [t] =
      (iterRenderEnv cfg fuel env cs >>= fun r => pure ([t.set "children" (.arr r.1)], r.2)) := by
  rw [iterRenderEnv]
  simp only [List.foldlM_cons, List.foldlM_nil, h]
  cases iterRenderEnv cfg fuel env cs with
  | error e => rfl
  | ok r => rfl

/-- **C14, the notes section: `md_footnotes_hook` emits the machine's item list.**  With `notes = env["footnotes"]`:
an empty (or absent) list leaves the result alone; otherwise EXACTLY ONE token is appended, of type `footnotes`,
whose children are one `footnote_item` per key of `notes`, in list order, with `attrs = {"key": k, "index": i}` for
`(k, i)` running through `fnItems notes`, which `fn_items_numbers` (C14) shows to be the notes numbered `1..n`. -/
theorem mdFootnotesHook_items (cfg : MdCfg) (result : List Json) (env : Json) (hwf : NotesWf env) :
    Holds (fun out =>
      (absNotes env = [] ∧ out = result) ∨
      (absNotes env ≠ [] ∧ ∃ sect cs, out = result ++ [sect] ∧ sect.get? "type" = some (Json.s "footnotes") ∧
        sect.get? "children" = some (.arr cs) ∧
        cs.map keep = (fnItems (absNotes env)).map (fun q => (some (Json.s "footnote_item"), some (itemAttrs q.1 q.2)))))
      (mdFootnotesHook cfg result env) := by
  unfold mdFootnotesHook
  rcases hwf with hnone | ⟨ns, hns⟩
  · rw [hnone]
    exact Holds.pure (Or.inl ⟨absNotes_none env hnone, rfl⟩)
  · rw [hns]
    have habs := absNotes_of env ns hns
    rw [habs]
    cases ns with
    | nil => exact Holds.pure (Or.inl ⟨rfl, rfl⟩)
    | cons k rest =>
      -- `-zeta`: the `let`s stay, for `extract_lets` below
      simp -zeta only [Option.getD_some]
      refine Holds.bind (Holds.pure (P := fun l => l = (k :: rest).map Json.str) rfl) (fun l hl => ?_)
      subst hl
      refine Holds.bind (Holds.self _) (fun items hitems => ?_)
      have hspec := footnoteItems_fnItems cfg env (k :: rest) items hitems
      extract_lets refLinks env2
      unfold renderState
      rw [iterRenderEnv_single cfg 63 env2 _ items (by simp [tok, Json.get?, List.lookup])]
      refine Holds.bind (Holds.bind (iterRenderEnv_shape cfg 63 env2 items) (fun r hr => Holds.pure (P := fun (o : List Json × Json) =>
        ∃ cs : List Json, o.1 = [(tok "footnotes" [("children", .arr items)]).set "children" (.arr cs)] ∧
          cs.map keep = items.map keep) ⟨r.1, rfl, hr⟩)) ?_
      rintro ⟨output, envOut⟩ ⟨cs, ho, hcs⟩
      dsimp only at ho
      refine Holds.pure (Or.inr ⟨by simp, _, cs, by rw [ho], ?_, ?_, ?_⟩)
      · rw [get?_set_ne _ _ _ _ (by decide)]
        simp [tok, Json.get?, List.lookup]
      · exact get?_set_self _ _ _
      · rw [hcs]; exact hspec

/-- the `attrs` of the hook's items, spelt out: the `key` attributes are the notes, in order, the `index`
attributes `1..n` -/
theorem fnItems_attrs (ns : List Str) :
    (fnItems ns).map (fun q => itemAttrs q.1 q.2) = (ns.zipIdx).map (fun p => itemAttrs p.1 (p.2 + 1)) := by
  unfold fnItems; simp [List.map_map]

/-! ### non-vacuity: kernel-evaluated runs of the concrete model -/

section Examples
open Mistune.Generated

/-- the `index` of every `footnote_ref` among the children of the top-level tokens, in order -/
def refIndices (toks : List Json) : List Int :=
  toks.flatMap (fun t => (t.getArr "children").filterMap (fun c =>
    if c.type == "footnote_ref" then (c.get? "attrs").bind (·.getInt? "index") else none))

/-- `(key, index)` of the items of every top-level `footnotes` token -/
def itemKeys (toks : List Json) : List (Str × Int) :=
  toks.flatMap (fun t => if t.type == "footnotes" then (t.getArr "children").filterMap (fun c =>
    match c.get? "attrs" with
    | some a => (a.getInt? "index").map (fun i => (a.getStr "key", i))
    | none => none) else [])

def docView (r : Except PyErr (List Json)) : Option (List Int × List (Str × Int)) :=
  match r with
  | .ok toks => some (refIndices toks, itemKeys toks)
  | .error _ => none

/-- a repeated reference, a case variant, an undefined key: `x` is note 1 both times, `Y` note 2, `[^z]` stays text;
two items numbered 1, 2 -/
theorem docView_footnotes : docView (Model.parseDoc (ofRuleCfg cfg_only_footnotes)
      "a[^x] b[^Y] c[^x] d[^z]\n\n[^x]: one\n[^y]: two\n".toList)
    = some ([1, 2, 1], [("X".toList, 1), ("Y".toList, 2)]) := by decide +kernel

example : docView (Model.parseDoc (ofRuleCfg cfg_only_footnotes)
      "a[^x] b[^Y] c[^x] d[^z]\n\n[^x]: one\n[^y]: two\n".toList)
    = some ([1, 2, 1], [("X".toList, 1), ("Y".toList, 2)]) := docView_footnotes

/-- the same history on the abstract machine -/
example : fnRun ["X".toList, "Y".toList] [] ["X".toList, "Y".toList, "X".toList, "Z".toList]
    = (["X".toList, "Y".toList], [("X".toList, some 1), ("Y".toList, some 2), ("X".toList, some 1), ("Z".toList, none)]) := by
  decide

example : NotesWf (.obj [("ref_links", .obj []), ("ref_footnotes", .obj [("X", Json.s "one")])]) := Or.inl rfl
example : NotesWf (.obj [("footnotes", .arr [Json.str "X".toList])]) := Or.inr ⟨["X".toList], rfl⟩

end Examples

end Model
end Mistune
