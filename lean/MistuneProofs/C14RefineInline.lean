/-
C14 — refinement, whole inline pass and whole document: the list `env["footnotes"]` after `render_state` is the
notes list of a RUN of the numbering machine (`fnRun`) over the keys of the `parse_inline_footnote` calls, in call
order; hence (C14: `fn_notes_nodup`) it has no duplicates and only defined keys, and the section built by
`md_footnotes_hook` has one item per such key numbered `1..n`.
-/
import MistuneProofs.C14Refine
import MistuneProofs.C12RefineBlock
import MistuneProofs.EnvRelInline
namespace Mistune
namespace Model
open Inl Hooks

/-- the evolution of `env` during the inline pass: `ref_footnotes` fixed, `footnotes` a run of the machine -/
def FnRel (e e' : Json) : Prop :=
  NotesWf e → NotesWf e' ∧ absDefs e' = absDefs e ∧ ∃ keys, absNotes e' = (fnRun (absDefs e) (absNotes e) keys).1

theorem absDefs_congr {e e' : Json} (h : e'.get? "ref_footnotes" = e.get? "ref_footnotes") : absDefs e' = absDefs e := by
  unfold absDefs; rw [h]

theorem fnRel_inlEnvRel (cfg : MdCfg) : InlEnvRel cfg FnRel where
  refl := fun e hw => ⟨hw, rfl, [], rfl⟩
  trans := by
    intro a b c h1 h2 hw
    obtain ⟨hw1, hd1, k1, hn1⟩ := h1 hw
    obtain ⟨hw2, hd2, k2, hn2⟩ := h2 hw1
    refine ⟨hw2, hd2.trans hd1, k1 ++ k2, ?_⟩
    rw [fnRun_append_fst, ← hn1, ← hd1, hn2]
  footnote := by
    intro m st r st' h hw
    by_cases himg : st.inImage = true
    · rw [parseInlineFootnote_inImage cfg m st himg] at h
      cases h
      exact ⟨hw, rfl, [], rfl⟩
    · have himg' : st.inImage = false := by simpa using himg
      obtain ⟨env', heq, hw', hn, hother, _⟩ := parseInlineFootnote_step cfg m st hw himg'
      rw [heq] at h
      cases h
      exact ⟨hw', absDefs_congr (hother _ (by decide)), [_], hn⟩

/-! ### the block pass never creates `env["footnotes"]` -/

theorem blockParse_no_footnotes (cfg : MdCfg) (src : Str) (toks : List Json) (env : Json)
    (h : Model.blockParse cfg src = .ok (toks, env)) : env.get? "footnotes" = none := by
  have := Blk.blockParse_rel cfg _ (keepKey_envRel cfg "footnotes" (by decide) (by decide) (by decide)) src toks env h
  unfold KeepKey at this
  rw [this]; rfl

/-! ### the inline pass and the whole document -/

/-- **C14, inline pass: `render_state` runs the numbering machine.**  `render_state` (every `parse_inline_footnote` call of
every inline text of the document, including the speculative calls of `precedence_scan`, chained through the shared
`env`) leaves `env["ref_footnotes"]` as it was and turns `env["footnotes"]` into the notes list of `fnRun` over the
sequence of keys of those calls. -/
theorem renderState_notes (cfg : MdCfg) (toks : List Json) (env : Json) (result : List Json) (env' : Json)
    (h : renderState cfg toks env = .ok (result, env')) (hw : NotesWf env) :
    NotesWf env' ∧ absDefs env' = absDefs env ∧
      ∃ keys, absNotes env' = (fnRun (absDefs env) (absNotes env) keys).1 :=
  Hooks.renderState_rel cfg FnRel (fnRel_inlEnvRel cfg) toks env _ h hw

/-- one inline text: `InlineParser.__call__(s, env)` -/
theorem inlineParseEnv_notes (cfg : MdCfg) (env : Json) (src : Str) (toks : List Json) (env' : Json)
    (h : Model.inlineParseEnv cfg env src = .ok (toks, env')) (hw : NotesWf env) :
    NotesWf env' ∧ absDefs env' = absDefs env ∧
      ∃ keys, absNotes env' = (fnRun (absDefs env) (absNotes env) keys).1 :=
  Model.inlineParseEnv_rel cfg FnRel (fnRel_inlEnvRel cfg) env src _ h hw

/-- **C14 for the concrete model, whole document** (the three stages of `parseDoc` for a configuration with the
footnotes plugin: block pass, `render_state` on the — possibly hook-rewritten — block tokens, `md_footnotes_hook`).
There is a sequence `keys` (the keys of the inline handler calls) such that, with `notes` the machine's notes list
for the definitions of the block pass: `notes` has no duplicates, every note is defined and referenced, and the hook
appends nothing when `notes` is empty and otherwise exactly one `footnotes` token whose children are the
`footnote_item`s of `fnItems notes` — one per note, in order, numbered `1..n`. -/
theorem doc_footnotes (cfg : MdCfg) (src : Str) (toks toks' : List Json) (env : Json) (result : List Json) (env' : Json)
    (out : List Json)
    (hb : Model.blockParse cfg src = .ok (toks, env))
    (hr : renderState cfg toks' env = .ok (result, env'))
    (hh : mdFootnotesHook cfg result env' = .ok out) :
    ∃ keys : List Str,
      ((fnRun (absDefs env) [] keys).1).Nodup ∧
      (∀ k ∈ (fnRun (absDefs env) [] keys).1, k ∈ absDefs env ∧ k ∈ keys) ∧
      (((fnRun (absDefs env) [] keys).1 = [] ∧ out = result) ∨
       ((fnRun (absDefs env) [] keys).1 ≠ [] ∧ ∃ sect cs, out = result ++ [sect] ∧
          sect.get? "type" = some (Json.s "footnotes") ∧ sect.get? "children" = some (.arr cs) ∧
          cs.map keep = (fnItems (fnRun (absDefs env) [] keys).1).map
            (fun q => (some (Json.s "footnote_item"), some (itemAttrs q.1 q.2))))) := by
  have hnone := blockParse_no_footnotes cfg src toks env hb
  have hw : NotesWf env := Or.inl hnone
  obtain ⟨hw', _, keys, hn⟩ := renderState_notes cfg toks' env result env' hr hw
  rw [absNotes_none env hnone] at hn
  obtain ⟨h1, h2⟩ := fn_notes_nodup (absDefs env) keys
  refine ⟨keys, h1, h2, ?_⟩
  have := mdFootnotesHook_items cfg result env' hw' out hh
  rw [hn] at this
  exact this

/-- the three stages inside `parseDoc` for a configuration with the footnotes plugin (its inline rule and its hook,
no other `after_render` hook) -/
theorem parseDoc_stages (cfg : MdCfg) (s : Str) (out : List Json) (h : parseDoc cfg s = .ok out)
    (h1 : cfg.inlineRules.contains "footnote" = true) (h2 : cfg.afterRenderHooks = ["md_footnotes_hook"]) :
    ∃ toks env toks' result env', Model.blockParse cfg (norm s) = .ok (toks, env) ∧
      renderState cfg toks' env = .ok (result, env') ∧ mdFootnotesHook cfg result env' = .ok out := by
  revert out
  show Holds _ (parseDoc cfg s)
  unfold parseDoc
  extract_lets jp2 jp
  have hjp : Holds (fun a => ∃ toks env toks' result env', Model.blockParse cfg (norm s) = .ok (toks, env) ∧
      renderState cfg toks' env = .ok (result, env') ∧ mdFootnotesHook cfg result env' = .ok a) (jp ()) := by
    unfold jp
    dsimp only
    refine Holds.bind (Holds.self _) ?_
    rintro ⟨toks, env⟩ hb
    dsimp only
    refine Holds.bind (Holds.true _) (fun toks' _ => ?_)
    rw [if_pos h1]
    refine Holds.bind (Holds.self _) ?_
    rintro ⟨result, env'⟩ hr
    unfold jp2
    dsimp only
    rw [h2]
    unfold afterRender
    simp only [BEq.rfl, if_true]
    refine Holds.bind (Holds.self _) (fun o ho => ?_)
    unfold afterRender
    exact Holds.ok ⟨toks, env, toks', result, env', hb, hr, ho⟩
  clear_value jp
  split
  · exact Holds.throw_bind
  · exact hjp

/-- **C14 for `parseDoc` itself** (configurations with the footnotes plugin): `doc_footnotes` applied to the stages -/
theorem parseDoc_footnotes (cfg : MdCfg) (s : Str) (out : List Json) (h : parseDoc cfg s = .ok out)
    (h1 : cfg.inlineRules.contains "footnote" = true) (h2 : cfg.afterRenderHooks = ["md_footnotes_hook"]) :
    ∃ (defs keys : List Str) (result : List Json),
      ((fnRun defs [] keys).1).Nodup ∧
      (∀ k ∈ (fnRun defs [] keys).1, k ∈ defs ∧ k ∈ keys) ∧
      (((fnRun defs [] keys).1 = [] ∧ out = result) ∨
       ((fnRun defs [] keys).1 ≠ [] ∧ ∃ sect cs, out = result ++ [sect] ∧
          sect.get? "type" = some (Json.s "footnotes") ∧ sect.get? "children" = some (.arr cs) ∧
          cs.map keep = (fnItems (fnRun defs [] keys).1).map
            (fun q => (some (Json.s "footnote_item"), some (itemAttrs q.1 q.2))))) := by
  obtain ⟨toks, env, toks', result, env', hb, hr, hh⟩ := parseDoc_stages cfg s out h h1 h2
  obtain ⟨keys, hk⟩ := doc_footnotes cfg (norm s) toks toks' env result env' out hb hr hh
  exact ⟨absDefs env, keys, result, hk⟩

/-! ### non-vacuity -/

section Examples
open Mistune.Generated

example : (ofRuleCfg cfg_only_footnotes).inlineRules.contains "footnote" = true := by decide +kernel
example : (ofRuleCfg cfg_only_footnotes).afterRenderHooks = ["md_footnotes_hook"] := by decide +kernel
theorem isOk_of_docView {r : Except PyErr (List Json)} {v : List Int × List (Str × Int)} (h : docView r = some v) :
    isOk r = true := by
  cases r with
  | ok a => rfl
  | error e => cases h

example : isOk (parseDoc (ofRuleCfg cfg_only_footnotes) "a[^x] b[^Y] c[^x] d[^z]\n\n[^x]: one\n[^y]: two\n".toList) = true :=
  isOk_of_docView docView_footnotes

end Examples

end Model
end Mistune
