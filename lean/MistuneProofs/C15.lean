/-
C15 — the rendered table of contents is a well-formed nested list for EVERY sequence of heading levels,
lists every entry exactly once in order, and nests each entry under the closest preceding entry of
strictly smaller level (`ancSpec`).
-/
import Mistune.Toc
namespace Mistune

/-- levels strictly decreasing from the top of the stack -/
abbrev StackSorted (s : List Entry) : Prop := (s.map Prod.fst).Pairwise (· > ·)

/-- Non-accumulating version of `tocLoop`. -/
def loopOut : List Entry → List Entry → List Entry × List Ev
  | [], stack => (stack, [])
  | (level, i) :: rest, stack =>
    let r := tocStep stack level i
    let r' := loopOut rest r.1
    (r'.1, r.2 ++ r'.2)

theorem tocLoop_eq (items stack : List Entry) (out : List Ev) :
    tocLoop items stack out = ((loopOut items stack).1, out ++ (loopOut items stack).2) := by
  induction items generalizing stack out with
  | nil => simp [tocLoop, loopOut]
  | cons e rest ih =>
    obtain ⟨l, i⟩ := e
    simp [tocLoop, loopOut, ih, List.append_assoc]

/-- `popLoop` treats the stack as `tocStep` does (the two differ in the events they emit) -/
theorem tocStep_fst (l i : Nat) (S : List Entry) : (tocStep S l i).1 = (popLoop l i S).1 := by
  fun_cases tocStep S l i with
  | case1 => rfl
  | case2 => simp [popLoop]
  | case3 => simp [popLoop, *]
  | case4 => simp [popLoop, *]

/-! ### sortedness -/

/- The facts about `popLoop` go by induction along its own recursion: the stack is empty, its top has the new
level (`case2`), a smaller level (`case3`), or a larger one and is popped (`case4`, the recursive case). -/

theorem popLoop_sorted (l i : Nat) (S : List Entry) (h : StackSorted S) :
    StackSorted (popLoop l i S).1 := by
  fun_induction popLoop l i S with
  | case1 => simp [StackSorted]
  | case2 j rest => exact h
  | case3 last j rest hne hgt =>
    simp only [StackSorted, List.map_cons, List.pairwise_cons] at h ⊢
    refine ⟨?_, h⟩
    intro a ha
    rcases List.mem_cons.1 ha with rfl | ha
    · exact hgt
    · have := h.1 a ha; omega
  | case4 last j rest hne hgt r ih => exact ih (List.Pairwise.of_cons h)

theorem tocStep_sorted (l i : Nat) (S : List Entry) (h : StackSorted S) :
    StackSorted (tocStep S l i).1 := by
  rw [tocStep_fst]; exact popLoop_sorted l i S h

/-! ### head of the new stack -/

theorem popLoop_head (l i : Nat) (S : List Entry) :
    (popLoop l i S).1 = (l, i) :: (popLoop l i S).1.tail := by
  fun_induction popLoop l i S with
  | case4 _ _ _ _ _ _ ih => exact ih
  | _ => rfl

theorem tocStep_head (l i : Nat) (S : List Entry) :
    (tocStep S l i).1 = (l, i) :: (tocStep S l i).1.tail := by
  rw [tocStep_fst]; exact popLoop_head l i S

/-! ### ancestors -/

theorem popLoop_anc (l i : Nat) (S : List Entry) (q : Nat) (hq : q ≤ l) :
    ancOf (popLoop l i S).1.tail q = ancOf S q := by
  fun_induction popLoop l i S with
  | case1 => rfl
  | case2 j rest => simp [ancOf, Nat.not_lt.2 hq]
  | case3 last j rest hne hgt => rfl
  | case4 last j rest hne hgt r ih =>
    have : ¬ last < q := by omega
    simp only [ancOf, this, if_false]
    exact ih

theorem tocStep_anc (l i : Nat) (S : List Entry) (q : Nat) (hq : q ≤ l) :
    ancOf (tocStep S l i).1.tail q = ancOf S q := by
  rw [tocStep_fst]; exact popLoop_anc l i S q hq

theorem ancOf_sorted (S : List Entry) (q : Nat) (h : StackSorted S) (hq : ∀ e ∈ S, e.1 < q) :
    ancOf S q = S.map Prod.snd := by
  induction S generalizing q with
  | nil => simp [ancOf]
  | cons e rest ih =>
    obtain ⟨l, j⟩ := e
    simp only [StackSorted, List.map_cons, List.pairwise_cons] at h
    have hl : l < q := hq (l, j) (by simp)
    simp only [ancOf, hl, if_true, List.map_cons]
    congr 1
    apply ih l h.2
    intro e he
    exact h.1 e.1 (List.mem_map.2 ⟨e, he, rfl⟩)

theorem tocStep_tail_anc (l i : Nat) (S : List Entry) (h : StackSorted S) :
    (tocStep S l i).1.tail.map Prod.snd = ancOf S l := by
  have hs := tocStep_sorted l i S h
  rw [tocStep_head] at hs
  simp only [StackSorted, List.map_cons, List.pairwise_cons] at hs
  rw [← tocStep_anc l i S l (Nat.le_refl _)]
  symm
  apply ancOf_sorted _ _ hs.2
  intro e he
  exact hs.1 e.1 (List.mem_map.2 ⟨e, he, rfl⟩)

/-! ### checker -/

/-- checker stack corresponding to a model stack -/
def opens : List Entry → List Open
  | [] => []
  | (_, i) :: rest => .li (some i) :: .ul :: opens rest

theorem filterMap_opens (f : Open → Option Nat) (h1 : ∀ j, f (.li (some j)) = some j)
    (h2 : f .ul = none) (S : List Entry) :
    (opens S).filterMap f = S.map Prod.snd := by
  induction S with
  | nil => simp [opens]
  | cons e rest ih =>
    obtain ⟨l, j⟩ := e
    simp [opens, ih, h1, h2]

theorem popLoop_check (l i : Nat) (S : List Entry) (j : Nat) (k : List Ev)
    (acc : List (Nat × List Nat)) :
    checkEvs ((popLoop l i S).2 ++ k) (.li (some j) :: .ul :: opens S) acc
      = checkEvs k (opens (popLoop l i S).1)
          (acc ++ [(i, (popLoop l i S).1.tail.map Prod.snd)]) := by
  fun_induction popLoop l i S generalizing j with
  | case4 last j' rest hne hgt r ih =>
    simp only [List.cons_append, List.nil_append, checkEvs, opens]
    exact ih j'
  | _ => simp [checkEvs, opens, filterMap_opens]

theorem tocStep_check (l i : Nat) (S : List Entry) (hS : S ≠ []) (k : List Ev)
    (acc : List (Nat × List Nat)) :
    checkEvs ((tocStep S l i).2 ++ k) (opens S) acc
      = checkEvs k (opens (tocStep S l i).1)
          (acc ++ [(i, (tocStep S l i).1.tail.map Prod.snd)]) := by
  fun_cases tocStep S l i with
  | case1 => exact absurd rfl hS
  | case4 top j rest _ _ => exact popLoop_check l i rest j k acc
  | _ => simp [checkEvs, opens, filterMap_opens]

theorem tocStep_ne_nil (l i : Nat) (S : List Entry) : (tocStep S l i).1 ≠ [] := by
  rw [tocStep_head]; simp

theorem closeAll_check (S : List Entry) (hS : S ≠ []) (acc : List (Nat × List Nat)) :
    checkEvs (closeAll S ++ [.liClose, .nl, .ulClose, .nl]) (opens S) acc = some ([], acc) := by
  fun_induction closeAll S with
  | case1 => exact absurd rfl hS
  | case2 e => simp [checkEvs, opens]
  | case3 e rest hne ih => simpa [checkEvs, opens] using ih hne

theorem loopOut_ne_nil (items S : List Entry) (hS : S ≠ []) : (loopOut items S).1 ≠ [] := by
  induction items generalizing S with
  | nil => simpa [loopOut] using hS
  | cons e rest ih =>
    obtain ⟨l, i⟩ := e
    simp only [loopOut]
    exact ih _ (tocStep_ne_nil l i S)

/-- `rp` is the reversed list of the entries already consumed, which `ancSpec.go` scans for ancestors; the model
keeps only the stack `S` of entries still open.  `J`: at every level both name the same ancestors (an entry popped
off the stack is hidden behind a later entry of smaller or equal level in `rp` too). -/
theorem loopOut_check (items S rp : List Entry) (hS : S ≠ []) (hs : StackSorted S)
    (J : ∀ q, ancOf rp q = ancOf S q) (k : List Ev) (acc : List (Nat × List Nat)) :
    checkEvs ((loopOut items S).2 ++ k) (opens S) acc
      = checkEvs k (opens (loopOut items S).1) (acc ++ ancSpec.go items rp) := by
  induction items generalizing S rp acc with
  | nil => simp [loopOut, ancSpec.go]
  | cons e rest ih =>
    obtain ⟨l, i⟩ := e
    simp only [loopOut, ancSpec.go, List.append_assoc]
    rw [tocStep_check l i S hS]
    rw [ih (tocStep S l i).1 ((l, i) :: rp) (tocStep_ne_nil l i S) (tocStep_sorted l i S hs)]
    · rw [tocStep_tail_anc l i S hs, ← J l]
      simp [List.append_assoc]
    · intro q
      rw [tocStep_head]
      simp only [ancOf]
      split
      · rw [tocStep_anc l i S l (Nat.le_refl _), J l]
      · rw [tocStep_anc l i S q (by omega), J q]

/-! ### shape of the rendered stream -/

theorem renderToc_cons (l0 : Nat) (ls : List Nat) :
    renderToc (l0 :: ls) =
      [.ulOpen, .nl, .liOpen, .item 0] ++
        ((loopOut (ls.zipIdx 1) [(l0, 0)]).2 ++
          (closeAll (loopOut (ls.zipIdx 1) [(l0, 0)]).1 ++ [.liClose, .nl, .ulClose, .nl])) := by
  simp [renderToc, List.zipIdx_cons, tocLoop_eq, loopOut, tocStep]

/-! ### items -/

def itemF : Ev → Option Nat
  | .item i => some i
  | _ => none

@[simp] theorem itemF_item (i : Nat) : itemF (.item i) = some i := rfl
@[simp] theorem itemF_ulOpen : itemF .ulOpen = none := rfl
@[simp] theorem itemF_ulClose : itemF .ulClose = none := rfl
@[simp] theorem itemF_liOpen : itemF .liOpen = none := rfl
@[simp] theorem itemF_liClose : itemF .liClose = none := rfl
@[simp] theorem itemF_nl : itemF .nl = none := rfl

theorem popLoop_items (l i : Nat) (S : List Entry) : (popLoop l i S).2.filterMap itemF = [i] := by
  fun_induction popLoop l i S with
  | case4 _ _ _ _ _ _ ih => simpa [List.filterMap_cons] using ih
  | _ => simp [List.filterMap_cons]

theorem tocStep_items (l i : Nat) (S : List Entry) : (tocStep S l i).2.filterMap itemF = [i] := by
  fun_cases tocStep S l i with
  | case4 => exact popLoop_items l i _
  | _ => simp [List.filterMap_cons]

theorem loopOut_items (items S : List Entry) :
    (loopOut items S).2.filterMap itemF = items.map Prod.snd := by
  induction items generalizing S with
  | nil => simp [loopOut]
  | cons e rest ih =>
    obtain ⟨l, i⟩ := e
    simp [loopOut, tocStep_items, ih]

theorem closeAll_items (S : List Entry) : (closeAll S).filterMap itemF = [] := by
  fun_induction closeAll S with
  | case3 _ _ _ ih => simpa [List.filterMap_cons] using ih
  | _ => rfl

/-- **C15 (well-formed, complete, correctly nested).** For every list of levels (arbitrary naturals, any
length, any jumps) the event stream of `render_toc_ul` passes the content-model checker with nothing left
open, and the enclosing entries recorded for each item are exactly the specified ancestor chain. -/
theorem toc_wf (levels : List Nat) : checkEvs (renderToc levels) [] [] = some ([], ancSpec levels) := by
  cases levels with
  | nil => simp [renderToc, checkEvs, ancSpec, ancSpec.go]
  | cons l0 ls =>
    rw [renderToc_cons]
    simp only [List.cons_append, List.nil_append, checkEvs, List.filterMap_cons, List.filterMap_nil]
    show checkEvs _ (opens [(l0, 0)]) _ = _
    rw [loopOut_check (ls.zipIdx 1) [(l0, 0)] [(l0, 0)] (by simp) (by simp [StackSorted])
      (fun _ => rfl)]
    rw [closeAll_check _ (loopOut_ne_nil _ _ (by simp))]
    simp [ancSpec, ancSpec.go, List.zipIdx_cons, ancOf]

/-- **C15 (entries).** The items emitted are exactly the entries `0 … n-1`, once each, in order. -/
theorem toc_items (levels : List Nat) :
    (renderToc levels).filterMap (fun e => match e with | .item i => some i | _ => none)
      = List.range levels.length := by
  have hf : (fun e : Ev => match e with | .item i => some i | _ => none) = itemF := by
    funext e; cases e <;> rfl
  rw [hf]
  cases levels with
  | nil => simp [renderToc]
  | cons l0 ls =>
    rw [renderToc_cons]
    simp only [List.filterMap_append, loopOut_items, closeAll_items, List.zipIdx_map_snd]
    simp [List.filterMap_cons, List.range_eq_range', List.range'_succ]

/-- The stack of open levels is strictly increasing from bottom to top after every prefix of the input. -/
theorem toc_stack_sorted (items : List Entry) (stack : List Entry) (out : List Ev)
    (h : (stack.map Prod.fst).Pairwise (· > ·)) :
    ((tocLoop items stack out).1.map Prod.fst).Pairwise (· > ·) := by
  induction items generalizing stack out with
  | nil => simpa [tocLoop] using h
  | cons e rest ih =>
    obtain ⟨l, i⟩ := e
    simp only [tocLoop]
    exact ih _ _ (tocStep_sorted l i stack h)

end Mistune
