/-
C16 — line-ending style does not matter.  `Markdown.parse` starts by `norm`; everything after it is a
function of `norm s` only (tied by the correspondence: `state.src` of the real parser equals `norm s`).
-/
import MistuneProofs.C18
namespace Mistune

/-- Replace every line ending (`\r\n`, lone `\r`, lone `\n`; `\r\n` read greedily, as every consumer does)
by the ending `e`. -/
def endsTo (e : Str) : Str → Str
  | '\r' :: '\n' :: r => e ++ endsTo e r
  | '\r' :: r => e ++ endsTo e r
  | '\n' :: r => e ++ endsTo e r
  | c :: r => c :: endsTo e r
  | [] => []

/-- the two `replace` statements -/
def crNorm (s : Str) : Str := replace1 '\r' ['\n'] (replCRLF s)

def addNl (s : Str) : Str := if s.getLast? = some '\n' then s else s ++ ['\n']

theorem norm_eq (s : Str) : norm s = addNl (crNorm s) := rfl

/-- Induction over a string read as a sequence of line-ending tokens and ordinary characters. -/
theorem ends_induct (P : Str → Prop) (hnil : P [])
    (hcrlf : ∀ r, P r → P ('\r' :: '\n' :: r))
    (hcr : ∀ r, (∀ r', r ≠ '\n' :: r') → P r → P ('\r' :: r))
    (hlf : ∀ r, P r → P ('\n' :: r))
    (hother : ∀ c r, c ≠ '\r' → c ≠ '\n' → P r → P (c :: r)) : ∀ s, P s := by
  intro s
  fun_induction endsTo [] s with
  | case1 r ih => exact hcrlf r ih
  | case2 r h ih => exact hcr r (fun r' e => h r' e) ih
  | case3 r ih => exact hlf r ih
  | case4 c r h1 h2 h3 ih => exact hother c r h2 h3 ih
  | case5 => exact hnil

theorem endsTo_crlf (e r) : endsTo e ('\r' :: '\n' :: r) = e ++ endsTo e r := by simp [endsTo]
theorem endsTo_lf (e r) : endsTo e ('\n' :: r) = e ++ endsTo e r := by simp [endsTo]
theorem endsTo_cr (e r) (h : ∀ r', r ≠ '\n' :: r') : endsTo e ('\r' :: r) = e ++ endsTo e r := by
  rw [endsTo]; intro r' e; exact h r' e
theorem endsTo_other (e c r) (h1 : c ≠ '\r') (h2 : c ≠ '\n') : endsTo e (c :: r) = c :: endsTo e r := by
  rw [endsTo]
  · intro _ e; exact absurd e h1
  · intro e; exact absurd e h1
  · intro e; exact absurd e h2
theorem replCRLF_crlf (r) : replCRLF ('\r' :: '\n' :: r) = '\n' :: replCRLF r := by simp [replCRLF]
theorem replCRLF_cr (r) (h : ∀ r', r ≠ '\n' :: r') : replCRLF ('\r' :: r) = '\r' :: replCRLF r := by
  rw [replCRLF]; intro r' _ e; exact h r' e
theorem replCRLF_other (c r) (h1 : c ≠ '\r') : replCRLF (c :: r) = c :: replCRLF r := by
  rw [replCRLF]; intro r' e _; exact h1 e

/-- The two `replace` calls together turn every line ending into `\n`. -/
theorem crNorm_eq_endsTo (s : Str) : crNorm s = endsTo ['\n'] s := by
  unfold crNorm
  induction s using ends_induct with
  | hnil => simp [replCRLF, replace1, endsTo]
  | hcrlf r ih => rw [replCRLF_crlf, endsTo_crlf, replace1_cons, ih]; simp
  | hcr r h ih => rw [replCRLF_cr r h, endsTo_cr _ r h, replace1_cons, ih]; simp
  | hlf r ih => rw [replCRLF_other _ _ (by decide), endsTo_lf, replace1_cons, ih]; simp
  | hother c r h1 h2 ih => rw [replCRLF_other _ _ h1, endsTo_other _ _ _ h1 h2, replace1_cons, ih]; simp [h1]

/-- no line ending written as a lone CR is followed by LF -/
theorem endsTo_cr_shape (s : Str) : ∀ r', endsTo ['\r'] s ≠ '\n' :: r' := by
  induction s using ends_induct with
  | hnil => simp [endsTo]
  | hcrlf r ih => simp [endsTo_crlf]
  | hcr r h ih => rw [endsTo_cr _ r h]; simp
  | hlf r ih => rw [endsTo_lf]; simp
  | hother c r h1 h2 ih => rw [endsTo_other _ _ _ h1 h2]; simp [h2]

/-- Rewriting the endings as `e` and then as LF is rewriting them as LF, for every `e` that is read back as one
ending in front of a rewritten text. -/
theorem endsTo_lf_endsTo (e : Str)
    (he : ∀ r, endsTo ['\n'] (e ++ endsTo e r) = '\n' :: endsTo ['\n'] (endsTo e r)) (s : Str) :
    endsTo ['\n'] (endsTo e s) = endsTo ['\n'] s := by
  induction s using ends_induct with
  | hnil => simp [endsTo]
  | hcrlf r ih => rw [endsTo_crlf, endsTo_crlf, he, ih]; rfl
  | hcr r h ih => rw [endsTo_cr _ r h, endsTo_cr _ r h, he, ih]; rfl
  | hlf r ih => rw [endsTo_lf, endsTo_lf, he, ih]; rfl
  | hother c r h1 h2 ih => rw [endsTo_other _ _ _ h1 h2, endsTo_other _ _ _ h1 h2, endsTo_other _ _ _ h1 h2, ih]

theorem endsTo_lf_crlf (s : Str) : endsTo ['\n'] (endsTo ['\r', '\n'] s) = endsTo ['\n'] s :=
  endsTo_lf_endsTo _ (fun _ => endsTo_crlf _ _) s

theorem endsTo_lf_cr (s : Str) : endsTo ['\n'] (endsTo ['\r'] s) = endsTo ['\n'] s :=
  endsTo_lf_endsTo _ (fun r => endsTo_cr _ _ (endsTo_cr_shape r)) s

theorem endsTo_lf_lf (s : Str) : endsTo ['\n'] (endsTo ['\n'] s) = endsTo ['\n'] s :=
  endsTo_lf_endsTo _ (fun _ => endsTo_lf _ _) s

/-- **C16 (CRLF).** Rewriting every line ending of any input as CRLF does not change the normalised text. -/
theorem norm_crlf (s : Str) : norm (endsTo ['\r', '\n'] s) = norm s := by
  simp only [norm_eq, crNorm_eq_endsTo, endsTo_lf_crlf]

/-- **C16 (lone CR).** Rewriting every line ending as a lone CR does not change the normalised text. -/
theorem norm_cr (s : Str) : norm (endsTo ['\r'] s) = norm s := by
  simp only [norm_eq, crNorm_eq_endsTo, endsTo_lf_cr]

/-- **C16 (LF).** …and rewriting them as LF, which is what normalisation itself does, changes nothing either. -/
theorem norm_lf (s : Str) : norm (endsTo ['\n'] s) = norm s := by
  simp only [norm_eq, crNorm_eq_endsTo, endsTo_lf_lf]

/-- **C16 (mixed).** Any per-ending choice among LF / CRLF / CR gives the same normal form, as long as the
rewritten text is read back as the same sequence of endings (stated through `endsTo`: two texts with the
same LF-form have the same normal form). -/
theorem norm_of_same_lf_form (s t : Str) (h : endsTo ['\n'] s = endsTo ['\n'] t) : norm s = norm t := by
  simp only [norm_eq, crNorm_eq_endsTo, h]

theorem norm_ends_nl (s : Str) : (norm s).getLast? = some '\n' := by
  rw [norm_eq]; unfold addNl; split
  · assumption
  · simp

theorem getLast?_cons_ne_nil (c : Char) (r : Str) (h : r ≠ []) : (c :: r).getLast? = r.getLast? := by
  obtain ⟨a, b, e⟩ := List.exists_cons_of_ne_nil h
  subst e; simp [List.getLast?_cons_cons]

theorem endsTo_ne_nil (e s : Str) (he : e ≠ []) (hs : s ≠ []) : endsTo e s ≠ [] := by
  induction s using ends_induct with
  | hnil => exact absurd rfl hs
  | hcrlf r _ => rw [endsTo_crlf]; simp [he]
  | hcr r h _ => rw [endsTo_cr _ r h]; simp [he]
  | hlf r _ => rw [endsTo_lf]; simp [he]
  | hother c r h1 h2 _ => rw [endsTo_other _ _ _ h1 h2]; simp

theorem addNl_append (p t : Str) (ht : t ≠ []) : addNl (p ++ t) = p ++ addNl t := by
  unfold addNl
  rw [List.getLast?_append]
  obtain ⟨a, b, e⟩ := List.exists_cons_of_ne_nil ht
  cases hl : t.getLast? with
  | none => subst e; simp at hl
  | some z => simp only [Option.some_or]; split <;> simp_all

theorem endsTo_lf_append_nl (s : Str) (h : s.getLast? ≠ some '\n') :
    endsTo ['\n'] (s ++ ['\n']) = addNl (endsTo ['\n'] s) := by
  -- behind a first token written as `p`, the final newline is supplied to the rest, which is not empty
  have hadd : ∀ p r : Str, r ≠ [] → p ++ addNl (endsTo ['\n'] r) = addNl (p ++ endsTo ['\n'] r) :=
    fun p r hr => (addNl_append p _ (endsTo_ne_nil ['\n'] r (by simp) hr)).symm
  induction s using ends_induct with
  | hnil => simp [endsTo, addNl]
  | hcrlf r ih =>
    by_cases hr : r = []
    · subst hr; simp at h
    · rw [getLast?_cons_ne_nil _ _ (by simp), getLast?_cons_ne_nil _ _ hr] at h
      have ih := ih h
      simp only [List.cons_append, endsTo_crlf, ih]
      exact hadd ['\n'] r hr
  | hcr r h' ih =>
    by_cases hr : r = []
    · subst hr; simp [endsTo_crlf, endsTo, addNl]
    · rw [getLast?_cons_ne_nil _ _ hr] at h
      have ih := ih h
      have h'' : ∀ r', r ++ ['\n'] ≠ '\n' :: r' := by
        intro r' e
        obtain ⟨a, b, e'⟩ := List.exists_cons_of_ne_nil hr
        subst e'; simp at e; exact h' b (by rw [e.1])
      simp only [List.cons_append]
      rw [endsTo_cr _ _ h'', endsTo_cr _ _ h', ih]
      exact hadd ['\n'] r hr
  | hlf r ih =>
    by_cases hr : r = []
    · subst hr; simp at h
    · rw [getLast?_cons_ne_nil _ _ hr] at h
      have ih := ih h
      simp only [List.cons_append, endsTo_lf, ih]
      exact hadd ['\n'] r hr
  | hother c r h1 h2 ih =>
    by_cases hr : r = []
    · subst hr
      simp [endsTo_other _ _ _ h1 h2, endsTo_lf, endsTo, addNl, h2]
    · rw [getLast?_cons_ne_nil _ _ hr] at h
      have ih := ih h
      simp only [List.cons_append]
      rw [endsTo_other _ _ _ h1 h2, endsTo_other _ _ _ h1 h2, ih]
      exact hadd [c] r hr

theorem addNl_idem (s : Str) : addNl (addNl s) = addNl s := by
  unfold addNl; split
  · simp [*]
  · simp

/-- **C16 (missing final newline).** Supplying the final newline an input lacks changes nothing. -/
theorem norm_append_nl (s : Str) (h : s.getLast? ≠ some '\n') : norm (s ++ ['\n']) = norm s := by
  simp only [norm_eq, crNorm_eq_endsTo]
  rw [endsTo_lf_append_nl s h, addNl_idem]

/-- **C16 (empty / None).** `Markdown.__call__` maps `None` to `"\n"`, which is the normal form of `""`. -/
theorem norm_empty : norm [] = ['\n'] := by decide

theorem norm_none_eq_empty : norm ['\n'] = norm [] := by decide

end Mistune
