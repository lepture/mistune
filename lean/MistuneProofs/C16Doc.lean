/-
C16 at document level — line-ending style does not matter for the concrete model's whole-document function.

`Model.parseDoc cfg s` (the transcription of `Markdown.parse` with `renderer=None`) reads its argument only through
`norm s` (the two `replace` statements and the final-newline completion at the head of `Markdown.parse`), and so
does the block-level entry `Model.blockParse cfg (norm s)`.  The laws of `norm` proved in `MistuneProofs.C16`
therefore lift, for EVERY configuration object `cfg : MdCfg` (not only the regenerated ones) and EVERY string.

`Markdown.parse("")`: `"".endswith("\n")` is false, hence `s` becomes `"\n"`: the empty document and the document
`"\n"` are parsed identically (`parseDoc_empty`), which is also what `Markdown.__call__(None)` is mapped to.
-/
import Mistune.Model.Doc
import MistuneProofs.C16
namespace Mistune
namespace Model

/-- `parseDoc` is a function of the normalised text only. -/
theorem parseDoc_congr_norm (cfg : MdCfg) (s t : Str) (h : norm s = norm t) : parseDoc cfg s = parseDoc cfg t := by
  unfold parseDoc; rw [h]

/-- the block-level entry on the normalised text -/
theorem blockParse_congr_norm (cfg : MdCfg) (s t : Str) (h : norm s = norm t) :
    blockParse cfg (norm s) = blockParse cfg (norm t) := by rw [h]

/-- **C16 (document, CRLF).** Rewriting every line ending as CRLF does not change the parse. -/
theorem parseDoc_crlf (cfg : MdCfg) (s : Str) : parseDoc cfg (endsTo ['\r', '\n'] s) = parseDoc cfg s :=
  parseDoc_congr_norm cfg _ _ (norm_crlf s)

/-- **C16 (document, lone CR).** -/
theorem parseDoc_cr (cfg : MdCfg) (s : Str) : parseDoc cfg (endsTo ['\r'] s) = parseDoc cfg s :=
  parseDoc_congr_norm cfg _ _ (norm_cr s)

/-- **C16 (document, LF).** -/
theorem parseDoc_lf (cfg : MdCfg) (s : Str) : parseDoc cfg (endsTo ['\n'] s) = parseDoc cfg s :=
  parseDoc_congr_norm cfg _ _ (norm_lf s)

/-- **C16 (document): the CRLF form, the CR form and the LF form of a text parse identically.** -/
theorem parseDoc_crlf_cr_lf (cfg : MdCfg) (s : Str) :
    parseDoc cfg (endsTo ['\r', '\n'] s) = parseDoc cfg (endsTo ['\r'] s) ∧
    parseDoc cfg (endsTo ['\r'] s) = parseDoc cfg (endsTo ['\n'] s) := by
  simp only [parseDoc_crlf, parseDoc_cr, parseDoc_lf, and_self]

/-- **C16 (document, mixed).** Two texts with the same LF form (any per-ending choice among LF / CRLF / CR) parse
identically. -/
theorem parseDoc_of_same_lf_form (cfg : MdCfg) (s t : Str) (h : endsTo ['\n'] s = endsTo ['\n'] t) :
    parseDoc cfg s = parseDoc cfg t :=
  parseDoc_congr_norm cfg _ _ (norm_of_same_lf_form s t h)

/-- **C16 (document, missing final newline).** -/
theorem parseDoc_append_nl (cfg : MdCfg) (s : Str) (h : s.getLast? ≠ some '\n') :
    parseDoc cfg (s ++ ['\n']) = parseDoc cfg s :=
  parseDoc_congr_norm cfg _ _ (norm_append_nl s h)

/-- **C16 (document, empty).** `Markdown.parse("")` sets `s = "\n"`: same parse as `"\n"` (and as `md(None)`). -/
theorem parseDoc_empty (cfg : MdCfg) : parseDoc cfg [] = parseDoc cfg ['\n'] :=
  parseDoc_congr_norm cfg _ _ norm_none_eq_empty.symm

/-! the same for the block pass -/

theorem blockParse_crlf (cfg : MdCfg) (s : Str) :
    blockParse cfg (norm (endsTo ['\r', '\n'] s)) = blockParse cfg (norm s) := by rw [norm_crlf]
theorem blockParse_cr (cfg : MdCfg) (s : Str) :
    blockParse cfg (norm (endsTo ['\r'] s)) = blockParse cfg (norm s) := by rw [norm_cr]
theorem blockParse_lf (cfg : MdCfg) (s : Str) :
    blockParse cfg (norm (endsTo ['\n'] s)) = blockParse cfg (norm s) := by rw [norm_lf]
theorem blockParse_of_same_lf_form (cfg : MdCfg) (s t : Str) (h : endsTo ['\n'] s = endsTo ['\n'] t) :
    blockParse cfg (norm s) = blockParse cfg (norm t) := by rw [norm_of_same_lf_form s t h]
theorem blockParse_append_nl (cfg : MdCfg) (s : Str) (h : s.getLast? ≠ some '\n') :
    blockParse cfg (norm (s ++ ['\n'])) = blockParse cfg (norm s) := by rw [norm_append_nl s h]
theorem blockParse_empty (cfg : MdCfg) : blockParse cfg (norm []) = blockParse cfg (norm ['\n']) := by
  rw [norm_none_eq_empty]

/-! ### Non-vacuity: the three forms really differ as strings, the hypotheses are satisfiable, and the parse is a
real one (`core` configuration, a heading followed by a paragraph). -/

example : endsTo ['\r', '\n'] "# a\nb".toList = "# a\r\nb".toList := by decide +kernel
example : endsTo ['\r'] "# a\r\nb\n".toList = "# a\rb\r".toList := by decide +kernel
example : endsTo ['\r', '\n'] "# a\nb".toList ≠ endsTo ['\r'] "# a\nb".toList := by decide +kernel
/-- a mixed text and a pure-LF text with the same LF form -/
example : endsTo ['\n'] "a\r\nb\rc\n".toList = endsTo ['\n'] "a\nb\nc\n".toList := by decide +kernel
example : "a\r\nb\rc\n".toList ≠ "a\nb\nc\n".toList := by decide +kernel
example : ("# a\nb".toList).getLast? ≠ some '\n' := by decide +kernel

/-- the parse these examples talk about is a real one: the model evaluates `# a⏎b` (CRLF form, given without final
newline) to a token list, in the kernel -/
example : (match parseDoc (ofRuleCfg Generated.cfg_core) "# a\r\nb".toList with
    | .ok toks => toks.length == 2 | .error _ => false) = true := by decide +kernel
example : parseDoc (ofRuleCfg Generated.cfg_core) "# a\r\nb".toList
    = parseDoc (ofRuleCfg Generated.cfg_core) "# a\nb\n".toList :=
  (parseDoc_of_same_lf_form _ "# a\r\nb".toList "# a\nb".toList (by decide +kernel)).trans
    (parseDoc_append_nl _ "# a\nb".toList (by decide +kernel)).symm

#print axioms parseDoc_crlf_cr_lf
#print axioms parseDoc_of_same_lf_form
#print axioms parseDoc_append_nl
#print axioms parseDoc_empty
#print axioms blockParse_of_same_lf_form

end Model
end Mistune
