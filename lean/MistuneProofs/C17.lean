/-
C17 — the command-line tool is a faithful front end: for every conversion function, flag combination,
file system and non-empty content.
-/
import Mistune.Cli
namespace Mistune

variable (conv : ConvCfg → Str → Str) (fs : Str → Option Str)

/-- Python's `if args.message:` and the like: a non-empty string is truthy -/
theorem truthyStr_some {c : Str} (hc : c ≠ []) : truthyStr (some c) = true := by
  cases c with
  | nil => exact absurd rfl hc
  | cons _ _ => rfl

theorem truthyStr_none : truthyStr none = false := rfl

/-- **C17 (stdout).** A non-empty message is converted under `cfgOf args` and printed followed by a newline. -/
theorem cli_message_stdout (a : CliArgs) (c : Str) (hc : c ≠ []) (ho : truthyStr a.output = false)
    (stdin : Option Str) :
    cli conv fs { a with message := some c } stdin = .stdout (conv (cfgOf a) c ++ ['\n']) := by
  simp [cli, truthyStr_some hc, cliOutput, cfgOf, ho]

/-- **C17 (output file).** With `-o path` the file receives exactly the library's text (no newline added). -/
theorem cli_message_file (a : CliArgs) (c p : Str) (hc : c ≠ []) (hp : p ≠ []) (stdin : Option Str) :
    cli conv fs { a with message := some c, output := some p } stdin = .file p (conv (cfgOf a) c) := by
  simp [cli, truthyStr_some hc, truthyStr_some hp, cliOutput, cfgOf]

/-- **C17 (channels agree).** The same non-empty content supplied via `-m`, via `-f` (a file holding it) or on
standard input gives the same outcome, whatever the other flags. -/
theorem cli_channels_agree (a : CliArgs) (c f : Str) (hc : c ≠ []) (hf : f ≠ []) (hfs : fs f = some c)
    (stdin : Option Str) :
    cli conv fs { a with message := some c, file := none } stdin
      = cli conv fs { a with message := none, file := some f } stdin
    ∧ cli conv fs { a with message := some c, file := none } stdin
      = cli conv fs { a with message := none, file := none } (some c) := by
  simp [cli, truthyStr_some hc, truthyStr_some hf, truthyStr_none, cliOutput, cfgOf, hfs]

/-- **C17 (flag mapping).** Each flag reaches the documented `create_markdown` argument; plugins default to the
documented list exactly when no `-p` is given. -/
theorem cfgOf_flags (a : CliArgs) :
    (cfgOf a).escape = a.escape ∧ (cfgOf a).hardWrap = a.hardwrap ∧ (cfgOf a).renderer = a.renderer ∧
    (a.plugin = none → (cfgOf a).plugins = defaultPlugins) ∧
    (∀ p, p ≠ [] → a.plugin = some p → (cfgOf a).plugins = p) := by
  refine ⟨rfl, rfl, rfl, ?_, ?_⟩
  · intro h; simp [cfgOf, h]
  · intro p hp h
    cases p with
    | nil => exact absurd rfl hp
    | cons x xs => simp [cfgOf, h]

/-- `-m` wins over `-f` and over standard input. -/
theorem cli_message_wins (a : CliArgs) (c : Str) (hc : c ≠ []) (s1 s2 : Option Str) (f1 f2 : Option Str) :
    cli conv fs { a with message := some c, file := f1 } s1 = cli conv fs { a with message := some c, file := f2 } s2 := by
  simp [cli, truthyStr_some hc, cliOutput, cfgOf]

/-- non-vacuity -/
example : cli (fun _ s => s ++ "!".toList) (fun _ => none) { message := some "hi".toList } none
    = .stdout "hi!\n".toList := by decide

end Mistune
