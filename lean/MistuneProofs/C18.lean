/-
C18 — escaping and key utilities are safe and stable.  Theorems about `Mistune.Util` for ALL strings.
-/
import Mistune.Util
namespace Mistune

theorem replace1_append (c : Char) (r a b : Str) :
    replace1 c r (a ++ b) = replace1 c r a ++ replace1 c r b := by
  simp [replace1, List.flatMap_append]

theorem replace1_cons (c : Char) (r : Str) (x : Char) (s : Str) :
    replace1 c r (x :: s) = (if x = c then r else [x]) ++ replace1 c r s := by
  simp [replace1]

theorem replace1_single (c : Char) (r : Str) (x : Char) :
    replace1 c r [x] = if x = c then r else [x] := by
  simp [replace1]

theorem escape_append (q : Bool) (a b : Str) : escape q (a ++ b) = escape q a ++ escape q b := by
  cases q <;> simp only [escape, replace1_append] <;> rfl

/-- On one character the chain acts as `escChar`: no replacement text contains a character that a later
call replaces (evaluated for the three or four texts), and any other character passes all calls. -/
theorem escape_single (q : Bool) (x : Char) : escape q [x] = escChar q x := by
  unfold escChar
  split
  · subst x; cases q <;> rfl
  split
  · subst x; cases q <;> rfl
  split
  · subst x; cases q <;> rfl
  split
  · next h => obtain ⟨rfl, rfl⟩ := h; rfl
  · next h1 h2 h3 h4 =>
    simp only [escape, replace1_single, if_neg h1, if_neg h2, if_neg h3]
    cases q
    · rfl
    · rw [if_pos rfl, if_neg (fun h => h4 ⟨h, rfl⟩)]

/-- The chain of `str.replace` calls (in mistune's order, `&` first) is the per-character map. -/
theorem escape_eq_flatMap (q : Bool) (s : Str) : escape q s = s.flatMap (escChar q) := by
  induction s with
  | nil => cases q <;> rfl
  | cons c s ih => rw [← List.singleton_append, escape_append, escape_single, ih]; rfl

theorem entity_no_special :
    ∀ e ∈ ["&amp;".toList, "&lt;".toList, "&gt;".toList, "&quot;".toList],
      ∀ x ∈ e, x ≠ '<' ∧ x ≠ '>' ∧ x ≠ '"' := by
  decide +kernel

theorem escChar_no_special (q : Bool) (c x : Char) (hx : x ∈ escChar q c) :
    x ≠ '<' ∧ x ≠ '>' ∧ (q = true → x ≠ '"') := by
  have ent : ∀ e ∈ ["&amp;".toList, "&lt;".toList, "&gt;".toList, "&quot;".toList], x ∈ e →
      x ≠ '<' ∧ x ≠ '>' ∧ (q = true → x ≠ '"') :=
    fun e he hx => have h := entity_no_special e he x hx; ⟨h.1, h.2.1, fun _ => h.2.2⟩
  unfold escChar at hx
  split at hx
  · exact ent _ (.head _) hx
  split at hx
  · exact ent _ (.tail _ (.head _)) hx
  split at hx
  · exact ent _ (.tail _ (.tail _ (.head _))) hx
  split at hx
  · exact ent _ (.tail _ (.tail _ (.tail _ (.head _)))) hx
  · next _ h2 h3 h4 =>
    obtain rfl := List.mem_singleton.1 hx
    exact ⟨h2, h3, fun hq hc => h4 ⟨hc, hq⟩⟩

/-- **C18 (escape, safety).** `escape` output never contains `<` or `>`, nor `"` when quoting. -/
theorem escape_no_specials (q : Bool) (s : Str) :
    '<' ∉ escape q s ∧ '>' ∉ escape q s ∧ (q = true → '"' ∉ escape q s) := by
  rw [escape_eq_flatMap]
  refine ⟨?_, ?_, ?_⟩
  · intro h; obtain ⟨c, _, hc⟩ := List.mem_flatMap.1 h; exact (escChar_no_special q c _ hc).1 rfl
  · intro h; obtain ⟨c, _, hc⟩ := List.mem_flatMap.1 h; exact (escChar_no_special q c _ hc).2.1 rfl
  · intro hq h; obtain ⟨c, _, hc⟩ := List.mem_flatMap.1 h; exact (escChar_no_special q c _ hc).2.2 hq rfl

theorem decodeBasic_escChar (q : Bool) (c : Char) (t : Str) :
    decodeBasic (escChar q c ++ t) = c :: decodeBasic t := by
  unfold escChar
  split
  · subst c; simp [decodeBasic]
  split
  · subst c; simp [decodeBasic]
  split
  · subst c; simp [decodeBasic]
  split
  · next h => obtain ⟨rfl, _⟩ := h; simp [decodeBasic]
  · -- `c` is not `&`, so only the last equation of `decodeBasic` applies
    next h1 _ _ _ =>
    rw [List.singleton_append, decodeBasic]
    all_goals intros; simp_all

/-- **C18 (escape, round trip).** Decoding the four basic entities of `escape q s` gives back `s`. -/
theorem escape_roundtrip (q : Bool) (s : Str) : decodeBasic (escape q s) = s := by
  rw [escape_eq_flatMap]
  induction s with
  | nil => simp [decodeBasic]
  | cons c s ih => rw [List.flatMap_cons, decodeBasic_escChar, ih]

/-- **C18 (safe_entity).** For any decoder, `safe_entity` output has no raw `<`, `>`, `"`. -/
theorem safeEntity_no_specials (u : Str → Str) (s : Str) :
    '<' ∉ safeEntity u s ∧ '>' ∉ safeEntity u s ∧ '"' ∉ safeEntity u s := by
  have h := escape_no_specials true (u s)
  exact ⟨h.1, h.2.1, h.2.2 rfl⟩

end Mistune
