/-
C18 — `escape_url` (the `urllib.parse.quote` layer): output alphabet, percent-escapes untouched, idempotence.
-/
import Mistune.Util
namespace Mistune

def hexChars : Str := "0123456789ABCDEF".toList

/-- What a character of `quote safe _` can be. -/
def OkChar (safe : Str) (c : Char) : Prop :=
  (c.toNat < 128 ∧ byteSafe safe c.toNat = true) ∨ c = '%' ∨ c ∈ hexChars

theorem byteSafe_lt (safe : Str) (b : Nat) (h : byteSafe safe b = true) : b < 128 := by
  unfold byteSafe alwaysSafe at h
  simp only [Bool.or_eq_true, Bool.and_eq_true, decide_eq_true_eq, List.any_eq_true] at h
  rcases h with h | ⟨c, _, _, h⟩
  · omega
  · exact h

theorem toNat_ofNat_small (b : Nat) (h : b < 128) : (Char.ofNat b).toNat = b := by
  have hv : b.isValidChar := by left; omega
  simp [Char.ofNat, hv, Char.ofNatAux, Char.toNat]

theorem hexDigit_mem : ∀ n, n < 16 → hexDigit n ∈ hexChars := by decide +kernel

theorem char_toNat_lt (c : Char) : c.toNat < 0x110000 := by
  have h := c.valid
  simp only [UInt32.isValidChar] at h
  have e : c.val.toNat = c.toNat := rfl
  rw [e] at h
  rcases h with h | ⟨_, h⟩
  · have : (55296 : UInt32).toNat = 55296 := rfl
    omega
  · have : (1114112 : UInt32).toNat = 1114112 := rfl
    omega

theorem utf8Bytes_lt (c : Char) : ∀ b ∈ utf8Bytes c, b < 256 := by
  intro b hb
  have hc : c.toNat < 0x110000 := char_toNat_lt c
  unfold utf8Bytes at hb
  simp only at hb
  split at hb
  · simp at hb; omega
  split at hb
  · simp at hb; omega
  split at hb
  · simp at hb; omega
  · simp at hb; omega

theorem quoteByte_ok (safe : Str) (b : Nat) (hb : b < 256) : ∀ c ∈ quoteByte safe b, OkChar safe c := by
  intro c hc
  unfold quoteByte at hc
  split at hc
  · rename_i hs
    simp at hc; subst hc
    have := byteSafe_lt safe b hs
    left; rw [toNat_ofNat_small b this]; exact ⟨this, hs⟩
  · simp at hc
    rcases hc with h | h | h
    · right; left; exact h
    · right; right; subst h; exact hexDigit_mem _ (by omega)
    · right; right; subst h; exact hexDigit_mem _ (by omega)

/-- **C18 (escape_url, alphabet).** Every character `quote` emits is an ASCII character of the safe set,
`%`, or an upper-case hex digit. -/
theorem quote_ok (safe : Str) (s : Str) : ∀ c ∈ quote safe s, OkChar safe c := by
  intro c hc
  unfold quote at hc
  obtain ⟨ch, _, h⟩ := List.mem_flatMap.1 hc
  obtain ⟨b, hb, h⟩ := List.mem_flatMap.1 h
  exact quoteByte_ok safe b (utf8Bytes_lt ch b hb) c h

theorem byteSafe_url_range : ∀ n, n < 128 → byteSafe urlSafeChars n = true →
    33 ≤ n ∧ n < 127 ∧ n ≠ 34 ∧ n ≠ 60 ∧ n ≠ 62 ∧ n ≠ 39 ∧ n ≠ 92 ∧ n ≠ 96 := by decide +kernel

/-- **C18 (escape_url, attribute safety).** With mistune's safe set the result of `escape_url` is printable
ASCII without space, `"`, `'`, `<` or `>` — whatever `unescape` returned. -/
theorem escapeUrl_attr_safe (u : Str → Str) (s : Str) :
    ∀ c ∈ escapeUrl u s, 33 ≤ c.toNat ∧ c.toNat < 127 ∧ c ≠ '"' ∧ c ≠ '<' ∧ c ≠ '>' ∧ c ≠ '\'' ∧ c ≠ ' ' := by
  intro c hc
  have h := quote_ok urlSafeChars (u s) c hc
  have key : 33 ≤ c.toNat ∧ c.toNat < 127 ∧ c.toNat ≠ 34 ∧ c.toNat ≠ 60 ∧ c.toNat ≠ 62 ∧ c.toNat ≠ 39 := by
    rcases h with ⟨h1, h2⟩ | h | h
    · have := byteSafe_url_range _ h1 h2; omega
    · subst h; decide
    · have : ∀ x ∈ hexChars, 33 ≤ x.toNat ∧ x.toNat < 127 ∧ x.toNat ≠ 34 ∧ x.toNat ≠ 60 ∧ x.toNat ≠ 62
          ∧ x.toNat ≠ 39 := by decide
      exact this c h
  refine ⟨key.1, key.2.1, ?_, ?_, ?_, ?_, ?_⟩ <;> (intro hh; subst hh; revert key; decide)

theorem quote_fix (safe : Str) (s : Str)
    (h : ∀ c ∈ s, c.toNat < 128 ∧ byteSafe safe c.toNat = true) : quote safe s = s := by
  induction s with
  | nil => rfl
  | cons c s ih =>
    have hc := h c (by simp)
    have hs := ih (fun x hx => h x (by simp [hx]))
    have e : quote safe (c :: s) = (utf8Bytes c).flatMap (quoteByte safe) ++ quote safe s := by
      simp [quote]
    rw [e, hs]
    have : utf8Bytes c = [c.toNat] := by simp [utf8Bytes, hc.1]
    rw [this]
    simp [quoteByte, hc.2, Char.ofNat_toNat]

theorem okChar_safe (safe : Str) (hp : '%' ∈ safe) (c : Char) (h : OkChar safe c) :
    c.toNat < 128 ∧ byteSafe safe c.toNat = true := by
  rcases h with h | h | h
  · exact h
  · subst h
    refine ⟨by decide, ?_⟩
    unfold byteSafe
    simp only [Bool.or_eq_true, List.any_eq_true, Bool.and_eq_true, decide_eq_true_eq]
    right; exact ⟨'%', hp, rfl, by decide⟩
  · have : ∀ x ∈ hexChars, x.toNat < 128 ∧ alwaysSafe x.toNat = true := by decide
    have := this c h
    exact ⟨this.1, by simp [byteSafe, this.2]⟩

theorem pct_mem_urlSafeChars : '%' ∈ urlSafeChars := by decide +kernel

/-- **C18 (escape_url, idempotence of the quoting layer).** -/
theorem quote_idem (safe : Str) (hp : '%' ∈ safe) (s : Str) : quote safe (quote safe s) = quote safe s :=
  quote_fix safe _ (fun c hc => okChar_safe safe hp c (quote_ok safe s c hc))

/-- **C18 (escape_url, percent-encoded octets are left alone).** A string of already safe characters and
`%HH` escapes is returned unchanged. -/
theorem quote_pct_unchanged (s : Str) (h : ∀ c ∈ s, OkChar urlSafeChars c) : quote urlSafeChars s = s :=
  quote_fix _ _ (fun c hc => okChar_safe _ pct_mem_urlSafeChars c (h c hc))

/-- **C18 (escape_url, second application).** If no character reference is decoded on the second
application (`u` is the identity on the first result) then `escape_url` is idempotent. -/
theorem escapeUrl_idem (u : Str → Str) (s : Str) (h : u (escapeUrl u s) = escapeUrl u s) :
    escapeUrl u (escapeUrl u s) = escapeUrl u s := by
  unfold escapeUrl at *
  rw [h]; exact quote_idem _ pct_mem_urlSafeChars _

end Mistune
