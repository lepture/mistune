/-
C18 — `unikey`: idempotence, whitespace-run and case insensitivity.  Generic in the whitespace predicate
and the fold table, under decidable table conditions that `MistuneProofs.Oblig.Unicode` discharges for
the tables regenerated from the running CPython.
-/
import Mistune.Util
namespace Mistune

variable (isSp : Char → Bool)

/-- A word as produced by `split()`: non-empty, no whitespace. -/
def OkWord (w : Str) : Prop := w ≠ [] ∧ ∀ c ∈ w, isSp c = false

/-- closing the word in progress, if there is one, keeps the words well formed -/
theorem okWord_close {p : Str × List Str} (h : (∀ c ∈ p.1, isSp c = false) ∧ ∀ w ∈ p.2, OkWord isSp w) :
    ∀ w ∈ (if p.1.isEmpty then p.2 else p.1 :: p.2), OkWord isSp w := by
  by_cases he : p.1.isEmpty = true
  · simp only [he, if_true]; exact h.2
  · simp only [he]
    intro w hw; simp at hw
    rcases hw with e | e
    · subst e; exact ⟨by simpa using he, h.1⟩
    · exact h.2 w e

theorem splitGo_inv (s : Str) :
    (∀ c ∈ (splitGo isSp s).1, isSp c = false) ∧ (∀ w ∈ (splitGo isSp s).2, OkWord isSp w) := by
  induction s with
  | nil => simp [splitGo]
  | cons c r ih =>
    simp only [splitGo]
    by_cases hc : isSp c = true
    · simp only [hc, if_true]
      exact ⟨by simp, okWord_close isSp ih⟩
    · simp only [hc]
      refine ⟨?_, ih.2⟩
      intro x hx
      simp at hx
      rcases hx with h | h
      · subst h; simpa using hc
      · exact ih.1 x h

theorem splitWs_ok (s : Str) : ∀ w ∈ splitWs isSp s, OkWord isSp w :=
  okWord_close isSp (splitGo_inv isSp s)

/-- scanning a run of non-space characters prepends it to the word in progress -/
theorem splitGo_word_append (w t : Str) (hw : ∀ c ∈ w, isSp c = false) :
    splitGo isSp (w ++ t) = (w ++ (splitGo isSp t).1, (splitGo isSp t).2) := by
  induction w with
  | nil => simp
  | cons c r ih =>
    have hc : isSp c = false := hw c (by simp)
    have := ih (fun x hx => hw x (by simp [hx]))
    simp [splitGo, hc, this]

theorem splitGo_joinSp (W : List Str) (h : ∀ w ∈ W, OkWord isSp w) (h0 : isSp ' ' = true) :
    splitGo isSp (joinSp W) = match W with | [] => ([], []) | w :: ws => (w, ws) := by
  induction W with
  | nil => simp [joinSp, splitGo]
  | cons w ws ih =>
    have hw := h w (by simp)
    have ihs := ih (fun x hx => h x (by simp [hx]))
    cases ws with
    | nil =>
      simp only [joinSp]
      have := splitGo_word_append isSp w [] hw.2
      simpa [splitGo] using this
    | cons w2 ws2 =>
      simp only [joinSp]
      rw [splitGo_word_append isSp w _ hw.2]
      simp only [splitGo, h0, if_true]
      simp only at ihs
      rw [ihs]
      have hw2 := h w2 (by simp)
      have : w2.isEmpty = false := by
        cases w2 with
        | nil => exact absurd rfl hw2.1
        | cons _ _ => rfl
      simp [this]

/-- **`split()` inverts `" ".join` on well-formed word lists.** -/
theorem splitWs_joinSp (W : List Str) (h : ∀ w ∈ W, OkWord isSp w) (h0 : isSp ' ' = true) :
    splitWs isSp (joinSp W) = W := by
  unfold splitWs
  rw [splitGo_joinSp isSp W h h0]
  cases W with
  | nil => simp
  | cons w ws =>
    have hw := h w (by simp)
    cases w with
    | nil => exact absurd rfl hw.1
    | cons _ _ => simp

theorem joinSp_ne_nil (w : Str) (ws : List Str) (hw : w ≠ []) : joinSp (w :: ws) ≠ [] := by
  cases ws with
  | nil => simpa [joinSp]
  | cons a b => cases w with
    | nil => exact absurd rfl hw
    | cons _ _ => simp [joinSp]

theorem joinSp_head (W : List Str) (h : ∀ w ∈ W, OkWord isSp w) :
    ∀ c r, joinSp W = c :: r → isSp c = false := by
  intro c r e
  cases W with
  | nil => simp [joinSp] at e
  | cons w ws =>
    have hw := h w (by simp)
    cases w with
    | nil => exact absurd rfl hw.1
    | cons a b =>
      have : c = a := by
        cases ws with
        | nil => simp [joinSp] at e; exact e.1.symm
        | cons _ _ => simp [joinSp] at e; exact e.1.symm
      subst this; exact hw.2 c (by simp)

theorem joinSp_last (W : List Str) (h : ∀ w ∈ W, OkWord isSp w) :
    ∀ c, (joinSp W).getLast? = some c → isSp c = false := by
  induction W with
  | nil => intro c e; simp [joinSp] at e
  | cons w ws ih =>
    intro c e
    have hw := h w (by simp)
    cases ws with
    | nil =>
      simp only [joinSp] at e
      exact hw.2 c (List.mem_of_getLast? e)
    | cons w2 ws2 =>
      simp only [joinSp] at e
      have hne : joinSp (w2 :: ws2) ≠ [] := joinSp_ne_nil w2 ws2 (h w2 (by simp)).1
      have : (w ++ ' ' :: joinSp (w2 :: ws2)).getLast? = (joinSp (w2 :: ws2)).getLast? := by
        rw [List.getLast?_append]
        cases hj : joinSp (w2 :: ws2) with
        | nil => exact absurd hj hne
        | cons a b => cases h' : (a :: b).getLast? with
          | none => simp at h'
          | some z => simp [h']
      rw [this] at e
      exact ih (fun x hx => h x (by simp [hx])) c e

theorem dropWhile_head_false (p : Char → Bool) (s : Str) (h : ∀ c r, s = c :: r → p c = false) :
    s.dropWhile p = s := by
  cases s with
  | nil => rfl
  | cons c r => simp [List.dropWhile, h c r rfl]

/-- `.strip()` after `" ".join(s.split())` is a no-op. -/
theorem stripWs_joinSp (W : List Str) (h : ∀ w ∈ W, OkWord isSp w) : stripWs isSp (joinSp W) = joinSp W := by
  unfold stripWs
  rw [dropWhile_head_false isSp _ (joinSp_head isSp W h)]
  rw [dropWhile_head_false isSp (joinSp W).reverse]
  · simp
  · intro c r e
    have : (joinSp W).getLast? = some c := by
      have := congrArg List.head? e
      simpa [List.head?_reverse] using this
    exact joinSp_last isSp W h c this

variable (fold : Char → Str)

theorem flatMap_joinSp (W : List Str) (h0 : fold ' ' = [' ']) :
    (joinSp W).flatMap fold = joinSp (W.map (fun w => w.flatMap fold)) := by
  induction W with
  | nil => simp [joinSp]
  | cons w ws ih =>
    cases ws with
    | nil => simp [joinSp]
    | cons w2 ws2 =>
      simp only [joinSp, List.map_cons] at ih ⊢
      simp [List.flatMap_append, h0, ih]

/-- Table conditions for `unikey` (decided on the regenerated tables). -/
structure FoldOk : Prop where
  sp_space : isSp ' ' = true
  sp_fix : ∀ c, isSp c = true → fold c = [c]
  nonsp_ne : ∀ c, isSp c = false → fold c ≠ []
  nonsp_out : ∀ c, isSp c = false → ∀ x ∈ fold c, isSp x = false
  out_fix : ∀ c, ∀ x ∈ fold c, fold x = [x]

/-- Characters with the same fold are both white space or both not: a white-space character is its own fold,
and the fold of any other character contains none. -/
theorem FoldOk.isSp_congr {isSp : Char → Bool} {fold : Char → Str} (H : FoldOk isSp fold) {a b : Char}
    (h : fold a = fold b) : isSp a = isSp b := by
  have key : ∀ a b, fold a = fold b → isSp a = true → isSp b = true := by
    intro a b h ha
    cases hb : isSp b with
    | true => rfl
    | false =>
      have hm : a ∈ fold b := by rw [← h, H.sp_fix a ha]; exact .head _
      exact (H.nonsp_out b hb a hm).symm.trans ha
  exact Bool.eq_iff_iff.2 ⟨key a b h, key b a h.symm⟩

theorem fold_word_ok (H : FoldOk isSp fold) (w : Str) (hw : OkWord isSp w) :
    OkWord isSp (w.flatMap fold) := by
  constructor
  · cases w with
    | nil => exact absurd rfl hw.1
    | cons c r =>
      have := H.nonsp_ne c (hw.2 c (by simp))
      simp [this]
  · intro x hx
    obtain ⟨c, hc, hx⟩ := List.mem_flatMap.1 hx
    exact H.nonsp_out c (hw.2 c hc) x hx

theorem flatMap_fix (s : Str) (h : ∀ x ∈ s, fold x = [x]) : s.flatMap fold = s := by
  induction s with
  | nil => rfl
  | cons c r ih =>
    simp [h c (by simp), ih (fun x hx => h x (by simp [hx]))]

/-- Normal form of `unikey`: the folded words joined by single spaces. -/
theorem unikey_nf (H : FoldOk isSp fold) (s : Str) :
    unikey isSp fold s = joinSp ((splitWs isSp s).map (fun w => w.flatMap fold)) := by
  unfold unikey
  rw [stripWs_joinSp isSp _ (splitWs_ok isSp s)]
  exact flatMap_joinSp fold _ (H.sp_fix ' ' H.sp_space)

/-- **C18 (unikey, idempotence).** -/
theorem unikey_idem (H : FoldOk isSp fold) (s : Str) :
    unikey isSp fold (unikey isSp fold s) = unikey isSp fold s := by
  have hok : ∀ w ∈ (splitWs isSp s).map (fun w => w.flatMap fold), OkWord isSp w := by
    intro w hw
    obtain ⟨v, hv, e⟩ := List.mem_map.1 hw
    subst e; exact fold_word_ok isSp fold H v (splitWs_ok isSp s v hv)
  rw [unikey_nf isSp fold H s]
  rw [unikey_nf isSp fold H, splitWs_joinSp isSp _ hok H.sp_space]
  congr 1
  rw [List.map_map]
  apply List.map_congr_left
  intro w _
  simp only [Function.comp]
  apply flatMap_fix
  intro x hx
  obtain ⟨c, _, hx⟩ := List.mem_flatMap.1 hx
  exact H.out_fix c x hx

/-! ### whitespace insensitivity -/

theorem splitGo_append_nil (a t : Str) (ht : (splitGo isSp t).1 = []) :
    splitGo isSp (a ++ t) = ((splitGo isSp a).1, (splitGo isSp a).2 ++ (splitGo isSp t).2) := by
  induction a with
  | nil =>
    simp only [List.nil_append, splitGo]
    rw [← ht]
  | cons c r ih =>
    simp only [List.cons_append, splitGo, ih]
    by_cases hc : isSp c = true
    · simp only [hc, if_true]
      by_cases he : (splitGo isSp r).1.isEmpty = true <;> simp [he]
    · simp [hc]

theorem splitGo_spaces (sp b : Str) (hsp : sp ≠ []) (h : ∀ c ∈ sp, isSp c = true) :
    splitGo isSp (sp ++ b) = ([], splitWs isSp b) := by
  induction sp with
  | nil => exact absurd rfl hsp
  | cons c r ih =>
    have hc := h c (by simp)
    cases r with
    | nil => simp [splitGo, hc, splitWs]
    | cons c2 r2 =>
      have := ih (by simp) (fun x hx => h x (by simp [hx]))
      simp only [List.cons_append] at this ⊢
      rw [splitGo, this]
      simp [hc]

/-- `split()` sees any non-empty whitespace run between `a` and `b` as one separator. -/
theorem splitWs_sep (a sp b : Str) (hsp : sp ≠ []) (h : ∀ c ∈ sp, isSp c = true) :
    splitWs isSp (a ++ sp ++ b) = splitWs isSp a ++ splitWs isSp b := by
  have e := splitGo_spaces isSp sp b hsp h
  unfold splitWs
  rw [List.append_assoc, splitGo_append_nil isSp a (sp ++ b) (by rw [e]), e]
  simp only
  by_cases he : (splitGo isSp a).1.isEmpty = true <;> simp [he, splitWs]

/-- **C18 (unikey, whitespace runs).** Two labels that differ only in *which* non-empty whitespace run
separates two parts have the same key; leading and trailing whitespace is ignored. -/
theorem unikey_ws_run (a b sp1 sp2 : Str) (h1 : sp1 ≠ []) (h2 : sp2 ≠ [])
    (hs1 : ∀ c ∈ sp1, isSp c = true) (hs2 : ∀ c ∈ sp2, isSp c = true) :
    unikey isSp fold (a ++ sp1 ++ b) = unikey isSp fold (a ++ sp2 ++ b) := by
  unfold unikey
  rw [splitWs_sep isSp a sp1 b h1 hs1, splitWs_sep isSp a sp2 b h2 hs2]

theorem splitWs_nil : splitWs isSp [] = [] := by simp [splitWs, splitGo]

theorem unikey_ws_lead (sp b : Str) (h1 : sp ≠ []) (hs : ∀ c ∈ sp, isSp c = true) :
    unikey isSp fold (sp ++ b) = unikey isSp fold b := by
  have := splitWs_sep isSp [] sp b h1 hs
  simp only [List.nil_append, splitWs_nil] at this
  unfold unikey; rw [this]

theorem unikey_ws_trail (a sp : Str) (h1 : sp ≠ []) (hs : ∀ c ∈ sp, isSp c = true) :
    unikey isSp fold (a ++ sp) = unikey isSp fold a := by
  have := splitWs_sep isSp a sp [] h1 hs
  simp only [List.append_nil, splitWs_nil] at this
  unfold unikey; rw [this]

/-! ### case insensitivity -/

theorem splitGo_map (v : Char → Char) (hv : ∀ c, isSp (v c) = isSp c) (s : Str) :
    splitGo isSp (s.map v) = (((splitGo isSp s).1).map v, ((splitGo isSp s).2).map (List.map v)) := by
  induction s with
  | nil => simp [splitGo]
  | cons c r ih =>
    simp only [List.map_cons, splitGo, ih, hv]
    by_cases hc : isSp c = true
    · simp only [hc, if_true]
      by_cases he : (splitGo isSp r).1.isEmpty = true <;> simp [he]
    · simp [hc]

/-- **C18 (unikey, letter case).** For any per-character case variant `v` (lower, upper, title,
swapcase of a single code point, …) that the fold table identifies with the original character, a label and
its `v`-image have the same key.  The hypothesis on `v` is decided for CPython's tables in `Oblig.Unicode`. -/
theorem unikey_case (v : Char → Char) (hv : ∀ c, isSp (v c) = isSp c) (hf : ∀ c, fold (v c) = fold c)
    (s : Str) : unikey isSp fold (s.map v) = unikey isSp fold s := by
  have hw : ∀ w : Str, (w.map v).flatMap fold = w.flatMap fold := by
    intro w; induction w with
    | nil => rfl
    | cons c r ih => simp [hf, ih]
  have e : splitWs isSp (s.map v) = (splitWs isSp s).map (List.map v) := by
    unfold splitWs
    rw [splitGo_map isSp v hv]
    by_cases he : (splitGo isSp s).1.isEmpty = true <;> simp [he]
  -- go through the un-normalised definition: strip commutes trivially because both sides are joinSp of ok words
  have hok1 := splitWs_ok isSp (s.map v)
  have hok2 := splitWs_ok isSp s
  unfold unikey
  rw [stripWs_joinSp isSp _ hok1, stripWs_joinSp isSp _ hok2, e]
  have hj : ∀ W : List Str, (joinSp (W.map (List.map v))).flatMap fold = (joinSp W).flatMap fold := by
    intro W; induction W with
    | nil => rfl
    | cons w ws ih =>
      cases ws with
      | nil => simpa [joinSp] using hw w
      | cons w2 ws2 =>
        simp only [List.map_cons, joinSp] at ih ⊢
        simp only [List.flatMap_append, List.flatMap_cons, hw, ih]
  exact hj _

end Mistune
