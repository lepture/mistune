/-
Soundness of the static analyses of `Mistune.RxAnalysis` w.r.t. `Spec` (hence, through `m_sound`, w.r.t. the
matcher, and — through the conformance run — w.r.t. CPython's `re`), and two analyses of the captures with their
soundness: `grpConsumes idx` (group `idx`, when set, holds a non-empty span) and `grpAlways idx` (every match sets it).
-/
import MistuneProofs.Engine.Spec
import MistuneProofs.Engine.Sound
namespace Mistune

theorem iter_minLen {x : RxCtx} {r : Rx}
    (ih : ∀ (i : Nat) (c : Caps) (j : Nat) (c' : Caps), Spec x r i c j c' → i + r.minLen ≤ j)
    {cnt i : Nat} {c : Caps} {j : Nat} {c' : Caps}
    (h : Iter (Spec x r) cnt i c j c') : i + cnt * r.minLen ≤ j := by
  induction h with
  | zero i c => simp
  | succ hs _ ih2 =>
    have := ih _ _ _ _ hs
    rw [Nat.succ_mul]
    omega

/-- every match is at least `minLen` long -/
theorem minLen_sound (x : RxCtx) (r : Rx) (i : Nat) (c : Caps) (j : Nat) (c' : Caps)
    (h : Spec x r i c j c') : i + r.minLen ≤ j := by
  induction r generalizing i c j c' with
  | fail => simp only [Spec] at h
  | eps | cls | any | bos | bol | eos | eol | eosStrict | wordb | nwordb =>
    simp only [Spec] at h; simp only [Rx.minLen]; omega
  | seq a b iha ihb =>
    simp only [Spec] at h
    obtain ⟨m, cm, h1, h2⟩ := h
    have := iha _ _ _ _ h1
    have := ihb _ _ _ _ h2
    simp only [Rx.minLen]; omega
  | alt a b iha ihb =>
    simp only [Spec] at h
    simp only [Rx.minLen]
    rcases h with h | h
    · have := iha _ _ _ _ h; omega
    · have := ihb _ _ _ _ h; omega
  | rep r mn mx g ih =>
    simp only [Spec] at h
    obtain ⟨cnt, h1, _, h3⟩ := h
    have := iter_minLen ih h3
    have : mn * r.minLen ≤ cnt * r.minLen := Nat.mul_le_mul_right _ h1
    simp only [Rx.minLen]; omega
  | grp idx r ih =>
    simp only [Spec] at h
    obtain ⟨c0, h1, _⟩ := h
    have := ih _ _ _ _ h1
    simp only [Rx.minLen]; omega
  | backref idx =>
    simp only [Spec] at h
    obtain ⟨a, b, _, h2, _⟩ := h
    simp only [Rx.minLen]; omega
  | look ahead neg w r ih =>
    simp only [Rx.minLen]
    cases ahead <;> cases neg <;> simp only [Spec] at h <;> omega

theorem spec_mono {x : RxCtx} {r : Rx} {i : Nat} {c : Caps} {j : Nat} {c' : Caps}
    (h : Spec x r i c j c') : i ≤ j := by
  have := minLen_sound x r i c j c' h; omega

theorem iter_mono {x : RxCtx} {r : Rx} {cnt i : Nat} {c : Caps} {j : Nat} {c' : Caps}
    (h : Iter (Spec x r) cnt i c j c') : i ≤ j := by
  have := iter_minLen (minLen_sound x r) h; omega

/-- a regex that cannot be empty only has non-empty matches -/
theorem nonempty_of_minLen (x : RxCtx) (r : Rx) (i : Nat) (c : Caps) (j : Nat) (c' : Caps)
    (h : Spec x r i c j c') (hm : 1 ≤ r.minLen) : i < j := by
  have := minLen_sound x r i c j c' h; omega

/-- `pattern.match(s, pos)`: the span starts at `pos` and does not end before it (no assumption on `pos`) -/
theorem matchAt_le (x : RxCtx) (r : Rx) (pos : Nat) (mt : RxMatch) (h : r.matchAt x pos = some mt) :
    mt.start = pos ∧ pos ≤ mt.stop := by
  obtain ⟨h1, h2⟩ := matchAt_sound x r pos mt h
  have := minLen_sound x r pos [] mt.stop mt.caps h2
  exact ⟨h1, by omega⟩

theorem iter_zeroWidth {x : RxCtx} {r : Rx}
    (ih : ∀ (i : Nat) (c : Caps) (j : Nat) (c' : Caps), Spec x r i c j c' → j = i)
    {cnt i : Nat} {c : Caps} {j : Nat} {c' : Caps}
    (h : Iter (Spec x r) cnt i c j c') : j = i := by
  induction h with
  | zero i c => rfl
  | succ hs _ ih2 =>
    have := ih _ _ _ _ hs
    omega

/-- a zero-width regex only has empty matches -/
theorem zeroWidth_sound (x : RxCtx) (r : Rx) (i : Nat) (c : Caps) (j : Nat) (c' : Caps)
    (h : Spec x r i c j c') (hz : r.zeroWidth = true) : j = i := by
  induction r generalizing i c j c' with
  | eps => simp only [Spec] at h; exact h.1
  | fail => simp only [Spec] at h
  | cls | any | backref => simp [Rx.zeroWidth] at hz
  | seq a b iha ihb =>
    simp only [Spec] at h
    simp only [Rx.zeroWidth, Bool.and_eq_true] at hz
    obtain ⟨m, cm, h1, h2⟩ := h
    have := iha _ _ _ _ h1 hz.1
    have := ihb _ _ _ _ h2 hz.2
    omega
  | alt a b iha ihb =>
    simp only [Spec] at h
    simp only [Rx.zeroWidth, Bool.and_eq_true] at hz
    rcases h with h | h
    · exact iha _ _ _ _ h hz.1
    · exact ihb _ _ _ _ h hz.2
  | rep r mn mx g ih =>
    simp only [Spec] at h
    simp only [Rx.zeroWidth] at hz
    obtain ⟨cnt, _, _, h3⟩ := h
    exact iter_zeroWidth (fun i c j c' hs => ih i c j c' hs hz) h3
  | grp idx r ih =>
    simp only [Spec] at h
    simp only [Rx.zeroWidth] at hz
    obtain ⟨c0, h1, _⟩ := h
    exact ih _ _ _ _ h1 hz
  | look ahead neg w r ih =>
    cases ahead <;> cases neg <;> simp only [Spec] at h <;> exact h.1
  | bos | bol | eos | eol | eosStrict | wordb | nwordb => simp only [Spec] at h; exact h.2.1

/-- the first character of a non-empty run of matches is the first character of its first non-empty match -/
theorem iter_first {x : RxCtx} {r : Rx} {P : Nat → Prop}
    (ih : ∀ (i : Nat) (c : Caps) (j : Nat) (c' : Caps), Spec x r i c j c' → i < j → P (x.chr i))
    {cnt i : Nat} {c : Caps} {j : Nat} {c' : Caps}
    (h : Iter (Spec x r) cnt i c j c') (hne : i < j) : P (x.chr i) := by
  induction h with
  | zero i c => omega
  | @succ n i m k c cm c'' hs hrest ih2 =>
    by_cases hm : i < m
    · exact ih _ _ _ _ hs hm
    · have := spec_mono hs
      have hmi : m = i := by omega
      subst hmi
      exact ih2 hne

/-- the first character of a non-empty match is in the first set -/
theorem firstOk_sound (x : RxCtx) (r : Rx) (i : Nat) (c : Caps) (j : Nat) (c' : Caps)
    (h : Spec x r i c j c') (hne : i < j) : r.firstOk x.t (x.chr i) = true := by
  induction r generalizing i c j c' with
  | eps | bos | bol | eos | eol | eosStrict | wordb | nwordb => simp only [Spec] at h; omega
  | fail => simp only [Spec] at h
  | cls neg items => simp only [Spec] at h; simp only [Rx.firstOk]; exact h.2.1
  | any dotall =>
    simp only [Spec] at h
    simp only [Rx.firstOk]
    rcases h.2.1 with hd | hd
    · simp [hd]
    · simp [hd]
  | seq a b iha ihb =>
    simp only [Spec] at h
    obtain ⟨m, cm, h1, h2⟩ := h
    simp only [Rx.firstOk, Bool.or_eq_true, Bool.and_eq_true]
    by_cases hm : i < m
    · exact Or.inl (iha _ _ _ _ h1 hm)
    · have := spec_mono h1
      have hmi : m = i := by omega
      subst hmi
      have := minLen_sound _ _ _ _ _ _ h1
      refine Or.inr ⟨?_, ihb _ _ _ _ h2 hne⟩
      simp only [Rx.mayBeEmpty, beq_iff_eq]
      omega
  | alt a b iha ihb =>
    simp only [Spec] at h
    simp only [Rx.firstOk, Bool.or_eq_true]
    rcases h with h | h
    · exact Or.inl (iha _ _ _ _ h hne)
    · exact Or.inr (ihb _ _ _ _ h hne)
  | rep r mn mx g ih =>
    simp only [Spec] at h
    obtain ⟨cnt, _, _, h3⟩ := h
    simp only [Rx.firstOk]
    exact iter_first (P := (r.firstOk x.t · = true)) ih h3 hne
  | grp idx r ih =>
    simp only [Spec] at h
    obtain ⟨c0, h1, _⟩ := h
    simp only [Rx.firstOk]
    exact ih _ _ _ _ h1 hne
  | backref idx => simp only [Rx.firstOk]
  | look ahead neg w r ih =>
    cases ahead <;> cases neg <;> simp only [Spec] at h <;> omega

theorem optUnion_some {a b : Option (List Nat)} {l : List Nat} (h : optUnion a b = some l) :
    ∃ la lb, a = some la ∧ b = some lb ∧ l = la ++ lb := by
  cases a with
  | none => simp [optUnion] at h
  | some la =>
    cases b with
    | none => simp [optUnion] at h
    | some lb =>
      simp only [optUnion, Option.some.injEq] at h
      exact ⟨la, lb, rfl, rfl, h.symm⟩

theorem expand_mem_iff (t : CatTables) (it : ClsItem) (l : List Nat) (h : it.expand = some l) (ch : Nat) :
    it.test t ch = true ↔ ch ∈ l := by
  cases it with
  | chr c =>
    simp only [ClsItem.expand, Option.some.injEq] at h
    subst h
    simp only [ClsItem.test, beq_iff_eq, List.mem_singleton]
    exact eq_comm
  | range lo hi =>
    simp only [ClsItem.expand] at h
    split at h
    · simp only [Option.some.injEq] at h
      subst h
      simp only [ClsItem.test, Bool.and_eq_true, decide_eq_true_eq, List.mem_range'_1]
      omega
    · simp at h
  | cat neg k => simp [ClsItem.expand] at h

theorem expandItems_mem_iff (t : CatTables) (items : List ClsItem) (l : List Nat)
    (h : expandItems items = some l) (ch : Nat) :
    clsTest t false items ch = true ↔ ch ∈ l := by
  induction items generalizing l with
  | nil =>
    simp only [expandItems, Option.some.injEq] at h
    subst h
    simp [clsTest]
  | cons it rest ih =>
    simp only [expandItems] at h
    obtain ⟨la, lb, h1, h2, rfl⟩ := optUnion_some h
    have e1 := expand_mem_iff t it la h1 ch
    have e2 := ih lb h2
    have hb : ∀ b : Bool, (b != false) = b := by intro b; cases b <;> rfl
    simp only [clsTest, hb, List.any_cons, Bool.or_eq_true, List.mem_append] at e2 ⊢
    rw [e1, e2]

/-- the finite first-character set is sound -/
theorem firstChars_sound (x : RxCtx) (r : Rx) (l : List Nat) (hl : r.firstChars = some l)
    (i : Nat) (c : Caps) (j : Nat) (c' : Caps) (h : Spec x r i c j c') (hne : i < j) : x.chr i ∈ l := by
  induction r generalizing l i c j c' with
  | eps => simp only [Spec] at h; omega
  | fail => simp only [Spec] at h
  | cls neg items =>
    simp only [Spec] at h
    cases neg with
    | true => simp [Rx.firstChars] at hl
    | false =>
      simp only [Rx.firstChars] at hl
      exact (expandItems_mem_iff x.t items l hl _).1 h.2.1
  | any dotall => simp [Rx.firstChars] at hl
  | seq a b iha ihb =>
    simp only [Spec] at h
    obtain ⟨m, cm, h1, h2⟩ := h
    simp only [Rx.firstChars] at hl
    by_cases hm : i < m
    · split at hl
      · obtain ⟨la, lb, e1, e2, rfl⟩ := optUnion_some hl
        exact List.mem_append_left _ (iha la e1 _ _ _ _ h1 hm)
      · exact iha l hl _ _ _ _ h1 hm
    · have := spec_mono h1
      have hmi : m = i := by omega
      subst hmi
      have hml := minLen_sound _ _ _ _ _ _ h1
      have hemp : a.mayBeEmpty = true := by
        simp only [Rx.mayBeEmpty, beq_iff_eq]
        omega
      rw [hemp] at hl
      simp only [if_true] at hl
      obtain ⟨la, lb, e1, e2, rfl⟩ := optUnion_some hl
      exact List.mem_append_right _ (ihb lb e2 _ _ _ _ h2 hne)
  | alt a b iha ihb =>
    simp only [Spec] at h
    simp only [Rx.firstChars] at hl
    obtain ⟨la, lb, e1, e2, rfl⟩ := optUnion_some hl
    rcases h with h | h
    · exact List.mem_append_left _ (iha la e1 _ _ _ _ h hne)
    · exact List.mem_append_right _ (ihb lb e2 _ _ _ _ h hne)
  | rep r mn mx g ih =>
    simp only [Spec] at h
    obtain ⟨cnt, _, _, h3⟩ := h
    simp only [Rx.firstChars] at hl
    exact iter_first (P := (· ∈ l)) (ih l hl) h3 hne
  | grp idx r ih =>
    simp only [Spec] at h
    obtain ⟨c0, h1, _⟩ := h
    simp only [Rx.firstChars] at hl
    exact ih l hl _ _ _ _ h1 hne
  | backref idx => simp [Rx.firstChars] at hl
  | look ahead neg w r ih =>
    cases ahead <;> cases neg <;> simp only [Spec] at h <;> omega
  | bos => simp only [Spec] at h; omega
  | bol => simp only [Spec] at h; omega
  | eos => simp only [Spec] at h; omega
  | eol => simp only [Spec] at h; omega
  | eosStrict => simp only [Spec] at h; omega
  | wordb => simp only [Spec] at h; omega
  | nwordb => simp only [Spec] at h; omega

theorem needs_cls_mem {neg : Bool} {items : List ClsItem} {ch : Nat}
    (h : ch ∈ (Rx.cls neg items).needs) : neg = false ∧ items = [.chr ch] := by
  unfold Rx.needs at h
  split at h <;> simp_all

theorem iter_needs {x : RxCtx} {r : Rx}
    (ih : ∀ (i : Nat) (c : Caps) (j : Nat) (c' : Caps), Spec x r i c j c' →
      ∀ ch ∈ r.needs, ∃ p, i ≤ p ∧ p < j ∧ p < x.n ∧ x.chr p = ch)
    {cnt i : Nat} {c : Caps} {j : Nat} {c' : Caps}
    (h : Iter (Spec x r) cnt i c j c') (hc : 1 ≤ cnt) :
    ∀ ch ∈ r.needs, ∃ p, i ≤ p ∧ p < j ∧ p < x.n ∧ x.chr p = ch := by
  cases h with
  | zero => omega
  | succ hs hrest =>
    intro ch hch
    obtain ⟨p, h1, h2, h3⟩ := ih _ _ _ _ hs ch hch
    have := iter_mono hrest
    exact ⟨p, h1, by omega, h3⟩

/-- each needed character occurs inside every match, at a position before `endpos` -/
theorem needs_occur (x : RxCtx) (r : Rx) (i : Nat) (c : Caps) (j : Nat) (c' : Caps)
    (h : Spec x r i c j c') : ∀ ch ∈ r.needs, ∃ p, i ≤ p ∧ p < j ∧ p < x.n ∧ x.chr p = ch := by
  induction r generalizing i c j c' with
  | eps | fail | any | backref | look | bos | bol | eos | eol | eosStrict | wordb | nwordb => simp [Rx.needs]
  | cls neg items =>
    intro ch hch
    obtain ⟨rfl, rfl⟩ := needs_cls_mem hch
    simp only [Spec] at h
    obtain ⟨h1, h2, h3, _⟩ := h
    refine ⟨i, Nat.le_refl _, by omega, h1, ?_⟩
    simp [clsTest, ClsItem.test] at h2
    omega
  | seq a b iha ihb =>
    simp only [Spec] at h
    obtain ⟨m, cm, h1, h2⟩ := h
    intro ch hch
    simp only [Rx.needs, List.mem_append] at hch
    have := spec_mono h1
    have := spec_mono h2
    rcases hch with hch | hch
    · obtain ⟨p, p1, p2, p3⟩ := iha _ _ _ _ h1 ch hch
      exact ⟨p, p1, by omega, p3⟩
    · obtain ⟨p, p1, p2, p3⟩ := ihb _ _ _ _ h2 ch hch
      exact ⟨p, by omega, p2, p3⟩
  | alt a b iha ihb =>
    simp only [Spec] at h
    intro ch hch
    simp only [Rx.needs, List.mem_filter, List.contains_iff_mem] at hch
    rcases h with h | h
    · exact iha _ _ _ _ h ch hch.1
    · exact ihb _ _ _ _ h ch hch.2
  | rep r mn mx g ih =>
    simp only [Spec] at h
    obtain ⟨cnt, h1, _, h3⟩ := h
    intro ch hch
    simp only [Rx.needs] at hch
    split at hch
    · exact iter_needs ih h3 (by omega) ch hch
    · simp at hch
  | grp idx r ih =>
    simp only [Spec] at h
    obtain ⟨c0, h1, _⟩ := h
    simp only [Rx.needs]
    exact ih _ _ _ _ h1

/-- each needed character occurs inside every match -/
theorem needs_sound (x : RxCtx) (r : Rx) (i : Nat) (c : Caps) (j : Nat) (c' : Caps)
    (h : Spec x r i c j c') : ∀ ch ∈ r.needs, ∃ p, i ≤ p ∧ p < j ∧ x.chr p = ch := by
  intro ch hch
  obtain ⟨p, h1, h2, _, h3⟩ := needs_occur x r i c j c' h ch hch
  exact ⟨p, h1, h2, h3⟩

theorem bolAnchored_look {a n : Bool} {w : Nat} {r : Rx}
    (h : (Rx.look a n w r).bolAnchored = true) :
    a = false ∧ n = false ∧ w = 1 ∧ r = .cls false [.chr 10] := by
  unfold Rx.bolAnchored at h
  split at h <;> simp_all

/-- a line-anchored regex only matches at the start of a line -/
theorem bolAnchored_sound (x : RxCtx) (r : Rx) (i : Nat) (c : Caps) (j : Nat) (c' : Caps)
    (h : Spec x r i c j c') (hb : r.bolAnchored = true) : i = 0 ∨ x.chr (i - 1) = 10 := by
  induction r generalizing i c j c' with
  | eps | cls | any | backref | eos | eol | eosStrict | wordb | nwordb => simp [Rx.bolAnchored] at hb
  | fail => simp only [Spec] at h
  | seq a b iha ihb =>
    simp only [Spec] at h
    obtain ⟨m, cm, h1, h2⟩ := h
    simp only [Rx.bolAnchored, Bool.or_eq_true, Bool.and_eq_true] at hb
    rcases hb with hb | ⟨hz, hb⟩
    · exact iha _ _ _ _ h1 hb
    · have hmi := zeroWidth_sound _ _ _ _ _ _ h1 hz
      subst hmi
      exact ihb _ _ _ _ h2 hb
  | alt a b iha ihb =>
    simp only [Spec] at h
    simp only [Rx.bolAnchored, Bool.and_eq_true] at hb
    rcases h with h | h
    · exact iha _ _ _ _ h hb.1
    · exact ihb _ _ _ _ h hb.2
  | rep r mn mx g ih =>
    simp only [Spec] at h
    obtain ⟨cnt, h1, _, h3⟩ := h
    simp only [Rx.bolAnchored, Bool.and_eq_true, decide_eq_true_eq] at hb
    cases h3 with
    | zero => omega
    | succ hs _ => exact ih _ _ _ _ hs hb.2
  | grp idx r ih =>
    simp only [Spec] at h
    obtain ⟨c0, h1, _⟩ := h
    simp only [Rx.bolAnchored] at hb
    exact ih _ _ _ _ h1 hb
  | look ahead neg w r ih =>
    obtain ⟨rfl, rfl, rfl, rfl⟩ := bolAnchored_look hb
    simp only [Spec] at h
    obtain ⟨_, h1, _, h2, _⟩ := h
    right
    simp [clsTest, ClsItem.test] at h2
    omega
  | bos => simp only [Spec] at h; exact Or.inl h.1
  | bol => simp only [Spec] at h; exact h.1

/-! ### analyses of the captures -/

theorem iter_caps {step : Nat → Caps → Nat → Caps → Prop} {P : Caps → Prop}
    (ih : ∀ (i : Nat) (c : Caps) (j : Nat) (c' : Caps), step i c j c' → P c → P c')
    {cnt i : Nat} {c : Caps} {j : Nat} {c' : Caps} (h : Iter step cnt i c j c') : P c → P c' := by
  induction h with
  | zero i c => exact id
  | succ hs _ ih2 => exact fun hc => ih2 (ih _ _ _ _ hs hc)

/-- A property `P` of the captures that every group of a regex keeps is kept by a match of the regex.  `S` says which
regexes are meant and passes from a regex to its parts; at a group the body may be skipped (`S r` need not hold). -/
theorem spec_caps {x : RxCtx} {P : Caps → Prop} {S : Rx → Prop}
    (hseq : ∀ a b, S (.seq a b) → S a ∧ S b) (halt : ∀ a b, S (.alt a b) → S a ∧ S b)
    (hrep : ∀ r mn mx g, S (.rep r mn mx g) → S r) (hlook : ∀ a n w r, S (.look a n w r) → S r)
    (hgrp : ∀ idx r i c j c0, S (.grp idx r) → Spec x r i c j c0 → P c → (S r → P c0) → P ((idx, (i, j)) :: c0))
    (r : Rx) : ∀ (i : Nat) (c : Caps) (j : Nat) (c' : Caps), Spec x r i c j c' → S r → P c → P c' := by
  induction r with
  | grp idx r ih =>
    intro i c j c' h hok hc
    simp only [Spec] at h
    obtain ⟨c0, h1, rfl⟩ := h
    exact hgrp idx r i c j c0 hok h1 hc (fun hr => ih _ _ _ _ h1 hr hc)
  | seq a b iha ihb =>
    intro i c j c' h hok hc
    simp only [Spec] at h
    obtain ⟨m, cm, h1, h2⟩ := h
    exact ihb _ _ _ _ h2 (hseq _ _ hok).2 (iha _ _ _ _ h1 (hseq _ _ hok).1 hc)
  | alt a b iha ihb =>
    intro i c j c' h hok hc
    simp only [Spec] at h
    rcases h with h | h
    · exact iha _ _ _ _ h (halt _ _ hok).1 hc
    · exact ihb _ _ _ _ h (halt _ _ hok).2 hc
  | rep r mn mx g ih =>
    intro i c j c' h hok hc
    simp only [Spec] at h
    obtain ⟨cnt, -, -, hit⟩ := h
    exact iter_caps (fun i c j c' hs hc => ih i c j c' hs (hrep _ _ _ _ hok) hc) hit hc
  | look ahead neg w r ih =>
    intro i c j c' h hok hc
    cases ahead <;> cases neg <;> simp only [Spec] at h
    · exact ih _ _ _ _ h.2.2 (hlook _ _ _ _ hok) hc
    · rw [h.2]; exact hc
    · obtain ⟨_, e, he⟩ := h
      exact ih _ _ _ _ he (hlook _ _ _ _ hok) hc
    · rw [h.2]; exact hc
  -- the other constructs leave the captures as they are
  | backref idx =>
    intro i c j c' h _ hc
    simp only [Spec] at h
    obtain ⟨a, b, _, _, _, _, rfl⟩ := h
    exact hc
  | eps | fail | cls | any | bos | bol | eos | eol | eosStrict | wordb | nwordb =>
    intro i c j c' h _ hc
    clear hseq halt hrep hlook hgrp
    simp_all [Spec]

theorem get_cons_isSome (k idx : Nat) (sp : Nat × Nat) (c0 : Caps) (h : (Caps.get c0 idx).isSome = true) :
    (Caps.get ((k, sp) :: c0) idx).isSome = true := by
  simp only [Caps.get, List.lookup]
  split
  · rfl
  · exact h

/-- captures persist: a set group stays set -/
theorem spec_persist (x : RxCtx) (idx : Nat) (r : Rx) (i : Nat) (c : Caps) (j : Nat) (c' : Caps)
    (h : Spec x r i c j c') (hc : (c.get idx).isSome = true) : (c'.get idx).isSome = true :=
  spec_caps (P := fun c => (c.get idx).isSome = true) (S := fun _ => True)
    (fun _ _ _ => ⟨trivial, trivial⟩) (fun _ _ _ => ⟨trivial, trivial⟩)
    (fun _ _ _ _ _ => trivial) (fun _ _ _ _ _ => trivial)
    (fun _ _ _ _ _ _ _ _ _ hbody => get_cons_isSome _ _ _ _ (hbody trivial)) r i c j c' h trivial hc

/-- group `idx` is set by every match (it lies on every path through the regex) -/
def Rx.grpAlways (idx : Nat) : Rx → Bool
  | .seq a b => a.grpAlways idx || b.grpAlways idx
  | .alt a b => a.grpAlways idx && b.grpAlways idx
  | .rep r mn _ _ => decide (1 ≤ mn) && r.grpAlways idx
  | .grp i r => i == idx || r.grpAlways idx
  | _ => false

theorem grpAlways_sound (x : RxCtx) (idx : Nat) (r : Rx) (i : Nat) (c : Caps) (j : Nat) (c' : Caps)
    (h : Spec x r i c j c') (hg : r.grpAlways idx = true) : (c'.get idx).isSome = true := by
  induction r generalizing i c j c' with
  | seq a b iha ihb =>
    simp only [Rx.grpAlways, Bool.or_eq_true] at hg
    rw [Spec] at h
    obtain ⟨m, cm, h1, h2⟩ := h
    rcases hg with hg | hg
    · exact spec_persist _ _ _ _ _ _ _ h2 (iha _ _ _ _ h1 hg)
    · exact ihb _ _ _ _ h2 hg
  | alt a b iha ihb =>
    simp only [Rx.grpAlways, Bool.and_eq_true] at hg
    rw [Spec] at h
    rcases h with h | h
    · exact iha _ _ _ _ h hg.1
    · exact ihb _ _ _ _ h hg.2
  | rep r mn mx g ih =>
    simp only [Rx.grpAlways, Bool.and_eq_true, decide_eq_true_eq] at hg
    rw [Spec] at h
    obtain ⟨cnt, hcnt, _, hit⟩ := h
    cases hit with
    | zero => omega
    | succ hs hrest =>
      have h1 := ih _ _ _ _ hs hg.2
      exact iter_caps (fun i c j c' hs' => spec_persist x idx r i c j c' hs') hrest h1
  | grp k r ih =>
    simp only [Rx.grpAlways, Bool.or_eq_true, beq_iff_eq] at hg
    rw [Spec] at h
    obtain ⟨c0, h1, hc'⟩ := h
    subst hc'
    rcases hg with hg | hg
    · subst hg
      simp [Caps.get, List.lookup]
    · exact get_cons_isSome _ _ _ _ (ih _ _ _ _ h1 hg)
  | _ => simp [Rx.grpAlways] at hg

/-- every group numbered `idx` has a body with `minLen ≥ 1` -/
def Rx.grpConsumes (idx : Nat) : Rx → Bool
  | .seq a b => a.grpConsumes idx && b.grpConsumes idx
  | .alt a b => a.grpConsumes idx && b.grpConsumes idx
  | .rep r _ _ _ => r.grpConsumes idx
  | .grp i r => r.grpConsumes idx && (i != idx || decide (1 ≤ r.minLen))
  | .look _ _ _ r => r.grpConsumes idx
  | _ => true

/-- the capture of group `idx`, when set, is a non-empty span that ends inside the subject -/
def CapOk (x : RxCtx) (idx : Nat) (c : Caps) : Prop := ∀ a b, c.get idx = some (a, b) → a < b ∧ b ≤ x.n

theorem iter_capOk {x : RxCtx} {r : Rx} {idx : Nat}
    (ih : ∀ (i : Nat) (c : Caps) (j : Nat) (c' : Caps), Spec x r i c j c' → i ≤ x.n → CapOk x idx c → CapOk x idx c')
    {cnt i : Nat} {c : Caps} {j : Nat} {c' : Caps} (h : Iter (Spec x r) cnt i c j c') :
    i ≤ x.n → CapOk x idx c → CapOk x idx c' := by
  induction h with
  | zero i c => exact fun _ hc => hc
  | succ hs _ ih2 =>
    intro hi hc
    exact ih2 (spec_bounds _ _ _ _ _ _ hs hi).2 (ih _ _ _ _ hs hi hc)

theorem grpConsumes_sound (x : RxCtx) (idx : Nat) (r : Rx) (i : Nat) (c : Caps) (j : Nat) (c' : Caps)
    (h : Spec x r i c j c') (hg : r.grpConsumes idx = true) (hi : i ≤ x.n) (hc : CapOk x idx c) : CapOk x idx c' := by
  induction r generalizing i c j c' with
  | eps => simp only [Spec] at h; rw [h.2]; exact hc
  | fail => simp only [Spec] at h
  | cls neg items => simp only [Spec] at h; rw [h.2.2.2]; exact hc
  | any dotall => simp only [Spec] at h; rw [h.2.2.2]; exact hc
  | seq a b iha ihb =>
    simp only [Rx.grpConsumes, Bool.and_eq_true] at hg
    rw [Spec] at h
    obtain ⟨m, cm, h1, h2⟩ := h
    exact ihb _ _ _ _ h2 hg.2 (spec_bounds _ _ _ _ _ _ h1 hi).2 (iha _ _ _ _ h1 hg.1 hi hc)
  | alt a b iha ihb =>
    simp only [Rx.grpConsumes, Bool.and_eq_true] at hg
    rw [Spec] at h
    rcases h with h | h
    · exact iha _ _ _ _ h hg.1 hi hc
    · exact ihb _ _ _ _ h hg.2 hi hc
  | rep r mn mx g ih =>
    simp only [Rx.grpConsumes] at hg
    rw [Spec] at h
    obtain ⟨cnt, _, _, hit⟩ := h
    exact iter_capOk (fun i c j c' hs hi hc => ih i c j c' hs hg hi hc) hit hi hc
  | grp k r ih =>
    simp only [Rx.grpConsumes, Bool.and_eq_true, Bool.or_eq_true, bne_iff_ne, ne_eq, decide_eq_true_eq] at hg
    rw [Spec] at h
    obtain ⟨c0, h1, hc'⟩ := h
    have h0 := ih _ _ _ _ h1 hg.1 hi hc
    subst hc'
    intro a b hab
    simp only [Caps.get, List.lookup] at hab
    split at hab
    · rename_i heq
      have hk : k = idx := by have := heq; simp at this; exact this.symm
      cases hab
      rcases hg.2 with hne | hml
      · exact absurd hk hne
      · exact ⟨nonempty_of_minLen _ _ _ _ _ _ h1 hml, (spec_bounds _ _ _ _ _ _ h1 hi).2⟩
    · exact h0 a b hab
  | backref k => simp only [Spec] at h; obtain ⟨a, b, _, _, _, _, hcc⟩ := h; rw [hcc]; exact hc
  | look ahead neg w r ih =>
    simp only [Rx.grpConsumes] at hg
    cases ahead <;> cases neg <;> simp only [Spec] at h
    · exact ih _ _ _ _ h.2.2 hg (by omega) hc
    · rw [h.2]; exact hc
    · obtain ⟨_, e, he⟩ := h; exact ih _ _ _ _ he hg hi hc
    · rw [h.2]; exact hc
  | bos => simp only [Spec] at h; rw [h.2.2]; exact hc
  | bol => simp only [Spec] at h; rw [h.2.2]; exact hc
  | eos => simp only [Spec] at h; rw [h.2.2]; exact hc
  | eol => simp only [Spec] at h; rw [h.2.2]; exact hc
  | eosStrict => simp only [Spec] at h; rw [h.2.2]; exact hc
  | wordb => simp only [Spec] at h; rw [h.2.2]; exact hc
  | nwordb => simp only [Spec] at h; rw [h.2.2]; exact hc

/-- a successful `pattern.match`: group `idx`, when it took part, captured a non-empty span inside the subject -/
theorem matchAt_capOk (x : RxCtx) (idx : Nat) (r : Rx) (pos : Nat) (m : RxMatch) (h : r.matchAt x pos = some m)
    (hg : r.grpConsumes idx = true) (hpos : pos ≤ x.n) : CapOk x idx m.caps := by
  obtain ⟨_, hs⟩ := matchAt_sound x r pos m h
  exact grpConsumes_sound x idx r pos [] m.stop m.caps hs hg hpos (fun a b hab => by cases hab)

end Mistune
