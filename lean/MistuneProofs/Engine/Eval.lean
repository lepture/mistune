/-
Evaluation of the matcher (`Rx.m`, `Rx.matchAt`, `Rx.search`) on a subject given as a list of characters.

Success is computed along the path the matcher takes first (`Reaches`: where a regex calls its continuation first;
one lemma per construct, composed along the regex; `ReachesPast` where a lazy loop or a second alternative is entered
only because the continuation fails before).  Failure follows from the shape of the possible matches (`m_none`,
`fails_of_spec`), and that shape is read off `matchAt_sound` by inverting `Spec` (`spec_seq`, `spec_run`, …).
`search` is the first position where `matchAt` succeeds.
-/
import Mistune.Py
import MistuneProofs.Engine.Spec
import MistuneProofs.Engine.Sound
import MistuneProofs.Engine.Analyses
namespace Mistune

/-! ### the subject as a list -/

theorem ctxOf_n (s : Str) : (Py.ctxOf s).n = s.length := by simp [Py.ctxOf, mkCtx]

theorem ctxOf_s (s : Str) : (Py.ctxOf s).s = s.toArray := rfl

theorem ctxOf_t (s : Str) : (Py.ctxOf s).t = pyCats := rfl

theorem ctxOf_chr (s : Str) (i : Nat) : (Py.ctxOf s).chr i = (s[i]?.getD ' ').toNat := by
  simp [RxCtx.chr, ctxOf_s]

theorem slice_toArray (s : Str) (i j : Nat) : Py.slice s.toArray i j = (s.drop i).take (j - i) := by
  simp [Py.slice]

/-- `x` is a matching context of the whole subject `s` (e.g. `Py.ctxOf s`; the category tables are irrelevant) -/
def CtxFor (x : RxCtx) (s : Str) : Prop := x.s = s.toArray ∧ x.n = s.length

theorem ctxFor_ctxOf (s : Str) : CtxFor (Py.ctxOf s) s := by
  simp [CtxFor, Py.ctxOf, mkCtx]

theorem ctx_drop_nil {x : RxCtx} {s : Str} (hx : CtxFor x s) {j : Nat} (h : s.drop j = []) : ¬ j < x.n := by
  have := List.drop_eq_nil_iff.mp h
  have := hx.2
  omega

theorem ctx_drop_cons {x : RxCtx} {s : Str} (hx : CtxFor x s) {j : Nat} {a : Char} {l : Str}
    (h : s.drop j = a :: l) : j < x.n ∧ x.chr j = a.toNat ∧ s.drop (j + 1) = l := by
  obtain ⟨hs, hn⟩ := hx
  have hj : j < s.length := by
    rcases Nat.lt_or_ge j s.length with h1 | h1
    · exact h1
    · rw [List.drop_eq_nil_iff.mpr h1] at h; cases h
  rw [List.drop_eq_getElem_cons hj] at h
  injection h with h1 h2
  refine ⟨by omega, ?_, h2⟩
  simp [RxCtx.chr, hs, Array.getD, hj, h1]

/-! ### classes of literal characters -/

theorem chr_test (t : CatTables) (q a : Char) : (ClsItem.chr q.toNat).test t a.toNat = (a == q) := by
  simp only [ClsItem.test]
  rw [Bool.eq_iff_iff]
  simp only [beq_iff_eq]
  exact ⟨fun h => (Char.toNat_inj.mp h).symm, fun h => by rw [h]⟩

/-- `[q₁q₂…]` (negated: `[^q₁q₂…]`) tests membership in the list of its characters -/
theorem clsTest_chrs (t : CatTables) (neg : Bool) (qs : List Char) (a : Char) :
    clsTest t neg (qs.map fun q => .chr q.toNat) a.toNat = (qs.contains a != neg) := by
  unfold clsTest
  congr 1
  induction qs with
  | nil => rfl
  | cons q r ih => rw [List.map_cons, List.any_cons, chr_test, ih, List.contains_cons]

theorem clsTest_chr1 (t : CatTables) (a : Char) (ch : Char) :
    clsTest t false [.chr a.toNat] ch.toNat = (ch == a) :=
  (clsTest_chrs t false [a] ch).trans
    (by simp only [List.contains_cons, List.contains_nil, Bool.or_false, Bool.bne_false])

theorem clsTest_chr2 (t : CatTables) (a b : Char) (ch : Char) :
    clsTest t false [.chr a.toNat, .chr b.toNat] ch.toNat = (ch == a || ch == b) :=
  (clsTest_chrs t false [a, b] ch).trans
    (by simp only [List.contains_cons, List.contains_nil, Bool.or_false, Bool.bne_false])

theorem clsTest_nchr1 (t : CatTables) (a : Char) (ch : Char) :
    clsTest t true [.chr a.toNat] ch.toNat = (ch != a) :=
  (clsTest_chrs t true [a] ch).trans
    (by simp only [List.contains_cons, List.contains_nil, Bool.or_false, Bool.bne_true]; rfl)

theorem slice_mid (a m r : Str) (i j : Nat) (hi : i = a.length) (hj : j = a.length + m.length) :
    Py.slice (Py.ctxOf (a ++ m ++ r)).s i j = m := by
  subst hi hj
  rw [ctxOf_s, slice_toArray, List.append_assoc, List.drop_left, Nat.add_sub_cancel_left, List.take_left]

/-! ### line starts -/

/-- `q` is a line start of `s` (what `^` tests under `re.M`) -/
def bolAt (s : Str) (q : Nat) : Prop := q = 0 ∨ s[q - 1]? = some '\n'

instance (s : Str) (q : Nat) : Decidable (bolAt s q) := by unfold bolAt; infer_instance

theorem bol_test (s : Str) (i : Nat) : (i == 0 || (Py.ctxOf s).chr (i - 1) == 10) = true ↔ bolAt s i := by
  rw [ctxOf_chr, bolAt]
  simp only [Bool.or_eq_true, beq_iff_eq]
  constructor
  · rintro (h | h)
    · exact Or.inl h
    · right
      cases hg : s[i - 1]? with
      | none => rw [hg] at h; simp at h
      | some ch =>
        rw [hg] at h
        simp only [Option.getD_some] at h
        rw [show ch = '\n' from Char.toNat_inj.mp h]
  · rintro (h | h)
    · exact Or.inl h
    · right; rw [h]; rfl

theorem bolAt_append_length (a b : Str) : bolAt (a ++ b) a.length ↔ (a = [] ∨ a.getLast? = some '\n') := by
  unfold bolAt
  rcases List.eq_nil_or_concat a with rfl | ⟨a', ch, rfl⟩
  · simp
  · simp

theorem not_bol_of_mem (t : Str) (i : Nat) (hi : 0 < i) (h : ∀ ch, t[i - 1]? = some ch → ch ≠ '\n') :
    ¬ bolAt t i := by
  rintro (h0 | h1)
  · omega
  · exact h _ h1 rfl

/-! ### the matcher on single constructs -/

/-- `r{lo,hi}` is `repLoop` with the fuel `x.n + lo + 2 - i` that `Rx.m` gives it (`Mistune/Rx.lean`) -/
theorem m_rep {R : Type} (x : RxCtx) (r : Rx) (lo : Nat) (hi : Option Nat) (g : Bool) (i : Nat) (c : Caps)
    (k : Nat → Caps → Option R) :
    (Rx.rep r lo hi g).m x i c k = repLoop (fun i c k => r.m x i c k) lo hi g k (x.n + lo + 2 - i) 0 false i c := rfl

theorem m_grp {R : Type} (x : RxCtx) (idx : Nat) (r : Rx) (i : Nat) (c : Caps) (k : Nat → Caps → Option R) :
    (Rx.grp idx r).m x i c k = r.m x i c (fun j c' => k j ((idx, (i, j)) :: c')) := rfl

theorem m_bol {R : Type} (s : Str) (i : Nat) (c : Caps) (k : Nat → Caps → Option R) :
    Rx.bol.m (Py.ctxOf s) i c k = if bolAt s i then k i c else none := by
  simp only [Rx.m]
  by_cases h : bolAt s i
  · rw [if_pos ((bol_test s i).mpr h), if_pos h]
  · rw [if_neg (fun h' => h ((bol_test s i).mp h')), if_neg h]

theorem m_eol {R : Type} (s : Str) (i : Nat) (c : Caps) (k : Nat → Caps → Option R) :
    Rx.eol.m (Py.ctxOf s) i c k = if i = s.length ∨ s[i]? = some '\n' then k i c else none := by
  simp only [Rx.m, ctxOf_n, ctxOf_chr]
  by_cases h1 : i = s.length
  · simp [h1]
  · by_cases h2 : i < s.length
    · rw [List.getElem?_eq_getElem h2, Option.getD_some]
      by_cases h3 : s[i] = '\n'
      · simp [h2, h3]
      · have : (s[i].toNat == 10) = false := by
          rw [beq_eq_false_iff_ne]
          exact fun h => h3 (Char.toNat_inj.mp h)
        simp [h1, h2, h3, this]
    · have : s[i]? = none := List.getElem?_eq_none (by omega)
      simp [h1, h2]

/-! ### failure -/

/-- a regex fails where its continuation fails at every end the regex admits -/
theorem m_none {R : Type} {x : RxCtx} {r : Rx} {i : Nat} {c : Caps} {k : Nat → Caps → Option R}
    (h : ∀ j c', Spec x r i c j c' → k j c' = none) : r.m x i c k = none := by
  refine Option.eq_none_iff_forall_ne_some.mpr fun res hm => ?_
  obtain ⟨j, c', hs, hk⟩ := m_sound _ _ _ _ _ _ hm
  rw [h j c' hs] at hk
  cases hk

/-- … in particular where it admits none -/
theorem fails_of_spec {x : RxCtx} {r : Rx} {i : Nat} {c : Caps} (h : ∀ j c', ¬ Spec x r i c j c') {R : Type}
    (k : Nat → Caps → Option R) : r.m x i c k = none :=
  m_none fun j c' hs => absurd hs (h j c')

theorem matchAt_none {x : RxCtx} {r : Rx} {pos : Nat} (h : ∀ j c', ¬ Spec x r pos [] j c') : r.matchAt x pos = none :=
  fails_of_spec h _

theorem cls_fails {R : Type} {x : RxCtx} {neg : Bool} {items : List ClsItem} {i : Nat} (c : Caps)
    (k : Nat → Caps → Option R) (h : ¬ (i < x.n ∧ clsTest x.t neg items (x.chr i) = true)) :
    (Rx.cls neg items).m x i c k = none := by
  simp only [Rx.m]
  rw [if_neg (by simpa using h)]

theorem seq_fails {x : RxCtx} {a : Rx} (b : Rx) {i : Nat} {c : Caps}
    (h : ∀ {R : Type} (k : Nat → Caps → Option R), a.m x i c k = none) {R : Type} (k : Nat → Caps → Option R) :
    (Rx.seq a b).m x i c k = none := h _

theorem alt_fails {x : RxCtx} {a b : Rx} {i : Nat} {c : Caps}
    (ha : ∀ {R : Type} (k : Nat → Caps → Option R), a.m x i c k = none)
    (hb : ∀ {R : Type} (k : Nat → Caps → Option R), b.m x i c k = none) {R : Type} (k : Nat → Caps → Option R) :
    (Rx.alt a b).m x i c k = none := by
  simp only [Rx.m, ha, hb]

/-- `$` does not hold before a character other than the newline -/
theorem eol_fails {R : Type} {s : Str} {i : Nat} {ch : Char} (h : s[i]? = some ch) (hch : ch ≠ '\n') (c : Caps)
    (k : Nat → Caps → Option R) : Rx.eol.m (Py.ctxOf s) i c k = none := by
  rw [m_eol, if_neg]
  rintro (h1 | h1)
  · rw [h1, List.getElem?_eq_none (Nat.le_refl _)] at h; cases h
  · rw [h1, Option.some.injEq] at h; exact hch h.symm

/-! ### where a regex calls its continuation first

One lemma per construct, composed along the regex (`reaches_seq`, `reaches_grp`, `reaches_alt_left/_right`, …).  For a
greedy loop over a class call `reaches_run` (subject given by `s.drop i`, the run as a list); `reaches_rep_cls` and
`reaches_rep_iter` are its index-level forms, for a loop whose body is not a class (`reaches_rep_iter`, with `Iter`). -/

/-- `r`, started at `i` with captures `c`, calls its continuation first at `(j, c')`: when the continuation succeeds
there, that is the result of the match (no backtracking into `r` takes place). -/
def Reaches (x : RxCtx) (r : Rx) (i : Nat) (c : Caps) (j : Nat) (c' : Caps) : Prop :=
  ∀ ⦃R : Type⦄ (k : Nat → Caps → Option R) (res : R), k j c' = some res → r.m x i c k = some res

theorem Reaches.matchAt {x : RxCtx} {r : Rx} {pos j : Nat} {c : Caps} (h : Reaches x r pos [] j c) :
    r.matchAt x pos = some { start := pos, stop := j, caps := c } := h _ _ rfl

theorem pyMatchAt_eq (r : Rx) (s : Str) (pos : Nat) (h : pos ≤ s.length) :
    Py.matchAt r (Py.ctxOf s) pos = r.matchAt (Py.ctxOf s) pos := by
  unfold Py.matchAt
  rw [ctxOf_n, Nat.min_eq_left h]

theorem reaches_seq {x : RxCtx} {a b : Rx} {i m j : Nat} {c cm c' : Caps} (ha : Reaches x a i c m cm)
    (hb : Reaches x b m cm j c') : Reaches x (.seq a b) i c j c' :=
  fun _ k res hk => ha _ res (hb k res hk)

theorem reaches_grp {x : RxCtx} {r : Rx} {i j : Nat} {c c0 : Caps} (idx : Nat) (h : Reaches x r i c j c0) :
    Reaches x (.grp idx r) i c j ((idx, (i, j)) :: c0) :=
  fun _ k res hk => h (fun j c' => k j ((idx, (i, j)) :: c')) res hk

theorem reaches_alt_left {x : RxCtx} {a : Rx} (b : Rx) {i j : Nat} {c c' : Caps} (h : Reaches x a i c j c') :
    Reaches x (.alt a b) i c j c' := by
  intro R k res hk
  simp only [Rx.m, h k res hk]

theorem reaches_alt_right {x : RxCtx} {a b : Rx} {i j : Nat} {c c' : Caps}
    (ha : ∀ {R : Type} (k : Nat → Caps → Option R), a.m x i c k = none) (h : Reaches x b i c j c') :
    Reaches x (.alt a b) i c j c' := by
  intro R k res hk
  simp only [Rx.m, ha k, h k res hk]

theorem reaches_cls {x : RxCtx} {neg : Bool} {items : List ClsItem} {i : Nat} (c : Caps)
    (h : i < x.n ∧ clsTest x.t neg items (x.chr i) = true) : Reaches x (.cls neg items) i c (i + 1) c := by
  intro R k res hk
  simp only [Rx.m]
  rw [if_pos (by simp [h.1, h.2]), hk]

theorem reaches_bol {s : Str} {i : Nat} (c : Caps) (h : bolAt s i) : Reaches (Py.ctxOf s) .bol i c i c := by
  intro R k res hk
  rw [m_bol, if_pos h, hk]

theorem reaches_bos {x : RxCtx} (c : Caps) : Reaches x .bos 0 c 0 c := by
  intro R k res hk
  simp only [Rx.m, beq_self_eq_true, if_true, hk]

theorem reaches_eos {x : RxCtx} {i : Nat} (c : Caps) (h : i = x.n) : Reaches x .eos i c i c := by
  intro R k res hk
  simp only [Rx.m, h, beq_self_eq_true, Bool.true_or, if_true]
  rw [← h, hk]

/-- `(?!r)` where `r` does not match -/
theorem reaches_look_neg {x : RxCtx} {r : Rx} {i : Nat} (w : Nat) (c : Caps)
    (h : ∀ {R : Type} (k : Nat → Caps → Option R), r.m x i c k = none) : Reaches x (.look true true w r) i c i c := by
  intro R k res hk
  simp only [Rx.m, h, hk]

/-! ### greedy loops -/

/-- the guard of a further iteration in `repLoop` -/
def canMoreB (hi : Option Nat) (lo cnt : Nat) (pa : Bool) : Bool :=
  (match hi with | some m => decide (cnt < m) | none => true) && (decide (cnt < lo) || pa || cnt == 0)

theorem repLoop_succ_greedy {R : Type} (mr : Nat → Caps → (Nat → Caps → Option R) → Option R)
    (lo : Nat) (hi : Option Nat) (k : Nat → Caps → Option R) (f cnt : Nat) (pa : Bool) (i : Nat) (c : Caps) :
    repLoop mr lo hi true k (f + 1) cnt pa i c =
      (match (if canMoreB hi lo cnt pa then
          mr i c (fun j c' => repLoop mr lo hi true k f (cnt + 1) (j != i) j c') else none) with
        | some r => some r
        | none => if cnt ≥ lo then k i c else none) := rfl

theorem canMoreB_true {hi : Option Nat} {lo cnt : Nat} {pa : Bool} (h1 : ∀ m, hi = some m → cnt < m)
    (h2 : pa = true ∨ cnt = 0) : canMoreB hi lo cnt pa = true := by
  cases hi with
  | none => rcases h2 with h | h <;> simp [canMoreB, h]
  | some m => have := h1 m rfl; rcases h2 with h | h <;> simp [canMoreB, h] <;> omega

theorem canMoreB_false {lo cnt : Nat} {pa : Bool} : canMoreB (some cnt) lo cnt pa = false := by
  simp [canMoreB]

theorem iter_progress {step : Nat → Caps → Nat → Caps → Prop} (hstep : ∀ i c j c', step i c j c' → i < j)
    {n i j : Nat} {c c' : Caps} (h : Iter step n i c j c') : i + n ≤ j := by
  induction h with
  | zero => omega
  | succ hs _ ih => have := hstep _ _ _ _ hs; omega

/-- a greedy loop takes the iterations `hit` — each along the path its body takes first, each advancing — when
after them the bound is reached or the body fails -/
theorem repLoop_iter {R : Type} {x : RxCtx} {r : Rx} {lo : Nat} {hi : Option Nat} {k : Nat → Caps → Option R}
    {res : R} {n i j : Nat} {c c' : Caps} (hit : Iter (fun i c j c' => Reaches x r i c j c' ∧ i < j) n i c j c') :
    ∀ (fuel cnt : Nat) (pa : Bool),
      (hi = some (cnt + n) ∨ ∀ k' : Nat → Caps → Option R, r.m x j c' k' = none) →
      lo ≤ cnt + n → (∀ m, hi = some m → cnt + n ≤ m) → n < fuel → (pa = true ∨ cnt = 0) → k j c' = some res →
      repLoop (fun i c k => r.m x i c k) lo hi true k fuel cnt pa i c = some res := by
  induction hit with
  | zero i c =>
    intro fuel cnt pa hstop hlo _ hfuel _ hk
    obtain ⟨f, rfl⟩ : ∃ f, fuel = f + 1 := ⟨fuel - 1, by omega⟩
    rw [Nat.add_zero] at hstop hlo
    have hdone : (if cnt ≥ lo then k i c else none) = some res := by rw [if_pos hlo, hk]
    rw [repLoop_succ_greedy]
    rcases hstop with hhi | hno
    · subst hhi
      rw [canMoreB_false, if_neg (by simp)]
      exact hdone
    · rw [hno, ite_self]
      exact hdone
  | @succ n i m j c cm c' hs _ ih =>
    intro fuel cnt pa hstop hlo hhi hfuel hpa hk
    obtain ⟨f, rfl⟩ : ∃ f, fuel = f + 1 := ⟨fuel - 1, by omega⟩
    have hbody := hs.1 (fun j c' => repLoop (fun i c k => r.m x i c k) lo hi true k f (cnt + 1) (j != i) j c') res
      (ih f (cnt + 1) (m != i) (by rwa [Nat.add_right_comm]) (by omega) (fun m' hm => by have := hhi m' hm; omega)
        (by omega) (Or.inl (by simpa using Nat.ne_of_gt hs.2)) hk)
    rw [repLoop_succ_greedy, canMoreB_true (fun m' hm => by have := hhi m' hm; omega) hpa, if_pos rfl, hbody]

/-- the greedy path of `r{lo,hi}` -/
theorem reaches_rep_iter {x : RxCtx} {r : Rx} {lo : Nat} {hi : Option Nat} {n i j : Nat} {c c' : Caps}
    (hit : Iter (fun i c j c' => Reaches x r i c j c' ∧ i < j) n i c j c')
    (hstop : hi = some n ∨ ∀ {R : Type} (k : Nat → Caps → Option R), r.m x j c' k = none)
    (hlo : lo ≤ n) (hhi : ∀ m, hi = some m → n ≤ m) (hj : j ≤ x.n) : Reaches x (.rep r lo hi true) i c j c' := by
  intro R k res hk
  have := iter_progress (fun _ _ _ _ h => h.2) hit
  rw [m_rep]
  exact repLoop_iter hit _ 0 false (by rcases hstop with h | h; exact Or.inl (by simpa using h); exact Or.inr h)
    (by simpa using hlo) (by simpa using hhi) (by omega) (Or.inr rfl) hk

/-- `r{lo,}` with `lo ≤ 1` succeeds as soon as a first iteration does, when the continuation succeeds everywhere -/
theorem rep_isSome {R : Type} {x : RxCtx} {r : Rx} {lo i j : Nat} {c c' : Caps} (hlo : lo ≤ 1) (hi : i ≤ x.n)
    (h : Reaches x r i c j c') (k : Nat → Caps → Option R) (hk : ∀ j c, (k j c).isSome) :
    ((Rx.rep r lo none true).m x i c k).isSome := by
  obtain ⟨F, hF⟩ : ∃ F, x.n + lo + 2 - i = F + 1 + 1 := ⟨x.n + lo - i, by omega⟩
  have hnext : (repLoop (fun i c k => r.m x i c k) lo none true k (F + 1) (0 + 1) (j != i) j c').isSome := by
    rw [repLoop_succ_greedy]
    split
    · rfl
    · rw [if_pos (by omega)]; exact hk j c'
  obtain ⟨res, hres⟩ := Option.isSome_iff_exists.mp hnext
  rw [m_rep, hF, repLoop_succ_greedy, canMoreB_true (by intro m hm; cases hm) (Or.inr rfl), if_pos rfl,
    h (fun j c' => repLoop _ lo none true k (F + 1) (0 + 1) (j != i) j c') res hres]
  rfl

theorem iter_of_cls_run {x : RxCtx} {neg : Bool} {items : List ClsItem} (c : Caps) : ∀ (j i : Nat),
    (∀ t, t < j → i + t < x.n ∧ clsTest x.t neg items (x.chr (i + t)) = true) →
    Iter (fun i c j c' => Reaches x (.cls neg items) i c j c' ∧ i < j) j i c (i + j) c := by
  intro j
  induction j with
  | zero => intro i _; exact Iter.zero i c
  | succ j ih =>
    intro i hrun
    have h0 := hrun 0 (by omega)
    rw [show i + (j + 1) = i + 1 + j by omega]
    exact Iter.succ ⟨reaches_cls c h0, Nat.lt_succ_self i⟩ (ih (i + 1) fun t ht => by
      have := hrun (t + 1) (by omega); rwa [show i + 1 + t = i + (t + 1) by omega])

/-- the greedy path of `cls{lo,hi}`: the continuation is first called after the maximal run -/
theorem reaches_rep_cls {x : RxCtx} {neg : Bool} {items : List ClsItem} {lo : Nat} {hi : Option Nat} (c : Caps)
    {i j : Nat}
    (hrun : ∀ t, t < j → i + t < x.n ∧ clsTest x.t neg items (x.chr (i + t)) = true)
    (hstop : hi = some j ∨ ¬ (i + j < x.n ∧ clsTest x.t neg items (x.chr (i + j)) = true))
    (hhi : ∀ m, hi = some m → j ≤ m) (hlo : lo ≤ j) (hle : i + j ≤ x.n) :
    Reaches x (.rep (.cls neg items) lo hi true) i c (i + j) c :=
  reaches_rep_iter (iter_of_cls_run c j i hrun) (hstop.imp_right fun h _ k => cls_fails c k h) hlo hhi hle

/-! ### the same on a subject given by what follows position `i` (`s.drop i`)

These are the forms the property files use: `reaches_chr`, `reaches_run`, `reaches_eol_drop`; `chr_fails`, `run_fails`,
`fails_first` for failure; `spec_chr`, `spec_run`, `spec_eol` for the shape of a match. -/

theorem drop_getElem? {s u : Str} {i : Nat} (hd : s.drop i = u) (t : Nat) : s[i + t]? = u[t]? := by
  rw [← hd, List.getElem?_drop]

theorem drop_length_le {s u : Str} {i : Nat} (hd : s.drop i = u) (hi : i ≤ s.length) : i + u.length = s.length := by
  have := congrArg List.length hd
  rw [List.length_drop] at this
  omega

theorem drop_append {s u v : Str} {i : Nat} (hd : s.drop i = u ++ v) : s.drop (i + u.length) = v := by
  rw [← List.drop_drop, hd, List.drop_left]

/-- the class test at `i` is the test of the head of `s.drop i` -/
theorem cls_at_drop {neg : Bool} {items : List ClsItem} {p : Char → Bool}
    (hp : ∀ ch : Char, clsTest pyCats neg items ch.toNat = p ch) {s u : Str} {i : Nat} (hd : s.drop i = u) :
    (i < (Py.ctxOf s).n ∧ clsTest (Py.ctxOf s).t neg items ((Py.ctxOf s).chr i) = true) ↔
      ∃ ch, u.head? = some ch ∧ p ch = true := by
  have hget : s[i]? = u.head? := by
    rw [List.head?_eq_getElem?, ← drop_getElem? hd 0]; rfl
  rw [ctxOf_n, ctxOf_chr, ctxOf_t, hget]
  constructor
  · rintro ⟨h1, h2⟩
    rw [← hget, List.getElem?_eq_getElem h1, Option.getD_some, hp] at h2
    exact ⟨s[i], by rw [← hget, List.getElem?_eq_getElem h1], h2⟩
  · rintro ⟨ch, h1, h2⟩
    refine ⟨?_, by rw [h1, Option.getD_some, hp, h2]⟩
    rcases Nat.lt_or_ge i s.length with h | h
    · exact h
    · rw [← hget, List.getElem?_eq_none h] at h1; cases h1

/-- a class fails where the subject does not go on with one of its characters -/
theorem chr_fails {neg : Bool} {items : List ClsItem} {p : Char → Bool}
    (hp : ∀ ch : Char, clsTest pyCats neg items ch.toNat = p ch) {s u : Str} {i : Nat} (c : Caps) (hd : s.drop i = u)
    (hu : ∀ ch, u.head? = some ch → p ch = false) {R : Type} (k : Nat → Caps → Option R) :
    (Rx.cls neg items).m (Py.ctxOf s) i c k = none :=
  cls_fails c k fun h => by
    obtain ⟨ch, hch, hpc⟩ := (cls_at_drop hp hd).mp h
    rw [hu ch hch] at hpc
    cases hpc

theorem lt_of_drop_cons {s u : Str} {i : Nat} {a : Char} (hd : s.drop i = a :: u) : i < s.length := by
  rcases Nat.lt_or_ge i s.length with h | h
  · exact h
  · rw [List.drop_eq_nil_iff.mpr h] at hd; cases hd

theorem reaches_chr {neg : Bool} {items : List ClsItem} {p : Char → Bool}
    (hp : ∀ ch : Char, clsTest pyCats neg items ch.toNat = p ch) {s rest : Str} {i : Nat} {ch : Char} (c : Caps)
    (hd : s.drop i = ch :: rest) (hch : p ch = true) : Reaches (Py.ctxOf s) (.cls neg items) i c (i + 1) c :=
  reaches_cls c ((cls_at_drop hp hd).mpr ⟨ch, rfl, hch⟩)

/-- `cls{lo,hi}` (greedy) on `run ++ rest`, where `run` is the maximal run of class characters, bounded by `hi` -/
theorem reaches_run {neg : Bool} {items : List ClsItem} {p : Char → Bool}
    (hp : ∀ ch : Char, clsTest pyCats neg items ch.toNat = p ch) {s run rest : Str} {i : Nat} (lo : Nat)
    (hi : Option Nat) (c : Caps) (hd : s.drop i = run ++ rest) (hle : i ≤ s.length)
    (hrun : ∀ ch ∈ run, p ch = true) (hstop : hi = some run.length ∨ ∀ ch, rest.head? = some ch → p ch = false)
    (hhi : ∀ m, hi = some m → run.length ≤ m) (hlo : lo ≤ run.length) :
    Reaches (Py.ctxOf s) (.rep (.cls neg items) lo hi true) i c (i + run.length) c := by
  have hlen := drop_length_le hd hle
  rw [List.length_append] at hlen
  apply reaches_rep_cls c
  · intro t ht
    have hdt : s.drop (i + t) = (run ++ rest).drop t := by rw [← hd, List.drop_drop]
    refine (cls_at_drop hp hdt).mpr ⟨run[t], ?_, hrun _ (List.getElem_mem ht)⟩
    rw [List.head?_drop, List.getElem?_append_left ht, List.getElem?_eq_getElem ht]
  · rcases hstop with h | h
    · exact Or.inl h
    · right
      rw [cls_at_drop hp (drop_append hd)]
      rintro ⟨ch, h1, h2⟩
      rw [h ch h1] at h2
      cases h2
  · exact hhi
  · exact hlo
  · rw [ctxOf_n]; omega

/-- `$` on a subject given by what follows -/
theorem reaches_eol_drop {s u : Str} {i : Nat} (c : Caps) (hd : s.drop i = u) (hi : i ≤ s.length)
    (hu : u = [] ∨ ∃ r', u = '\n' :: r') : Reaches (Py.ctxOf s) .eol i c i c := by
  intro R k res hk
  rw [m_eol, if_pos, hk]
  rcases hu with rfl | ⟨r', rfl⟩
  · left
    have := congrArg List.length hd
    rw [List.length_drop, List.length_nil] at this
    omega
  · right
    have := drop_getElem? hd 0
    rwa [Nat.add_zero] at this

/-! ### the lazy `.*?`, and continuations that fail -/

/-- like `Reaches`, for a continuation that fails at the positions in `F` (whatever the captures): `r` calls it there
before it calls it at `(j, c')` -/
def ReachesPast (x : RxCtx) (r : Rx) (i : Nat) (c : Caps) (F : Nat → Prop) (j : Nat) (c' : Caps) : Prop :=
  ∀ ⦃R : Type⦄ (k : Nat → Caps → Option R) (res : R), (∀ j0 c0, F j0 → k j0 c0 = none) → k j c' = some res →
    r.m x i c k = some res

theorem reachesPast_seq {x : RxCtx} {a b : Rx} {i m j : Nat} {c cm c' : Caps} {F : Nat → Prop}
    (ha : Reaches x a i c m cm) (hb : ReachesPast x b m cm F j c') : ReachesPast x (.seq a b) i c F j c' :=
  fun _ k res hF hk => ha _ res (hb k res hF hk)

theorem reachesPast_grp {x : RxCtx} {r : Rx} {i j : Nat} {c c0 : Caps} {F : Nat → Prop} (idx : Nat)
    (h : ReachesPast x r i c F j c0) : ReachesPast x (.grp idx r) i c F j ((idx, (i, j)) :: c0) :=
  fun _ k res hF hk => h (fun j c' => k j ((idx, (i, j)) :: c')) res (fun j0 _ h0 => hF j0 _ h0) hk

/-- the first alternative fails when all its ends are in `F` -/
theorem reachesPast_alt_right {x : RxCtx} {a b : Rx} {i j : Nat} {c c' : Caps} {F : Nat → Prop}
    (ha : ∀ j0 c0, Spec x a i c j0 c0 → F j0) (h : ReachesPast x b i c F j c') :
    ReachesPast x (.alt a b) i c F j c' := by
  intro R k res hF hk
  simp only [Rx.m, m_none fun j0 c0 hs => hF j0 c0 (ha j0 c0 hs), h k res hF hk]

/-- back to `Reaches`: what follows fails at the positions in `F` -/
theorem reaches_seq_past {x : RxCtx} {a b : Rx} {i m j : Nat} {c cm c' : Caps} {F : Nat → Prop}
    (ha : ReachesPast x a i c F m cm)
    (hF : ∀ j0, F j0 → ∀ (c0 : Caps) {R : Type} (k : Nat → Caps → Option R), b.m x j0 c0 k = none)
    (hb : Reaches x b m cm j c') : Reaches x (.seq a b) i c j c' :=
  fun _ k res hk => ha _ res (fun j0 c0 h0 => hF j0 h0 c0 _) (hb k res hk)

/-- the loop of `.*?`: the continuation is tried after 0, 1, 2, … characters; where it fails at the first `m` ends and
succeeds at the next one, that is the result -/
theorem lazyAny_reach {R : Type} (x : RxCtx) (dotall : Bool) (K : Nat → Caps → Option R) (c : Caps) (r : R) :
    ∀ (m fuel cnt : Nat) (pa : Bool) (i : Nat),
      (∀ t, t < m → i + t < x.n ∧ (dotall = true ∨ x.chr (i + t) ≠ 10) ∧ K (i + t) c = none) →
      K (i + m) c = some r → m + 1 ≤ fuel → (pa || cnt == 0) = true →
      repLoop (fun i c k => (Rx.any dotall).m x i c k) 0 none false K fuel cnt pa i c = some r := by
  intro m
  induction m with
  | zero =>
    intro fuel cnt pa i _ hK hf _
    obtain ⟨fuel, rfl⟩ : ∃ f, fuel = f + 1 := ⟨fuel - 1, by omega⟩
    simp only [Nat.add_zero] at hK
    simp [repLoop, hK]
  | succ m ih =>
    intro fuel cnt pa i hrun hK hf hpa
    obtain ⟨fuel, rfl⟩ : ∃ f, fuel = f + 1 := ⟨fuel - 1, by omega⟩
    obtain ⟨h1, h2, h3⟩ := hrun 0 (by omega)
    simp only [Nat.add_zero] at h1 h2 h3
    have := ih fuel (cnt + 1) (i + 1 != i) (i + 1)
      (fun t ht => by have := hrun (t + 1) (by omega); rwa [show i + 1 + t = i + (t + 1) by omega])
      (by rw [show i + 1 + m = i + (m + 1) by omega]; exact hK) (by omega) (by simp)
    simp [Rx.m] at this
    simp only [repLoop, Rx.m, h3]
    have h2' : (dotall || x.chr i != 10) = true := by rcases h2 with h | h <;> simp [h]
    simp [h1, h2', hpa, this]

/-- try `f i`, `f (i+1)`, …, `f (i+m)` in this order -/
def tryFrom {R : Type} (f : Nat → Option R) : Nat → Nat → Option R
  | i, 0 => f i
  | i, m + 1 => match f i with
    | some r => some r
    | none => tryFrom f (i + 1) m

/-- **The lazy star over `.` (DOTALL) tries the end positions in increasing order**: `.*?` continued by `K` returns
the result of `K` at the first position `e ∈ [i, endpos]` where `K` succeeds. -/
theorem lazyAny_loop {R : Type} (x : RxCtx) (K : Nat → Caps → Option R) (c : Caps) :
    ∀ (m fuel cnt : Nat) (pa : Bool) (i : Nat), i + m = x.n → m + 1 ≤ fuel → (pa || cnt == 0) = true →
      repLoop (fun i c k => (Rx.any true).m x i c k) 0 none false K fuel cnt pa i c =
        tryFrom (fun e => K e c) i m := by
  intro m
  induction m with
  | zero =>
    intro fuel cnt pa i him hf hpa
    obtain ⟨fuel, rfl⟩ : ∃ f, fuel = f + 1 := ⟨fuel - 1, by omega⟩
    have hi : ¬ i < x.n := by omega
    simp only [repLoop, tryFrom, Rx.m]
    cases hk : K i c <;> simp [hi]
  | succ m ih =>
    intro fuel cnt pa i him hf hpa
    obtain ⟨fuel, rfl⟩ : ∃ f, fuel = f + 1 := ⟨fuel - 1, by omega⟩
    have hi : i < x.n := by omega
    simp only [repLoop, tryFrom, Rx.m]
    cases hk : K i c with
    | some r => simp
    | none =>
      have := ih fuel (cnt + 1) (i + 1 != i) (i + 1) (by omega) (by omega) (by simp)
      simp [Rx.m] at this
      simp [hi, hpa, this]

theorem lazyAny_none {R : Type} (x : RxCtx) (K : Nat → Caps → Option R) (c : Caps) :
    ∀ (fuel cnt : Nat) (pa : Bool) (i : Nat), (∀ e, i ≤ e → K e c = none) →
      repLoop (fun i c k => (Rx.any true).m x i c k) 0 none false K fuel cnt pa i c = none := by
  intro fuel
  induction fuel with
  | zero => intros; rfl
  | succ fuel ih =>
    intro cnt pa i hK
    have := ih (cnt + 1) (i + 1 != i) (i + 1) (fun e he => hK e (by omega))
    simp [Rx.m] at this
    simp only [repLoop, Rx.m, hK i (Nat.le_refl i)]
    simp [this]

/-- `.*?` (DOTALL) from `i` within the subject: the first end in `[i, endpos]` at which the continuation succeeds -/
theorem lazyAny_m {R : Type} (x : RxCtx) (K : Nat → Caps → Option R) (c : Caps) (i : Nat) (hi : i ≤ x.n) :
    (Rx.rep (.any true) 0 none false).m x i c K = tryFrom (fun e => K e c) i (x.n - i) := by
  rw [m_rep]
  exact lazyAny_loop x K c (x.n - i) _ 0 false i (by omega) (by omega) rfl

theorem lazyAny_m_none {R : Type} (x : RxCtx) (K : Nat → Caps → Option R) (c : Caps) (i : Nat)
    (hK : ∀ e, i ≤ e → K e c = none) : (Rx.rep (.any true) 0 none false).m x i c K = none := by
  rw [m_rep]
  exact lazyAny_none x K c _ 0 false i hK

/-- **`.*?` tries the ends in increasing order**: it gets past the characters at which the continuation fails -/
theorem reachesPast_lazy {x : RxCtx} {dotall : Bool} {i m : Nat} (c : Caps) {F : Nat → Prop}
    (hrun : ∀ t, t < m → i + t < x.n ∧ (dotall = true ∨ x.chr (i + t) ≠ 10) ∧ F (i + t)) (hle : i + m ≤ x.n) :
    ReachesPast x (.rep (.any dotall) 0 none false) i c F (i + m) c := by
  intro R k res hF hk
  rw [m_rep]
  exact lazyAny_reach x dotall k c res m _ 0 false i
    (fun t ht => ⟨(hrun t ht).1, (hrun t ht).2.1, hF _ c (hrun t ht).2.2⟩) hk (by omega) (by simp)

theorem reachesPast_lazy_run {s run rest : Str} {dotall : Bool} {i : Nat} (c : Caps) {F : Nat → Prop}
    (hd : s.drop i = run ++ rest) (hi : i ≤ s.length) (hnl : dotall = true ∨ '\n' ∉ run)
    (hF : ∀ t, t < run.length → F (i + t)) :
    ReachesPast (Py.ctxOf s) (.rep (.any dotall) 0 none false) i c F (i + run.length) c := by
  have hlen := drop_length_le hd hi
  rw [List.length_append] at hlen
  refine reachesPast_lazy c (fun t ht => ⟨by rw [ctxOf_n]; omega, hnl.imp_right fun h e => ?_, hF t ht⟩)
    (by rw [ctxOf_n]; omega)
  rw [ctxOf_chr, drop_getElem? hd t, List.getElem?_append_left ht, List.getElem?_eq_getElem ht, Option.getD_some] at e
  exact h ((show run[t] = '\n' from Char.toNat_inj.mp e) ▸ List.getElem_mem ht)

/-- `(.*?)$` (no DOTALL, `re.M`) on the rest of a line: the lazy `.*?` is first left at the end of the line -/
theorem reaches_lazy_eol {s content tl : Str} {i : Nat} (idx : Nat) (c : Caps) (hd : s.drop i = content ++ tl)
    (hi : i ≤ s.length) (hnl : '\n' ∉ content) (htl : tl = [] ∨ ∃ v, tl = '\n' :: v) :
    Reaches (Py.ctxOf s) (.seq (.grp idx (.rep (.any false) 0 none false)) .eol) i c (i + content.length)
      ((idx, (i, i + content.length)) :: c) := by
  have hn := drop_length_le hd hi
  rw [List.length_append] at hn
  refine reaches_seq_past (F := fun j => ∃ t, t < content.length ∧ j = i + t)
    (reachesPast_grp idx (reachesPast_lazy_run c hd hi (Or.inr hnl) fun t ht => ⟨t, ht, rfl⟩)) ?_
    (reaches_eol_drop _ (drop_append hd) (by omega) htl)
  rintro j0 ⟨t, ht, rfl⟩ c0 R k
  refine eol_fails (ch := content[t]) ?_ (fun e => hnl (e ▸ List.getElem_mem ht)) c0 k
  rw [drop_getElem? hd t, List.getElem?_append_left ht, List.getElem?_eq_getElem ht]

/-! ### what a match looks like: inversion of `Spec` -/

theorem iter_cls {x : RxCtx} {neg : Bool} {items : List ClsItem} {cnt i : Nat} {c : Caps} {j : Nat} {c' : Caps}
    (h : Iter (Spec x (.cls neg items)) cnt i c j c') :
    j = i + cnt ∧ c' = c ∧ ∀ t, t < cnt → i + t < x.n ∧ clsTest x.t neg items (x.chr (i + t)) = true := by
  induction h with
  | zero i c => exact ⟨rfl, rfl, fun t ht => by omega⟩
  | @succ n i0 j0 k0 c0 c1 c2 hs _ ih =>
    simp only [Spec] at hs
    obtain ⟨h1, h2, rfl, rfl⟩ := hs
    obtain ⟨rfl, rfl, h3⟩ := ih
    refine ⟨by omega, rfl, ?_⟩
    intro t ht
    cases t with
    | zero => exact ⟨h1, h2⟩
    | succ t => have := h3 t (by omega); rwa [show i0 + 1 + t = i0 + (t + 1) by omega] at this

theorem spec_seq {x : RxCtx} {a b : Rx} {i : Nat} {c : Caps} {j : Nat} {c' : Caps} :
    Spec x (.seq a b) i c j c' ↔ ∃ m cm, Spec x a i c m cm ∧ Spec x b m cm j c' := Iff.rfl

theorem spec_rep {x : RxCtx} {r : Rx} {mn : Nat} {mx : Option Nat} {g : Bool} {i : Nat} {c : Caps} {j : Nat}
    {c' : Caps} : Spec x (.rep r mn mx g) i c j c' ↔
      ∃ cnt, mn ≤ cnt ∧ (∀ m, mx = some m → cnt ≤ m) ∧ Iter (Spec x r) cnt i c j c' := Iff.rfl

theorem spec_grp {x : RxCtx} {idx : Nat} {r : Rx} {i : Nat} {c : Caps} {j : Nat} {c' : Caps} :
    Spec x (.grp idx r) i c j c' ↔ ∃ c0, Spec x r i c j c0 ∧ c' = (idx, (i, j)) :: c0 := Iff.rfl

theorem spec_alt {x : RxCtx} {a b : Rx} {i : Nat} {c : Caps} {j : Nat} {c' : Caps} :
    Spec x (.alt a b) i c j c' ↔ Spec x a i c j c' ∨ Spec x b i c j c' := Iff.rfl

/-- a match of a repeat with a positive minimum starts with a match of the body -/
theorem spec_rep_first {x : RxCtx} {r : Rx} {lo : Nat} {hi : Option Nat} {g : Bool} {i : Nat} {c : Caps} {j : Nat}
    {c' : Caps} (h : Spec x (.rep r (lo + 1) hi g) i c j c') : ∃ j1 c1, Spec x r i c j1 c1 := by
  obtain ⟨cnt, hc, _, hit⟩ := spec_rep.mp h
  obtain ⟨n, rfl⟩ : ∃ n, cnt = n + 1 := ⟨cnt - 1, by omega⟩
  cases hit with
  | succ hs1 _ => exact ⟨_, _, hs1⟩

theorem spec_look_neg {x : RxCtx} {w : Nat} {r : Rx} {i : Nat} {c : Caps} {j : Nat} {c' : Caps} :
    Spec x (.look true true w r) i c j c' ↔ j = i ∧ c' = c := Iff.rfl

theorem spec_bol {s : Str} {i : Nat} {c : Caps} {j : Nat} {c' : Caps} (h : Spec (Py.ctxOf s) .bol i c j c') :
    bolAt s i ∧ j = i ∧ c' = c := by
  simp only [Spec] at h
  obtain ⟨hb, rfl, rfl⟩ := h
  refine ⟨(bol_test s j).mp ?_, rfl, rfl⟩
  rcases hb with h | h
  · simp [h]
  · simp [h]

theorem spec_bos {x : RxCtx} {i : Nat} {c : Caps} {j : Nat} {c' : Caps} :
    Spec x .bos i c j c' ↔ i = 0 ∧ j = i ∧ c' = c := Iff.rfl

/-- `$` under `re.M`: at the end of the subject or before a newline -/
theorem spec_eol {s : Str} {i j : Nat} {c c' : Caps} (h : Spec (Py.ctxOf s) .eol i c j c') :
    j = i ∧ c' = c ∧ (s.drop i = [] ∨ ∃ t', s.drop i = '\n' :: t') := by
  simp only [Spec] at h
  obtain ⟨h1, rfl, rfl⟩ := h
  refine ⟨rfl, rfl, ?_⟩
  rw [ctxOf_n] at h1
  rcases h1 with h1 | ⟨h1, h2⟩
  · left; rw [h1, List.drop_length]
  · right
    rw [ctxOf_chr, List.getElem?_eq_getElem h1, Option.getD_some] at h2
    exact ⟨_, by rw [List.drop_eq_getElem_cons h1, show s[j] = '\n' from Char.toNat_inj.mp h2]⟩

/-- `$` without `re.M`: at the end of the subject or before a final newline -/
theorem spec_eos {s : Str} {i j : Nat} {c c' : Caps} (h : Spec (Py.ctxOf s) .eos i c j c') :
    j = i ∧ c' = c ∧ (s.drop i = [] ∨ s.drop i = ['\n']) := by
  simp only [Spec] at h
  obtain ⟨h1, rfl, rfl⟩ := h
  refine ⟨rfl, rfl, ?_⟩
  rw [ctxOf_n] at h1
  rcases h1 with h1 | ⟨h1, h2⟩
  · left; rw [h1, List.drop_length]
  · right
    have hlt : j < s.length := by omega
    rw [ctxOf_chr, List.getElem?_eq_getElem hlt, Option.getD_some] at h2
    rw [List.drop_eq_getElem_cons hlt, show s[j] = '\n' from Char.toNat_inj.mp h2, h1, List.drop_length]

/-- a match of a class is one class character of the subject -/
theorem spec_chr {neg : Bool} {items : List ClsItem} {p : Char → Bool}
    (hp : ∀ ch : Char, clsTest pyCats neg items ch.toNat = p ch) {s : Str} {i j : Nat} {c c' : Caps}
    (h : Spec (Py.ctxOf s) (.cls neg items) i c j c') :
    ∃ ch, s.drop i = ch :: s.drop j ∧ j = i + 1 ∧ c' = c ∧ p ch = true := by
  simp only [Spec] at h
  obtain ⟨h1, h2, rfl, rfl⟩ := h
  obtain ⟨ch, hch, hpc⟩ := (cls_at_drop hp rfl).mp ⟨h1, h2⟩
  rw [ctxOf_n] at h1
  rw [List.drop_eq_getElem_cons h1, List.head?_cons, Option.some.injEq] at hch
  exact ⟨ch, by rw [List.drop_eq_getElem_cons h1, hch], rfl, rfl, hpc⟩

/-- a match of `.` is one character of the subject, not the newline unless DOTALL -/
theorem spec_any {dotall : Bool} {s : Str} {i j : Nat} {c c' : Caps} (h : Spec (Py.ctxOf s) (.any dotall) i c j c') :
    ∃ ch, s.drop i = ch :: s.drop j ∧ j = i + 1 ∧ c' = c ∧ (dotall || ch != '\n') = true := by
  simp only [Spec] at h
  obtain ⟨h1, h2, rfl, rfl⟩ := h
  rw [ctxOf_n] at h1
  rw [ctxOf_chr, List.getElem?_eq_getElem h1, Option.getD_some] at h2
  refine ⟨s[i], List.drop_eq_getElem_cons h1, rfl, rfl, ?_⟩
  rcases h2 with h2 | h2
  · simp [h2]
  · have : s[i] ≠ '\n' := fun e => h2 (by rw [e]; rfl)
    simp [this]

/-- iterations that take one character each take a run of characters -/
theorem iter_chars {s : Str} {p : Char → Bool} {step : Nat → Caps → Nat → Caps → Prop}
    (hstep : ∀ i c j c', step i c j c' → ∃ ch, s.drop i = ch :: s.drop j ∧ j = i + 1 ∧ c' = c ∧ p ch = true)
    {cnt i j : Nat} {c c' : Caps} (h : Iter step cnt i c j c') :
    ∃ run, s.drop i = run ++ s.drop j ∧ j = i + run.length ∧ c' = c ∧ run.length = cnt ∧ ∀ ch ∈ run, p ch = true := by
  induction h with
  | zero i c => exact ⟨[], rfl, rfl, rfl, rfl, by simp⟩
  | succ hs _ ih =>
    obtain ⟨ch, hd, rfl, rfl, hp⟩ := hstep _ _ _ _ hs
    obtain ⟨run, hd', rfl, rfl, rfl, hr⟩ := ih
    refine ⟨ch :: run, by rw [hd, hd']; rfl, by simp only [List.length_cons]; omega, rfl, rfl, ?_⟩
    intro b hb
    rcases List.mem_cons.mp hb with rfl | hb
    · exact hp
    · exact hr b hb

/-- a match of `cls{lo,hi}` is a run of class characters of the subject -/
theorem spec_run {neg : Bool} {items : List ClsItem} {p : Char → Bool}
    (hp : ∀ ch : Char, clsTest pyCats neg items ch.toNat = p ch) {s : Str} {lo : Nat} {hi : Option Nat} {g : Bool}
    {i j : Nat} {c c' : Caps} (h : Spec (Py.ctxOf s) (.rep (.cls neg items) lo hi g) i c j c') :
    ∃ run, s.drop i = run ++ s.drop j ∧ j = i + run.length ∧ c' = c ∧ lo ≤ run.length ∧
      (∀ m, hi = some m → run.length ≤ m) ∧ ∀ ch ∈ run, p ch = true := by
  obtain ⟨cnt, h1, h2, hit⟩ := spec_rep.mp h
  obtain ⟨run, hd, hj, hc, rfl, hr⟩ := iter_chars (fun _ _ _ _ => spec_chr hp) hit
  exact ⟨run, hd, hj, hc, h1, h2, hr⟩

/-- a match of `.{lo,hi}` is a run of characters of the subject -/
theorem spec_run_any {dotall : Bool} {s : Str} {lo : Nat} {hi : Option Nat} {g : Bool} {i j : Nat} {c c' : Caps}
    (h : Spec (Py.ctxOf s) (.rep (.any dotall) lo hi g) i c j c') :
    ∃ run, s.drop i = run ++ s.drop j ∧ j = i + run.length ∧ c' = c ∧ lo ≤ run.length ∧
      (∀ m, hi = some m → run.length ≤ m) ∧ ∀ ch ∈ run, (dotall || ch != '\n') = true := by
  obtain ⟨cnt, h1, h2, hit⟩ := spec_rep.mp h
  obtain ⟨run, hd, hj, hc, rfl, hr⟩ := iter_chars (p := fun ch => dotall || ch != '\n') (fun _ _ _ _ => spec_any) hit
  exact ⟨run, hd, hj, hc, h1, h2, hr⟩

/-- a run of class characters at the head of `bl ++ b :: more`, `b` outside the class, stays within `bl` -/
theorem run_le_of_stop {p : Char → Bool} {run u bl more : Str} {b : Char} (h : run ++ u = bl ++ b :: more)
    (hrun : ∀ ch ∈ run, p ch = true) (hb : p b = false) : run.length ≤ bl.length := by
  rcases Nat.lt_or_ge bl.length run.length with hlt | hge
  · exfalso
    have e := congrArg (fun l => l[bl.length]?) h
    simp only [List.getElem?_append_left hlt, List.getElem?_append_right (Nat.le_refl _), Nat.sub_self,
      List.getElem?_cons_zero, List.getElem?_eq_getElem hlt, Option.some.injEq] at e
    rw [← e, hrun _ (List.getElem_mem hlt)] at hb
    cases hb
  · exact hge

/-- `cls{lo+1,…}` fails where the subject does not go on with a class character -/
theorem run_fails {neg : Bool} {items : List ClsItem} {p : Char → Bool}
    (hp : ∀ ch : Char, clsTest pyCats neg items ch.toNat = p ch) {s u : Str} {i : Nat} (lo : Nat) (hi : Option Nat)
    (g : Bool) (c : Caps) (hd : s.drop i = u) (hu : ∀ ch, u.head? = some ch → p ch = false) {R : Type}
    (k : Nat → Caps → Option R) : (Rx.rep (.cls neg items) (lo + 1) hi g).m (Py.ctxOf s) i c k = none := by
  refine fails_of_spec (fun j c' hs => ?_) k
  obtain ⟨_, _, h1⟩ := spec_rep_first hs
  obtain ⟨ch, hd', _, _, hch⟩ := spec_chr hp h1
  rw [hu ch (by rw [← hd, hd']; rfl)] at hch
  cases hch

/-- a regex that does not match empty fails where the next character cannot begin a match (`Rx.firstOk`), and at the
end of the subject -/
theorem fails_first {s u : Str} {i : Nat} (r : Rx) (c : Caps) (hd : s.drop i = u) (hi : i ≤ s.length)
    (hmin : 1 ≤ r.minLen) (hu : ∀ a, u.head? = some a → r.firstOk pyCats a.toNat = false) {R : Type}
    (k : Nat → Caps → Option R) : r.m (Py.ctxOf s) i c k = none := by
  refine fails_of_spec (fun j c' hs => ?_) k
  have hlt := nonempty_of_minLen _ _ _ _ _ _ hs hmin
  have hb := spec_bounds _ _ _ _ _ _ hs (by rw [ctxOf_n]; exact hi)
  rw [ctxOf_n] at hb
  have hil : i < s.length := by omega
  have hfo := firstOk_sound _ _ _ _ _ _ hs hlt
  rw [ctxOf_t, ctxOf_chr, List.getElem?_eq_getElem hil, Option.getD_some,
    hu _ (by rw [← hd, List.drop_eq_getElem_cons hil]; rfl)] at hfo
  cases hfo

/-! ### `search` from the first matching position -/

theorem search_first (r : Rx) (x : RxCtx) (p q : Nat) (mt : RxMatch) (hpq : p ≤ q) (hq : q ≤ x.n)
    (hfail : ∀ i, p ≤ i → i < q → r.matchAt x i = none) (hm : r.matchAt x q = some mt) :
    r.search x p = some mt := by
  cases hsr : r.search x p with
  | none => have := search_none x r p hsr q hpq hq; rw [this] at hm; cases hm
  | some mt' =>
    unfold Rx.search at hsr
    obtain ⟨h1, h2, h3, h4⟩ := searchFrom_sound x r _ _ _ hsr
    rcases Nat.lt_trichotomy mt'.start q with h | h | h
    · rw [hfail _ h1 h] at h3; cases h3
    · rw [h, hm] at h3; exact h3.symm
    · rw [h4 q hpq h] at hm; cases hm

theorem search_all_none (r : Rx) (x : RxCtx) (p : Nat)
    (hfail : ∀ i, p ≤ i → i ≤ x.n → r.matchAt x i = none) : r.search x p = none := by
  cases hsr : r.search x p with
  | none => rfl
  | some mt' =>
    unfold Rx.search at hsr
    obtain ⟨h1, h2, h3, _⟩ := searchFrom_sound x r _ _ _ hsr
    rw [hfail _ h1 h2] at h3; cases h3

theorem search_skip (r : Rx) (x : RxCtx) (p : Nat) (hp : p < x.n) (h : r.matchAt x p = none) :
    r.search x p = r.search x (p + 1) := by
  unfold Rx.search
  rw [show x.n + 2 - p = (x.n + 2 - (p + 1)) + 1 by omega, Rx.searchFrom, if_neg (by omega), h]

end Mistune
