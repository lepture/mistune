/-
`Py.reSub` evaluated.  With a *line-head* pattern (`^…` under `re.M` that stays within the line) the pattern matches
only at a line start and its match is a prefix of that line, possibly the empty one; `sub` then rewrites every line
separately (`lineHead_sub`; `lineSub` for a pattern that does not match empty; `reSub_trimRep` for `^ {lo,k}`).  The loop
invariant covers the positions where the pattern does not match (the scan moves on by one character) and Python's rule
for an empty match (the replacement is inserted, the next character is copied, the scan resumes after it).
`reSub_no_match` and `reSub_single` are `sub` with no match, and with one match that ends the text.
-/
import Mistune.Model.Base
import MistuneProofs.Lines
import MistuneProofs.Engine.Eval
namespace Mistune
open Mistune.Model

/-- `sub` is its scan loop with fuel `len(s) + 2` (`Py.reSub`, `Mistune/Py.lean`): every round but the last moves the
position forward -/
theorem reSub_eq_go (r : Rx) (repl : Array Char → RxMatch → Str) (t : Str) :
    Py.reSub r repl t = Py.reSub.go r repl (Py.ctxOf t) (t.length + 1 + 1) 0 0 [] := rfl

theorem rx_of_lookup (cfg : MdCfg) (name : String) (r : Rx) (h : cfg.named.lookup name = some r) : cfg.rx name = r := by
  simp [MdCfg.rx, h]

/-- rewrite of one line: where the pattern matches (`on l`), the first `len l` characters are replaced by `out l` -/
def headSub (on : Str → Prop) [DecidablePred on] (len : Str → Nat) (out : Str → Str) (l : Str) : Str :=
  if on l then out l ++ l.drop (len l) else l

/-- `r` (with replacement function `repl`) is a line-head pattern: it matches exactly at the line starts whose line
`l` satisfies `on l`, the match is the first `len l` characters of that line, and the replacement is `out l`. -/
structure LineHead (r : Rx) (repl : Array Char → RxMatch → Str) (on : Str → Prop) (len : Str → Nat)
    (out : Str → Str) : Prop where
  len_le : ∀ l, len l ≤ l.length
  hit : ∀ (t : Str) (q : Nat), q ≤ t.length → bolAt t q → on (firstLine (t.drop q)) →
    ∃ mt, r.matchAt (Py.ctxOf t) q = some mt ∧ mt.start = q ∧ mt.stop = q + len (firstLine (t.drop q)) ∧
      repl (Py.ctxOf t).s mt = out (firstLine (t.drop q))
  only : ∀ (t : Str) (q : Nat) (mt : RxMatch), q ≤ t.length → r.matchAt (Py.ctxOf t) q = some mt →
    bolAt t q ∧ on (firstLine (t.drop q))

/-- what remains to be produced from position `p` on -/
def tailSpec (f : Str → Str) (t : Str) (p : Nat) : Str :=
  if bolAt t p then subLines f (t.drop p) else midSub f (t.drop p)

/-- within a line: the character at `p` is copied -/
theorem midSub_step (f : Str → Str) (t : Str) (p : Nat) (hp : p < t.length) :
    midSub f (t.drop p) = t[p] :: tailSpec f t (p + 1) := by
  rw [List.drop_eq_getElem_cons hp]
  unfold tailSpec
  by_cases hnl : t[p] = '\n'
  · rw [if_pos (show bolAt t (p + 1) from Or.inr (by simp [List.getElem?_eq_getElem hp, hnl])), hnl, midSub_nl]
  · rw [if_neg (not_bol_of_mem t (p + 1) (by omega) (by
      intro ch hch
      simp only [Nat.add_sub_cancel, List.getElem?_eq_getElem hp, Option.some.injEq] at hch
      exact hch ▸ hnl)), midSub_cons _ _ _ hnl]

/-- a position inside the line that starts at `p` is in the subject and is not a line start -/
theorem in_line (t : Str) (p n : Nat) (hp : p ≤ t.length) (hn : n ≤ (firstLine (t.drop p)).length) :
    p + n ≤ t.length ∧ (0 < n → ¬ bolAt t (p + n)) := by
  obtain ⟨tl, h1, _⟩ := firstLine_spec (t.drop p)
  have hnl := firstLine_no_nl (t.drop p)
  generalize firstLine (t.drop p) = l at *
  have hlen : p + l.length ≤ t.length := by
    have := congrArg List.length h1
    simp at this; omega
  refine ⟨by omega, fun h0 => not_bol_of_mem t _ (by omega) ?_⟩
  intro ch hch
  have hlt : n - 1 < l.length := by omega
  rw [show p + n - 1 = p + (n - 1) by omega, ← List.getElem?_drop, h1, List.getElem?_append_left hlt] at hch
  exact fun e => hnl (e ▸ List.mem_of_getElem? hch)

section
variable {on : Str → Prop} [DecidablePred on] {len : Str → Nat} {out : Str → Str}

/-- no match at `p`: the rest of the line is copied -/
theorem tailSpec_miss (t : Str) (p : Nat) (hno : ¬ (bolAt t p ∧ on (firstLine (t.drop p)))) :
    tailSpec (headSub on len out) t p = midSub (headSub on len out) (t.drop p) := by
  unfold tailSpec
  by_cases hb : bolAt t p
  · obtain ⟨T, hT1, hT2⟩ := subLines_midSub (headSub on len out) (t.drop p)
    have hT0 := hT2 0 (Nat.zero_le _)
    rw [List.drop_zero, List.drop_zero] at hT0
    rw [if_pos hb, hT1, hT0, headSub, if_neg (fun h => hno ⟨hb, h⟩)]
  · rw [if_neg hb]

/-- a match at `p`: the replacement is produced, the scan continues in the middle of the line -/
theorem tailSpec_hit (hlen : ∀ l, len l ≤ l.length) (t : Str) (p : Nat) (hb : bolAt t p)
    (hon : on (firstLine (t.drop p))) :
    tailSpec (headSub on len out) t p =
      out (firstLine (t.drop p)) ++ midSub (headSub on len out) (t.drop (p + len (firstLine (t.drop p)))) := by
  obtain ⟨T, hT1, hT2⟩ := subLines_midSub (headSub on len out) (t.drop p)
  unfold tailSpec
  rw [if_pos hb, hT1, ← List.drop_drop, hT2 _ (hlen _), headSub, if_pos hon, List.append_assoc]

/-- loop invariant of `sub` for a line-head pattern -/
theorem lineHead_go {r : Rx} {repl : Array Char → RxMatch → Str} (H : LineHead r repl on len out) (t : Str) :
    ∀ (fuel d p cp : Nat) (acc : Str), t.length - p = d → cp ≤ p → p ≤ t.length → t.length + 1 ≤ fuel + p →
      Py.reSub.go r repl (Py.ctxOf t) fuel p cp acc =
        acc ++ (t.drop cp).take (p - cp) ++ tailSpec (headSub on len out) t p := by
  intro fuel
  induction fuel with
  | zero => intro d p cp acc _ _ h1 h2; omega
  | succ fuel ihf =>
    -- a match at `p`
    have hmatch : ∀ (p cp : Nat) (acc : Str) (mt0 : RxMatch), p ≤ t.length →
        t.length + 1 ≤ fuel + 1 + p → r.matchAt (Py.ctxOf t) p = some mt0 →
        Py.reSub.go r repl (Py.ctxOf t) (fuel + 1) p cp acc =
          acc ++ (t.drop cp).take (p - cp) ++ tailSpec (headSub on len out) t p := by
      intro p cp acc mt0 hp hf hm
      obtain ⟨hb, hon⟩ := H.only t p mt0 hp hm
      obtain ⟨mt, hmt, hst, hsp, hrepl⟩ := H.hit t p hp hb hon
      obtain ⟨hle, hnb⟩ := in_line t p _ hp (H.len_le (firstLine (t.drop p)))
      have hsearch : r.search (Py.ctxOf t) p = some mt :=
        search_first _ _ p p _ (Nat.le_refl _) (by rw [ctxOf_n]; exact hp) (fun i h1 h2 => by omega) hmt
      rw [Py.reSub.go, if_neg (by rw [ctxOf_n]; omega), hsearch]
      simp only
      rw [hrepl, hst, hsp, tailSpec_hit H.len_le t p hb hon, ctxOf_s, slice_toArray, ctxOf_n]
      generalize len (firstLine (t.drop p)) = n at *
      by_cases h0 : n = 0
      · -- empty match: the next character is copied, the scan resumes after it
        subst h0
        rw [Nat.add_zero, if_pos (beq_self_eq_true p)]
        by_cases hlt : p < t.length
        · rw [if_pos hlt, ihf _ (p + 1) (p + 1) _ rfl (Nat.le_refl _) (by omega) (by omega),
            midSub_step _ t p hlt]
          simp [hlt]
        · rw [if_neg hlt, show t.drop p = [] from List.drop_of_length_le (by omega), midSub_nil, List.append_nil]
      · rw [if_neg (by simp; omega), ihf _ (p + n) (p + n) _ rfl (Nat.le_refl _) hle (by omega), tailSpec,
          if_neg (hnb (by omega))]
        simp
    intro d
    induction d with
    | zero =>
      intro p cp acc hd hcp hp hf
      cases hm : r.matchAt (Py.ctxOf t) p with
      | some mt0 => exact hmatch p cp acc mt0 hp hf hm
      | none =>
        -- the end of the subject
        have hpe : p = t.length := by omega
        have hnone : r.search (Py.ctxOf t) p = none := by
          apply search_all_none
          intro i h1 h2
          rw [ctxOf_n] at h2
          rw [show i = p by omega, hm]
        rw [Py.reSub.go, if_neg (by rw [ctxOf_n]; omega), hnone,
          tailSpec_miss t p (fun h => by obtain ⟨mt, hmt, _⟩ := H.hit t p hp h.1 h.2; rw [hm] at hmt; cases hmt),
          hpe, List.drop_length, midSub_nil, List.append_nil]
        simp only [ctxOf_s, ctxOf_n, slice_toArray]
    | succ d ihd =>
      intro p cp acc hd hcp hp hf
      have hlt : p < t.length := by omega
      cases hm : r.matchAt (Py.ctxOf t) p with
      | some mt0 => exact hmatch p cp acc mt0 hp hf hm
      | none =>
        -- the scan moves on by one character
        have hstep : Py.reSub.go r repl (Py.ctxOf t) (fuel + 1) p cp acc =
            Py.reSub.go r repl (Py.ctxOf t) (fuel + 1) (p + 1) cp acc := by
          rw [Py.reSub.go, Py.reSub.go, if_neg (by rw [ctxOf_n]; omega), if_neg (by rw [ctxOf_n]; omega),
            search_skip _ _ _ (by rw [ctxOf_n]; exact hlt) hm]
        rw [hstep, ihd (p + 1) cp acc (by omega) (by omega) (by omega) (by omega),
          tailSpec_miss t p (fun h => by obtain ⟨mt, hmt, _⟩ := H.hit t p hp h.1 h.2; rw [hm] at hmt; cases hmt),
          midSub_step _ t p hlt]
        have : (t.drop cp).take (p + 1 - cp) = (t.drop cp).take (p - cp) ++ [t[p]] := by
          rw [show p + 1 - cp = (p - cp) + 1 by omega, List.take_add_one, List.getElem?_drop,
            show cp + (p - cp) = p by omega, List.getElem?_eq_getElem hlt]
          rfl
        rw [this]
        simp

/-- **`sub` with a line-head pattern rewrites every line separately.** -/
theorem lineHead_sub {r : Rx} {repl : Array Char → RxMatch → Str} (H : LineHead r repl on len out) (t : Str) :
    Py.reSub r repl t = subLines (headSub on len out) t := by
  rw [reSub_eq_go]
  have := lineHead_go H t (t.length + 1 + 1) _ 0 0 [] rfl (Nat.le_refl _) (Nat.zero_le _) (by omega)
  simp only [List.nil_append, List.drop_zero, Nat.sub_self, List.take_zero, tailSpec] at this
  rw [if_pos (show bolAt t 0 from Or.inl rfl)] at this
  exact this

end

/-! ### a line-head pattern that does not match empty -/

/-- rewrite of one line: the first `len l` characters are replaced by `out l` (`len l = 0`: no match) -/
def rwLine (len : Str → Nat) (out : Str → Str) (l : Str) : Str :=
  if 0 < len l then out l ++ l.drop (len l) else l

/-- `r` (with replacement function `repl`) is a line-head pattern: it matches exactly at the line starts whose line
`l` has `len l > 0`, the match is the first `len l` characters of that line, and the replacement is `out l`.
This is `LineHead` with `on l := 0 < len l` (`miss` is `LineHead.only`), and `rwLine` is the `headSub` of that. -/
structure LineSub (r : Rx) (repl : Array Char → RxMatch → Str) (len : Str → Nat) (out : Str → Str) : Prop where
  len_le : ∀ l, len l ≤ l.length
  hit : ∀ (t : Str) (q : Nat), q ≤ t.length → bolAt t q → 0 < len (firstLine (t.drop q)) →
    ∃ mt, r.matchAt (Py.ctxOf t) q = some mt ∧ mt.start = q ∧ mt.stop = q + len (firstLine (t.drop q)) ∧
      repl (Py.ctxOf t).s mt = out (firstLine (t.drop q))
  miss : ∀ (t : Str) (q : Nat) (mt : RxMatch), q ≤ t.length → r.matchAt (Py.ctxOf t) q = some mt →
    bolAt t q ∧ 0 < len (firstLine (t.drop q))

/-- **`sub` with a line-head pattern rewrites every line separately.** -/
theorem lineSub {r : Rx} {repl : Array Char → RxMatch → Str} {len : Str → Nat} {out : Str → Str}
    (H : LineSub r repl len out) (t : Str) : Py.reSub r repl t = subLines (rwLine len out) t :=
  lineHead_sub (on := fun l => 0 < len l) ⟨H.len_le, H.hit, H.miss⟩ t

/-! ### the trim regexes `^ {lo,k}` -/

/-- `^ {lo,k}` matches at a line start with at least `lo` blanks, and takes `min k (number of blanks)` of them -/
theorem trimLo_matchAt_hit (lo k : Nat) (t : Str) (q : Nat) (hq : q ≤ t.length) (hb : bolAt t q)
    (hlo : lo ≤ spRun k (t.drop q)) :
    (Rx.seq .bol (.rep (.cls false [.chr 32]) lo (some k) true)).matchAt (Py.ctxOf t) q =
      some { start := q, stop := q + spRun k (t.drop q), caps := [] } := by
  obtain ⟨run, rest, h1, h2, h3, h4, h5⟩ := spRun_spec k (t.drop q)
  have := reaches_run (clsTest_chr1 pyCats ' ') lo (some k) [] h1 hq (fun ch h => by simp [h3 ch h])
    (by
      rcases h5 with h5 | rfl | ⟨ch, r', rfl, h6⟩
      · left; rw [h2, h5]
      · right; intro ch h; cases h
      · right; intro ch' h; cases h; simpa using h6)
    (fun m hm => by cases hm; omega) (by omega)
  rw [h2] at this
  exact (reaches_seq (reaches_bol [] hb) this).matchAt

/-- conversely a match of `^ {lo,k}` is at a line start with at least `lo` blanks -/
theorem trimLo_matchAt_sound (lo k : Nat) (t : Str) (q : Nat) (mt : RxMatch)
    (h : (Rx.seq .bol (.rep (.cls false [.chr 32]) lo (some k) true)).matchAt (Py.ctxOf t) q = some mt) :
    bolAt t q ∧ lo ≤ spRun k (t.drop q) := by
  obtain ⟨_, hs⟩ := matchAt_sound _ _ _ _ h
  obtain ⟨i0, c0, hbol, hs⟩ := spec_seq.mp hs
  obtain ⟨hb, rfl, rfl⟩ := spec_bol hbol
  obtain ⟨sp, hd, _, _, hlo, hk, hsp⟩ := spec_run (clsTest_chr1 pyCats ' ') hs
  refine ⟨hb, ?_⟩
  rw [hd, spRun_eq, List.takeWhile_append_of_pos hsp, List.length_append]
  have := hk k rfl
  omega

theorem trimLo_lineHead (lo k : Nat) :
    LineHead (Rx.seq .bol (.rep (.cls false [.chr 32]) lo (some k) true)) (fun _ _ => [])
      (fun l => lo ≤ spRun k l) (spRun k) (fun _ => []) where
  len_le := spRun_le_length k
  hit := fun t q hq hb hon => by
    rw [spRun_firstLine] at hon ⊢
    exact ⟨_, trimLo_matchAt_hit lo k t q hq hb hon, rfl, rfl, rfl⟩
  only := fun t q mt _ hm => by
    rw [spRun_firstLine]
    exact trimLo_matchAt_sound lo k t q mt hm

/-- `^ {lo,k}` with `lo ≤ 1`, substituted by the empty string, strips up to `k` leading blanks of every line: for
`lo = 0` the pattern matches (possibly empty) at every line start; for `lo = 1` it does not match where there is
nothing to strip. -/
theorem reSub_trimRep (lo k : Nat) (hlo : lo ≤ 1) (t : Str) :
    Py.reSub (Rx.seq .bol (.rep (.cls false [.chr 32]) lo (some k) true)) (fun _ _ => []) t = trimLines k t := by
  rw [lineHead_sub (trimLo_lineHead lo k) t, trimLines_eq_subLines]
  congr 1
  funext l
  rw [dropUpTo_eq, headSub]
  split
  · rfl
  · rw [show spRun k l = 0 by omega]; rfl

/-! ### `sub` with at most one match, which ends at the end of the text -/

theorem reSub_no_match (r : Rx) (repl : Array Char → RxMatch → Str) (t : Str)
    (h : ∀ i, i ≤ t.length → r.matchAt (Py.ctxOf t) i = none) : Py.reSub r repl t = t := by
  have hs : r.search (Py.ctxOf t) 0 = none :=
    search_all_none _ _ _ (fun i _ hi => h i (by rwa [ctxOf_n] at hi))
  rw [reSub_eq_go, Py.reSub.go, if_neg (by omega), hs]
  simp [ctxOf_s, ctxOf_n, slice_toArray]

theorem reSub_single (r : Rx) (t : Str) (q : Nat) (mt : RxMatch) (hq : q < t.length)
    (hfail : ∀ i, i < q → r.matchAt (Py.ctxOf t) i = none) (hm : r.matchAt (Py.ctxOf t) q = some mt)
    (hst : mt.start = q) (hstop : mt.stop = t.length) (hend : r.matchAt (Py.ctxOf t) t.length = none) :
    Py.reSub r (fun _ _ => []) t = t.take q := by
  have hs : r.search (Py.ctxOf t) 0 = some mt :=
    search_first _ _ 0 q mt (Nat.zero_le _) (by rw [ctxOf_n]; omega) (fun i _ hi => hfail i hi) hm
  have hs2 : r.search (Py.ctxOf t) t.length = none :=
    search_all_none _ _ _ (fun i h1 h2 => by
      rw [ctxOf_n] at h2
      rw [show i = t.length by omega]; exact hend)
  rw [reSub_eq_go, Py.reSub.go, if_neg (by omega), hs]
  simp only
  rw [hst, hstop, if_neg (by simp; omega), Py.reSub.go, if_neg (by rw [ctxOf_n]; omega), hs2]
  simp [ctxOf_s, ctxOf_n, slice_toArray]

end Mistune
