/-
Soundness of the matcher w.r.t. `Spec` (CPS inversion), and what it gives for `matchAt` / `search`.
-/
import MistuneProofs.Engine.Spec
namespace Mistune

/-- Soundness of the repeat loop, relative to a step relation for which the body matcher is sound. -/
theorem repLoop_sound {R : Type} (step : Nat → Caps → Nat → Caps → Prop)
    (mr : Nat → Caps → (Nat → Caps → Option R) → Option R)
    (hmr : ∀ i c (k : Nat → Caps → Option R) res, mr i c k = some res →
      ∃ j c', step i c j c' ∧ k j c' = some res)
    (mn : Nat) (mx : Option Nat) (g : Bool) (k : Nat → Caps → Option R) (res : R) :
    ∀ fuel cnt prevAdv i c, (∀ m, mx = some m → cnt ≤ m) →
      repLoop mr mn mx g k fuel cnt prevAdv i c = some res →
      ∃ n j c', Iter step n i c j c' ∧ mn ≤ cnt + n ∧ (∀ m, mx = some m → cnt + n ≤ m) ∧
        k j c' = some res := by
  intro fuel
  induction fuel with
  | zero => intro cnt p i c _ h; simp [repLoop] at h
  | succ fuel ih =>
    intro cnt p i c hcan h
    have hmore : ∀ (canMore : Bool), (canMore = true → ∀ m, mx = some m → cnt < m) →
        (if canMore = true then
          mr i c (fun j c' => repLoop mr mn mx g k fuel (cnt + 1) (j != i) j c') else none) = some res →
        ∃ n j c', Iter step n i c j c' ∧ mn ≤ cnt + n ∧ (∀ m, mx = some m → cnt + n ≤ m) ∧
          k j c' = some res := by
      intro cm hcm hm
      cases cm with
      | false => simp at hm
      | true =>
        simp only [if_true] at hm
        obtain ⟨j, c', hs, hk⟩ := hmr _ _ _ _ hm
        obtain ⟨n, j2, c2, hit, h1, h2, h3⟩ := ih _ _ _ _ (fun m hmm => hcm rfl m hmm) hk
        refine ⟨n + 1, j2, c2, Iter.succ hs hit, by omega, ?_, h3⟩
        intro m hmm
        have := h2 m hmm
        omega
    have hdone : (if cnt ≥ mn then k i c else none) = some res →
        ∃ n j c', Iter step n i c j c' ∧ mn ≤ cnt + n ∧ (∀ m, mx = some m → cnt + n ≤ m) ∧
          k j c' = some res := by
      intro hd
      split at hd
      · rename_i hge
        exact ⟨0, i, c, Iter.zero i c, by omega, by simpa using hcan, hd⟩
      · simp at hd
    simp only [repLoop] at h
    cases g with
    | true =>
      simp only [if_true] at h
      split at h
      · rename_i r hr
        cases h
        exact hmore _ (by intro hc m hmm; subst hmm; simp at hc; exact hc.1) hr
      · exact hdone h
    | false =>
      simp only [Bool.false_eq_true, if_false] at h
      split at h
      · rename_i r hr
        cases h
        exact hdone hr
      · exact hmore _ (by intro hc m hmm; subst hmm; simp at hc; exact hc.1) h

/-- **Soundness (CPS inversion).** If the matcher, continued by `k`, succeeds, then the regex admits some
`(j, c')` (in the sense of `Spec`) on which `k` returned that result. -/
theorem m_sound {R : Type} (x : RxCtx) (r : Rx) (i : Nat) (c : Caps) (k : Nat → Caps → Option R) (res : R)
    (h : r.m x i c k = some res) : ∃ j c', Spec x r i c j c' ∧ k j c' = some res := by
  induction r generalizing R i c k res with
  | eps => simp only [Rx.m] at h; exact ⟨i, c, by simp [Spec], h⟩
  | fail => simp [Rx.m] at h
  | cls | any =>
    simp only [Rx.m] at h
    split at h
    · rename_i hc
      simp at hc
      exact ⟨i + 1, c, by simp [Spec, hc], h⟩
    · simp at h
  | seq a b iha ihb =>
    simp only [Rx.m] at h
    obtain ⟨m, cm, hs, hk⟩ := iha _ _ _ _ h
    obtain ⟨j, c', hs2, hk2⟩ := ihb _ _ _ _ hk
    exact ⟨j, c', by simp only [Spec]; exact ⟨m, cm, hs, hs2⟩, hk2⟩
  | alt a b iha ihb =>
    simp only [Rx.m] at h
    split at h
    · rename_i r hr
      cases h
      obtain ⟨j, c', hs, hk⟩ := iha _ _ _ _ hr
      exact ⟨j, c', by simp only [Spec]; exact Or.inl hs, hk⟩
    · obtain ⟨j, c', hs, hk⟩ := ihb _ _ _ _ h
      exact ⟨j, c', by simp only [Spec]; exact Or.inr hs, hk⟩
  | rep r mn mx g ih =>
    simp only [Rx.m] at h
    obtain ⟨n, j, c', hit, h1, h2, h3⟩ :=
      repLoop_sound (Spec x r) (fun i c k => r.m x i c k) (fun i c k res hh => ih i c k res hh)
        mn mx g k res _ 0 false i c (by intros; omega) h
    refine ⟨j, c', ?_, h3⟩
    simp only [Spec]
    exact ⟨n, by omega, by simpa using h2, hit⟩
  | grp idx r ih =>
    simp only [Rx.m] at h
    obtain ⟨j, c', hs, hk⟩ := ih _ _ _ _ h
    exact ⟨j, _, by simp only [Spec]; exact ⟨c', hs, rfl⟩, hk⟩
  | backref idx =>
    simp only [Rx.m] at h
    split at h
    · simp at h
    · rename_i a b hg
      split at h
      · rename_i hc
        simp at hc
        exact ⟨_, c, by rw [Spec]; exact ⟨a, b, hg, rfl, hc.1, hc.2, rfl⟩, h⟩
      · simp at h
  | look ahead neg w r ih =>
    cases ahead <;> cases neg <;> simp only [Rx.m] at h
    · split at h
      · rename_i hw
        split at h
        · rename_i c1 hr
          obtain ⟨j, c', hs, hk⟩ := ih _ _ _ _ hr
          split at hk
          · rename_i hj
            simp at hj hk
            subst hj; subst hk
            exact ⟨j, c', by rw [Spec]; exact ⟨rfl, hw, hs⟩, h⟩
          · simp at hk
        · simp at h
      · simp at h
    · split at h
      · split at h
        · simp at h
        · exact ⟨i, c, by simp [Spec], h⟩
      · exact ⟨i, c, by simp [Spec], h⟩
    · split at h
      · rename_i c1 hr
        obtain ⟨j, c', hs, hk⟩ := ih _ _ _ _ hr
        simp at hk
        subst hk
        exact ⟨i, c', by rw [Spec]; exact ⟨rfl, j, hs⟩, h⟩
      · simp at h
    · split at h
      · simp at h
      · exact ⟨i, c, by simp [Spec], h⟩
  | bos | bol | eos | eol | eosStrict =>
    simp only [Rx.m] at h
    split at h
    · rename_i hc
      simp at hc
      exact ⟨i, c, by simp [Spec, hc], h⟩
    · simp at h
  | wordb =>
    simp only [Rx.m] at h
    split at h
    · rename_i hc
      exact ⟨i, c, by rw [Spec]; exact ⟨hc, rfl, rfl⟩, h⟩
    · simp at h
  | nwordb =>
    simp only [Rx.m] at h
    split at h
    · simp at h
    · rename_i hc
      exact ⟨i, c, by rw [Spec]; exact ⟨by simpa using hc, rfl, rfl⟩, h⟩

theorem iter_bounds (step : Nat → Caps → Nat → Caps → Prop) (n : Nat)
    (hstep : ∀ i c j c', step i c j c' → i ≤ n → i ≤ j ∧ j ≤ n)
    {cnt i : Nat} {c : Caps} {j : Nat} {c' : Caps}
    (h : Iter step cnt i c j c') (hi : i ≤ n) : i ≤ j ∧ j ≤ n := by
  induction h with
  | zero i c => omega
  | succ hs _ ih =>
    have b1 := hstep _ _ _ _ hs hi
    have b2 := ih b1.2
    omega

/-- A `Spec` match never moves backwards and never passes `endpos`. -/
theorem spec_bounds (x : RxCtx) (r : Rx) (i : Nat) (c : Caps) (j : Nat) (c' : Caps)
    (h : Spec x r i c j c') (hi : i ≤ x.n) : i ≤ j ∧ j ≤ x.n := by
  induction r generalizing i c j c' with
  | fail => simp only [Spec] at h
  | eps | cls | any | bos | bol | eos | eol | eosStrict | wordb | nwordb => simp only [Spec] at h; omega
  | seq a b iha ihb =>
    simp only [Spec] at h
    obtain ⟨m, cm, h1, h2⟩ := h
    have b1 := iha _ _ _ _ h1 hi
    have b2 := ihb _ _ _ _ h2 b1.2
    omega
  | alt a b iha ihb =>
    simp only [Spec] at h
    rcases h with h | h
    · exact iha _ _ _ _ h hi
    · exact ihb _ _ _ _ h hi
  | rep r mn mx g ih =>
    simp only [Spec] at h
    obtain ⟨cnt, _, _, hit⟩ := h
    exact iter_bounds (Spec x r) x.n (fun i c j c' hs hi => ih i c j c' hs hi) hit hi
  | grp idx r ih =>
    simp only [Spec] at h
    obtain ⟨c0, h1, _⟩ := h
    exact ih _ _ _ _ h1 hi
  | backref idx =>
    simp only [Spec] at h
    obtain ⟨a, b, _, h1, h2, _, _⟩ := h
    omega
  | look ahead neg w r ih =>
    cases ahead <;> cases neg <;> simp only [Spec] at h <;> omega

/-- `pattern.match`: the returned span starts at `pos` and is admitted by `Spec`. -/
theorem matchAt_sound (x : RxCtx) (r : Rx) (pos : Nat) (mt : RxMatch) (h : r.matchAt x pos = some mt) :
    mt.start = pos ∧ Spec x r pos [] mt.stop mt.caps := by
  unfold Rx.matchAt at h
  obtain ⟨j, c', hs, hk⟩ := m_sound x r pos [] _ mt h
  simp at hk
  subst hk
  exact ⟨rfl, hs⟩

/-- A fuel-driven search `loop` for the first position in `[pos, n]` at which `f` answers (the shape of
`Rx.searchFrom`, see `searchFrom_succ` below, and of the combined scanner's `scanFrom`, see `scanFrom_succ` in
`C01Loops`): a hit is `f`'s answer at some `q`, and `f` has no answer in `[pos, q)`. -/
theorem firstFrom_some {α : Type} {f : Nat → Option α} {n : Nat} {loop : Nat → Nat → Option α}
    (hzero : ∀ pos, loop 0 pos = none)
    (hsucc : ∀ fuel pos, loop (fuel + 1) pos = if pos > n then none else (f pos).or (loop fuel (pos + 1))) :
    ∀ fuel pos r, loop fuel pos = some r →
      ∃ q, pos ≤ q ∧ q ≤ n ∧ f q = some r ∧ ∀ q', pos ≤ q' → q' < q → f q' = none := by
  intro fuel
  induction fuel with
  | zero => intro pos r h; rw [hzero] at h; cases h
  | succ fuel ih =>
    intro pos r h
    rw [hsucc] at h
    split at h
    · cases h
    · cases hm : f pos with
      | some r' =>
        rw [hm, Option.some_or] at h
        exact ⟨pos, Nat.le_refl _, by omega, hm ▸ h, fun q' h1 h2 => by omega⟩
      | none =>
        rw [hm, Option.none_or] at h
        obtain ⟨q, h1, h2, h3, h4⟩ := ih _ _ h
        refine ⟨q, by omega, h2, h3, fun q' hq1 hq2 => ?_⟩
        by_cases hq : q' = pos
        · subst hq; exact hm
        · exact h4 q' (by omega) hq2

/-- with enough fuel to reach `n`, the search fails only if `f` has no answer anywhere in `[pos, n]` -/
theorem firstFrom_none {α : Type} {f : Nat → Option α} {n : Nat} {loop : Nat → Nat → Option α}
    (hsucc : ∀ fuel pos, loop (fuel + 1) pos = if pos > n then none else (f pos).or (loop fuel (pos + 1))) :
    ∀ fuel pos, loop fuel pos = none → n + 1 - pos ≤ fuel → ∀ q, pos ≤ q → q ≤ n → f q = none := by
  intro fuel
  induction fuel with
  | zero => intro pos _ hf q h1 h2; omega
  | succ fuel ih =>
    intro pos h hf q h1 h2
    rw [hsucc] at h
    split at h
    · omega
    · cases hm : f pos with
      | some r' => rw [hm, Option.some_or] at h; cases h
      | none =>
        rw [hm, Option.none_or] at h
        by_cases hq : q = pos
        · subst hq; exact hm
        · exact ih _ h (by omega) q (by omega) h2

theorem searchFrom_succ (x : RxCtx) (r : Rx) (fuel pos : Nat) :
    r.searchFrom x (fuel + 1) pos = if pos > x.n then none else (r.matchAt x pos).or (r.searchFrom x fuel (pos + 1)) := by
  rw [Rx.searchFrom]
  cases r.matchAt x pos <;> rfl

theorem searchFrom_sound (x : RxCtx) (r : Rx) (fuel pos : Nat) (mt : RxMatch)
    (h : r.searchFrom x fuel pos = some mt) :
    pos ≤ mt.start ∧ mt.start ≤ x.n ∧ r.matchAt x mt.start = some mt ∧
    ∀ q, pos ≤ q → q < mt.start → r.matchAt x q = none := by
  obtain ⟨q, h1, h2, h3, h4⟩ :=
    firstFrom_some (fun _ => rfl) (searchFrom_succ x r) fuel pos mt h
  rw [(matchAt_sound x r q mt h3).1]
  exact ⟨h1, h2, h3, h4⟩

/-- `pattern.search`: the returned span lies in `[pos, endpos]`, is admitted by `Spec`, and no earlier start
position in `[pos, start)` has a match (leftmost). -/
theorem search_sound (x : RxCtx) (r : Rx) (pos : Nat) (mt : RxMatch) (h : r.search x pos = some mt) :
    pos ≤ mt.start ∧ mt.start ≤ mt.stop ∧ mt.stop ≤ x.n ∧ Spec x r mt.start [] mt.stop mt.caps ∧
    ∀ q, pos ≤ q → q < mt.start → r.matchAt x q = none := by
  unfold Rx.search at h
  obtain ⟨h1, h2, h3, h4⟩ := searchFrom_sound x r _ _ _ h
  have hs := (matchAt_sound x r _ mt h3).2
  have hb := spec_bounds x r _ _ _ _ hs h2
  exact ⟨h1, hb.1, hb.2, hs, h4⟩

/-- `search` returns `none` only if no start position in `[pos, endpos]` has a match. -/
theorem search_none (x : RxCtx) (r : Rx) (pos : Nat) (h : r.search x pos = none) :
    ∀ q, pos ≤ q → q ≤ x.n → r.matchAt x q = none := by
  unfold Rx.search at h
  exact firstFrom_none (searchFrom_succ x r) _ pos h (by omega)

end Mistune
