/-
How the block pass of the CONCRETE model (`Mistune.Model.Blk`) treats the shared `env`.

Only three handlers of the dispatcher `Blk.parseMethod` write `env` (`parse_ref_link`, and the plugin rules
`parse_ref_footnote`, `parse_ref_abbr`); every other handler leaves it alone or threads it through child states
(`parse_block_quote`, the spoiler plugin's `parse_block_spoiler`, `parse_list`, `parse_def_list` continue with
`child.env`; `block_math` and speedup's `paragraph` only append tokens).  Hence every reflexive and
transitive relation `R` on `env` values that the three writers respect holds between the initial `env` and the
final `env` of the whole block pass: `parseMethod_rel`, `parse_rel`, `blockParse_rel`.

`Sat P e` is partial correctness for `Except PyErr`: "if `e` returns `a` then `P a`"; the same predicate is
`Mistune.Sat` in `C05GrammarBase` and `Holds` in `C12Refine`, and `Good` (`C01Progress`) is its total cousin.
The handlers are walked with the invariant "`env` is unchanged" (`_env`) or "related by `R`" (`_rel`); the same
walk carries progress in `C01Progress…` (`_good`) and the token grammar in `C05GrammarBlock`, `C05GrammarList` (`_ok`).
-/
import Mistune.Model.BlockDispatch
namespace Mistune
namespace Model
namespace Blk

/-- partial correctness: if the computation returns a value, the value satisfies `P` -/
def Sat {α : Type} (P : α → Prop) (e : Except PyErr α) : Prop := ∀ a, e = .ok a → P a

theorem Sat.bind {α β : Type} {Q : α → Prop} {P : β → Prop} {e : Except PyErr α} {f : α → Except PyErr β}
    (h1 : Sat Q e) (h2 : ∀ a, Q a → Sat P (f a)) : Sat P (e >>= f) := by
  cases e with
  | ok a => exact h2 a (h1 a rfl)
  | error err => intro b hb; cases hb

theorem Sat.ok {α : Type} {P : α → Prop} {a : α} (h : P a) : Sat P (.ok a : Except PyErr α) := by
  intro b hb; cases hb; exact h

theorem Sat.pure {α : Type} {P : α → Prop} {a : α} (h : P a) : Sat P (pure a : Except PyErr α) := Sat.ok h

theorem Sat.err {α : Type} {P : α → Prop} {e : PyErr} : Sat P (.error e : Except PyErr α) := by
  intro b hb; cases hb

theorem Sat.throw {α : Type} {P : α → Prop} {e : PyErr} : Sat P (throw e : Except PyErr α) := Sat.err

/-- a step that raises: nothing is returned -/
theorem Sat.throw_bind {α β : Type} {P : β → Prop} {e : PyErr} {f : α → Except PyErr β} :
    Sat P ((MonadExcept.throw e : Except PyErr α) >>= f) := by
  intro b hb; cases hb

theorem Sat.true {α : Type} (e : Except PyErr α) : Sat (fun _ => True) e := fun _ _ => trivial

theorem Sat.mono {α : Type} {P Q : α → Prop} {e : Except PyErr α} (h : Sat P e) (hpq : ∀ a, P a → Q a) : Sat Q e :=
  fun a ha => hpq a (h a ha)

theorem Sat.ite {α : Type} {P : α → Prop} {c : Prop} [Decidable c] {a b : Except PyErr α}
    (ha : Sat P a) (hb : Sat P b) : Sat P (if c then a else b) := by
  split
  · exact ha
  · exact hb

/-- a step whose result does not matter for `P` -/
theorem Sat.bind_all {α β : Type} {P : β → Prop} {e : Except PyErr α} {f : α → Except PyErr β}
    (h : ∀ a, Sat P (f a)) : Sat P (e >>= f) := Sat.bind (Sat.true e) (fun a _ => h a)

/-- a relation on `env` values that is reflexive, transitive and respected by the three handlers that write `env` -/
structure EnvRel (cfg : MdCfg) (R : Json → Json → Prop) : Prop where
  refl : ∀ e, R e e
  trans : ∀ {a b c}, R a b → R b c → R a c
  refLink : ∀ mt st r st', parseRefLink cfg mt st = .ok (r, st') → R st.env st'.env
  refFootnote : ∀ mt st r st', parseRefFootnote cfg mt st = .ok (r, st') → R st.env st'.env
  refAbbr : ∀ mt st r st', parseRefAbbr cfg mt st = .ok (r, st') → R st.env st'.env

/-- the contract of a parse method with respect to `R` -/
def PMRel (R : Json → Json → Prop) (pm : ParseMethod) : Prop :=
  ∀ name mt st, Sat (fun res => R st.env res.2.env) (pm name mt st)

/-! ### state helpers keep `env`

The proofs below follow the code of a handler: `Sat.bind` / `Sat.bind_all` at a `←`, `Sat.ite` at an `if`, `cases` at a
`match`; a branch that returns ends in `Sat.pure` / `Sat.ok`. -/

namespace BlockState
@[simp] theorem appendToken_env (st : BlockState) (t : Json) : (st.appendToken t).env = st.env := rfl
@[simp] theorem setLastToken_env (st : BlockState) (t : Json) : (st.setLastToken t).env = st.env := rfl
@[simp] theorem prependToken_env (st : BlockState) (t : Json) : (st.prependToken t).env = st.env := by
  unfold prependToken; split <;> rfl
@[simp] theorem process_env (st : BlockState) (s : Str) : (st.process s).env = st.env := rfl
@[simp] theorem childState_env (st : BlockState) (s : Str) : (st.childState s).env = st.env := rfl

theorem addParagraph_env (st : BlockState) (text : Str) :
    Sat (fun st' => st'.env = st.env) (st.addParagraph text) := by
  unfold addParagraph
  refine Sat.bind_all (fun o => ?_)
  cases o with
  | none => exact Sat.pure rfl
  | some last => exact Sat.bind_all (fun l => Sat.pure rfl)

theorem appendParagraph_env (cfg : MdCfg) (st : BlockState) :
    Sat (fun res => res.2.env = st.env) (st.appendParagraph cfg) := by
  unfold appendParagraph
  refine Sat.bind_all (fun o => ?_)
  cases o with
  | none => exact Sat.pure rfl
  | some last => exact Sat.bind_all (fun pos => Sat.bind_all (fun l => Sat.pure rfl))
end BlockState

/-! ### handlers that do not touch `env` -/

theorem parseIndentCode_env (cfg : MdCfg) (mt : RxMatch) (st : BlockState) :
    Sat (fun res => res.2.env = st.env) (parseIndentCode cfg mt st) := by
  unfold parseIndentCode
  refine Sat.bind (BlockState.appendParagraph_env cfg st) ?_
  rintro ⟨endPos, st1⟩ h
  exact Sat.ite (Sat.pure h) (Sat.pure h)

theorem parseFencedCode_env (cfg : MdCfg) (mt : RxMatch) (st : BlockState) :
    Sat (fun res => res.2.env = st.env) (parseFencedCode cfg mt st) := by
  unfold parseFencedCode
  extract_lets spaces marker info info' jp
  have hjp : ∀ c, Sat (fun res => res.2.env = st.env) (jp c) :=
    fun c => Sat.ite (Sat.pure rfl) (Sat.pure rfl)
  clear_value jp marker
  cases marker with
  | nil => exact Sat.bind_all hjp
  | cons c _ => exact Sat.bind_all hjp

theorem parseHtmlToEnd_env (cfg : MdCfg) (st : BlockState) (endMarker : Str) (startPos : Nat) :
    Sat (fun res => res.2.env = st.env) (parseHtmlToEnd cfg st endMarker startPos) := by
  unfold parseHtmlToEnd
  cases Py.findFrom st.src endMarker startPos with
  | none => exact Sat.pure rfl
  | some markerPos => exact Sat.bind_all (fun e => Sat.pure rfl)

theorem parseHtmlToNewline_env (st : BlockState) (newline : Rx) :
    Sat (fun res => res.2.env = st.env) (parseHtmlToNewline st newline) := by
  unfold parseHtmlToNewline
  cases Py.search newline st.x st.cursor <;> exact Sat.ok rfl

theorem parseTable_env (cfg : MdCfg) (mt : RxMatch) (st : BlockState) :
    Sat (fun res => res.2.env = st.env) (parseTable cfg mt st) := by
  unfold parseTable
  extract_lets pos
  split
  · exact Sat.ok rfl
  · split <;> exact Sat.ok rfl

/-- `speedup.parse_paragraph` -/
theorem parseParagraph_env (mt : RxMatch) (st : BlockState) :
    Sat (fun res => res.2.env = st.env) (parseParagraph mt st) := by
  unfold parseParagraph
  exact Sat.bind (BlockState.addParagraph_env st _) (fun st1 h1 => Sat.pure h1)

theorem parseNptable_env (cfg : MdCfg) (mt : RxMatch) (st : BlockState) :
    Sat (fun res => res.2.env = st.env) (parseNptable cfg mt st) := by
  unfold parseNptable
  split
  · exact Sat.ok rfl
  · split <;> exact Sat.ok rfl

theorem parseRawHtml_env (cfg : MdCfg) (mt : RxMatch) (st : BlockState) :
    Sat (fun res => res.2.env = st.env) (parseRawHtml cfg mt st) := by
  unfold parseRawHtml
  extract_lets blankLine marker closeTag openTag startPos isTruthy jp
  -- rules 2 to 5
  refine Sat.ite (parseHtmlToEnd_env _ _ _ _) ?_
  refine Sat.ite (parseHtmlToEnd_env _ _ _ _) ?_
  refine Sat.ite (parseHtmlToEnd_env _ _ _ _) ?_
  refine Sat.ite (parseHtmlToEnd_env _ _ _ _) ?_
  -- rule 7, after `append_paragraph`
  have hjp : ∀ u, Sat (fun res => res.2.env = st.env) (jp u) := by
    intro u
    refine Sat.bind (BlockState.appendParagraph_env cfg st) ?_
    rintro ⟨endPos, st1⟩ h
    refine Sat.ite (Sat.pure h) (Sat.bind_all (fun e => Sat.ite ?_ (Sat.pure h)))
    exact (parseHtmlToNewline_env _ _).mono (fun a ha => ha.trans h)
  clear_value jp closeTag openTag
  -- rules 6 and 1
  cases closeTag with
  | some ct => exact Sat.ite (parseHtmlToNewline_env _ _) (hjp _)
  | none =>
    cases openTag with
    | some ot => exact Sat.ite (parseHtmlToEnd_env _ _ _ _) (Sat.ite (parseHtmlToNewline_env _ _) (hjp _))
    | none => exact hjp _

/-! ### handlers parameterised by the parse method -/

section rel
variable {cfg : MdCfg} {R : Json → Json → Prop} (hR : EnvRel cfg R)
include hR

theorem Sat.relOfEnv {st : BlockState} {e : PMRes}
    (h : Sat (fun res => res.2.env = st.env) e) : Sat (fun res => R st.env res.2.env) e :=
  h.mono (fun a ha => by rw [ha]; exact hR.refl _)

variable {pm : ParseMethod} (hpm : PMRel R pm)
include hpm

theorem parseSetexHeading_rel (mt : RxMatch) (st : BlockState) :
    Sat (fun res => R st.env res.2.env) (parseSetexHeading cfg pm mt st) := by
  unfold parseSetexHeading
  refine Sat.bind_all (fun o => ?_)
  cases o with
  | some last => exact Sat.pure (hR.refl _)
  | none =>
    refine Sat.bind_all (fun sc => ?_)
    cases scMatch st.x sc st.cursor with
    | none => exact Sat.pure (hR.refl _)
    | some nm => exact Sat.ite (Sat.pure (hR.refl _)) (hpm _ _ _)

theorem parseLoop_rel (sc : List (String × Rx)) :
    ∀ (fuel : Nat) (st : BlockState), Sat (fun st' => R st.env st'.env) (parseLoop cfg pm sc fuel st) := by
  intro fuel
  induction fuel with
  | zero =>
    intro st
    unfold parseLoop
    exact Sat.ite Sat.err (Sat.ok (hR.refl _))
  | succ fuel ih =>
    intro st
    unfold parseLoop
    refine Sat.ite ?_ (Sat.ok (hR.refl _))
    split
    · exact Sat.ok (hR.refl _)
    · extract_lets endPos jpLoop jp
      have hloop : ∀ st3 : BlockState, R st.env st3.env → Sat (fun st' => R st.env st'.env) (jpLoop st3) :=
        fun st3 h3 => (ih st3).mono (fun a ha => hR.trans h3 ha)
      clear_value jpLoop
      -- from the handler on: `st1` is `st` with, possibly, the paragraph before the match added
      have hjp : ∀ st1 : BlockState, st1.env = st.env → Sat (fun st' => R st.env st'.env) (jp st1) := by
        intro st1 h1
        unfold jp
        refine Sat.bind (hpm _ _ _) ?_
        rintro ⟨endPos2, st2⟩ h2
        rw [h1] at h2
        refine Sat.ite (hloop _ h2) (Sat.bind_all (fun e => ?_))
        exact Sat.bind (BlockState.addParagraph_env _ _) (fun a ha => hloop _ (ha ▸ h2))
      clear_value jp
      refine Sat.ite ?_ (hjp _ rfl)
      exact Sat.bind (BlockState.addParagraph_env _ _) (fun a ha => hjp _ ha)

theorem parse_rel (st : BlockState) (rules : Option (List String)) :
    Sat (fun st' => R st.env st'.env) (parse cfg pm st rules) := by
  unfold parse
  refine Sat.bind_all (fun sc => ?_)
  refine Sat.bind (parseLoop_rel hR hpm sc _ st) (fun st1 h1 => ?_)
  refine Sat.ite ?_ (Sat.pure h1)
  exact Sat.bind (BlockState.addParagraph_env _ _) (fun a ha => Sat.pure (ha ▸ h1))

theorem extractQuoteLoop_rel (breakSc : List (String × Rx)) :
    ∀ (fuel : Nat) (text : Str) (pbl : Bool) (endPos : Option Nat) (st : BlockState),
      Sat (fun res => R st.env res.2.2.env) (extractQuoteLoop cfg pm breakSc fuel text pbl endPos st) := by
  intro fuel
  induction fuel with
  | zero =>
    intro text pbl endPos st
    unfold extractQuoteLoop
    exact Sat.ite Sat.err (Sat.ok (hR.refl _))
  | succ fuel ih =>
    intro text pbl endPos st
    unfold extractQuoteLoop
    refine Sat.ite ?_ (Sat.ok (hR.refl _))
    cases Py.matchAt (cfg.rx "mistune.block_parser._STRICT_BLOCK_QUOTE") st.x st.cursor with
    | some m3 => exact ih _ _ _ _
    | none =>
      refine Sat.ite (Sat.ok (hR.refl _)) ?_
      extract_lets jp
      -- after the break rule: a lazy continuation line
      have hjp : ∀ x : Option Nat × BlockState, R st.env x.2.env →
          Sat (fun res => R st.env res.2.2.env) (jp x) := by
        rintro ⟨e1, st1⟩ h1
        refine Sat.ite (Sat.pure h1) (Sat.bind_all (fun pos => ?_))
        exact (ih _ _ _ _).mono (fun a ha => hR.trans h1 ha)
      clear_value jp
      cases scMatch st.x breakSc st.cursor with
      | some nm => exact Sat.bind (hpm _ _ _) hjp
      | none => exact hjp _ (hR.refl _)

theorem extractBlockQuote_rel (mt : RxMatch) (st : BlockState) :
    Sat (fun res => R st.env res.2.2.env) (extractBlockQuote cfg pm mt st) := by
  unfold extractBlockQuote
  extract_lets text1 text2 text3
  refine Sat.bind_all (fun sc => ?_)
  extract_lets requireMarker
  refine Sat.ite ?_ ?_
  · split <;> exact Sat.pure (hR.refl _)
  · refine Sat.bind_all (fun bsc => ?_)
    refine Sat.bind (extractQuoteLoop_rel hR hpm bsc _ _ _ _ _) ?_
    rintro ⟨t, e, st2⟩ h2
    exact Sat.pure h2

theorem parseBlockQuote_rel (mt : RxMatch) (st : BlockState) :
    Sat (fun res => R st.env res.2.env) (parseBlockQuote cfg pm mt st) := by
  unfold parseBlockQuote
  refine Sat.bind (extractBlockQuote_rel hR hpm mt st) ?_
  rintro ⟨t, e, st1⟩ h1
  refine Sat.bind (parse_rel hR hpm _ _) (fun child hc => ?_)
  have hc' : R st.env child.env := hR.trans h1 hc
  exact Sat.ite (Sat.pure hc') (Sat.pure hc')

/-- `spoiler.parse_block_spoiler` (the rebound `block_quote` handler): threads `child.env` like `parse_block_quote` -/
theorem parseBlockSpoiler_rel (mt : RxMatch) (st : BlockState) :
    Sat (fun res => R st.env res.2.env) (parseBlockSpoiler cfg pm mt st) := by
  unfold parseBlockSpoiler
  refine Sat.bind (extractBlockQuote_rel hR hpm mt st) ?_
  rintro ⟨t, e, st1⟩ h1
  refine Sat.bind (parse_rel hR hpm _ _) (fun child hc => ?_)
  have hc' : R st.env child.env := hR.trans h1 hc
  exact Sat.ite (Sat.pure hc') (Sat.pure hc')

theorem listItemLoop_rel (sc : List (String × Rx)) (text continueSpace : Str) :
    ∀ (fuel pos : Nat) (src : Str) (pbl : Bool) (token : Json) (st : BlockState),
      Sat (fun res => R st.env res.2.2.2.env)
        (listItemLoop cfg pm sc text continueSpace fuel pos src pbl token st) := by
  intro fuel
  induction fuel with
  | zero =>
    intro pos src pbl token st
    unfold listItemLoop
    exact Sat.ite Sat.err (Sat.ok (hR.refl _))
  | succ fuel ih =>
    intro pos src pbl token st
    unfold listItemLoop
    refine Sat.ite (Sat.bind_all (fun pos1 => ?_)) (Sat.ok (hR.refl _))
    -- a blank line, a continuation line: the loop goes on with the cursor moved
    refine Sat.ite (ih _ _ _ _ _) ?_
    refine Sat.ite (Sat.ite (Sat.pure (hR.refl _)) (ih _ _ _ _ _)) ?_
    extract_lets jp
    have hjp : ∀ x : Option (Option ItemGroups × Json) × BlockState, R st.env x.2.env →
        Sat (fun res => R st.env res.2.2.2.env) (jp x) := by
      rintro ⟨stop, st1⟩ h1
      cases stop with
      | some gt => exact Sat.pure h1
      | none => exact Sat.ite (Sat.pure h1) ((ih _ _ _ _ _).mono (fun a ha => hR.trans h1 ha))
    clear_value jp
    -- the break rules: only the call of `pm` may change `env`
    cases scMatch st.x sc st.cursor with
    | none => exact hjp _ (hR.refl _)
    | some nm =>
      refine Sat.ite (hjp _ (hR.refl _)) (Sat.ite (hjp _ (hR.refl _)) ?_)
      refine Sat.bind (hpm _ _ _) ?_
      rintro ⟨e2, st2⟩ h2
      exact Sat.ite (hjp _ h2) (hjp _ h2)

theorem parseListItem_rel (bullet : Char) (groups : ItemGroups) (token : Json)
    (st : BlockState) (rules : List String) :
    Sat (fun res => R st.env res.2.2.env) (parseListItem cfg pm bullet groups token st rules) := by
  unfold parseListItem
  obtain ⟨spaces, marker, text⟩ := groups
  refine Sat.bind (listItemLoop_rel hR hpm _ _ _ _ _ _ _ _ _) (fun x h1 => ?_)
  refine Sat.bind (parse_rel hR hpm _ _) (fun child hc => ?_)
  have hc' : R st.env child.env := hR.trans h1 hc
  extract_lets st2 jp
  have hjp : ∀ tk, Sat (fun res => R st.env res.2.2.env) (jp tk) :=
    fun tk => Sat.bind_all (fun children => Sat.pure hc')
  clear_value jp
  exact Sat.bind_all (fun l1 => Sat.bind_all (fun l2 => Sat.ite (hjp _) (hjp _)))

theorem listItemsLoop_rel (bullet : Char) (rules : List String) :
    ∀ (fuel : Nat) (groups : Option ItemGroups) (token : Json) (st : BlockState),
      Sat (fun res => R st.env res.2.env) (listItemsLoop cfg pm bullet rules fuel groups token st) := by
  intro fuel
  induction fuel with
  | zero =>
    intro groups token st
    cases groups with
    | none => unfold listItemsLoop; exact Sat.ok (hR.refl _)
    | some g => unfold listItemsLoop; exact Sat.err
  | succ fuel ih =>
    intro groups token st
    cases groups with
    | none => unfold listItemsLoop; exact Sat.ok (hR.refl _)
    | some g =>
      unfold listItemsLoop
      refine Sat.bind (parseListItem_rel hR hpm _ _ _ _ _) ?_
      rintro ⟨g1, tk1, st1⟩ h1
      exact (ih _ _ _).mono (fun a ha => hR.trans h1 ha)

theorem parseList_rel (mt : RxMatch) (st : BlockState) :
    Sat (fun res => R st.env res.2.env) (parseList cfg pm mt st) := by
  unfold parseList
  extract_lets text jp1
  -- after the paragraph test of an empty first item: `st1` is `st` up to tokens and cursor
  have hjp1 : ∀ x : Option Nat × BlockState, R st.env x.2.env → Sat (fun res => R st.env res.2.env) (jp1 x) := by
    rintro ⟨early, st1⟩ h1
    unfold jp1
    refine Sat.ite (Sat.pure h1) ?_
    extract_lets marker ordered depth attrs rules jp2
    have hjp2 : ∀ last, Sat (fun res => R st.env res.2.env) (jp2 last) := by
      intro last
      unfold jp2
      extract_lets bullet jp3 jp5
      -- the items (`listItemsLoop`), then the token
      have hjp3 : ∀ x : Option Nat × Json × BlockState, R st.env x.2.2.env →
          Sat (fun res => R st.env res.2.env) (jp3 x) := by
        rintro ⟨early3, attrs3, st3⟩ h3
        unfold jp3
        refine Sat.ite (Sat.pure h3) ?_
        refine Sat.bind (listItemsLoop_rel hR hpm _ _ _ _ _ _) ?_
        rintro ⟨tk5, st5⟩ h5
        have h5' : R st.env st5.env := hR.trans h3 h5
        refine Sat.bind_all (fun tk7 => Sat.ite (Sat.bind_all (fun l => ?_)) (Sat.pure h5'))
        cases l <;> exact Sat.bind_all (fun i => Sat.pure h5')
      clear_value jp3
      -- an ordered list that does not start at 1 goes through `append_paragraph`
      have hjp5 : ∀ start, Sat (fun res => R st.env res.2.env) (jp5 start) := by
        intro start
        unfold jp5
        refine Sat.ite ?_ (hjp3 _ h1)
        refine Sat.bind (BlockState.appendParagraph_env cfg st1) ?_
        rintro ⟨e6, st6⟩ (h6 : st6.env = st1.env)
        have h6' : R st.env st6.env := h6 ▸ h1
        exact Sat.ite (hjp3 _ h6') (hjp3 _ h6')
      clear_value jp5
      refine Sat.ite ?_ (hjp3 _ h1)
      cases Py.intOfStr marker.dropLast <;> exact Sat.bind_all hjp5
    clear_value jp2
    cases marker.getLast? <;> exact Sat.bind_all hjp2
  clear_value jp1
  refine Sat.ite ?_ (hjp1 _ (hR.refl _))
  exact Sat.bind (BlockState.appendParagraph_env cfg st) (fun x hx => hjp1 x (hx ▸ hR.refl _))

theorem defProcessText_rel (text : Str) (loose : Bool) (parent : BlockState) :
    Sat (fun res => R parent.env res.2.env) (defProcessText cfg pm text loose parent) := by
  unfold defProcessText
  refine Sat.bind (parse_rel hR hpm _ _) (fun child1 (hc : R parent.env child1.env) => ?_)
  split
  · exact Sat.ite (Sat.bind_all (fun ty => Sat.ite (Sat.pure hc) (Sat.pure hc))) (Sat.pure hc)
  · exact Sat.pure hc

theorem defItemLoop_rel (x : RxCtx) :
    ∀ (fuel start : Nat) (pbl : Bool) (acc : List Json) (st : BlockState),
      Sat (fun res => R st.env res.2.env) (defItemLoop cfg pm x fuel start pbl acc st) := by
  intro fuel
  induction fuel with
  | zero =>
    intro start pbl acc st
    unfold defItemLoop
    exact Sat.err
  | succ fuel ih =>
    intro start pbl acc st
    unfold defItemLoop
    split
    · refine Sat.bind (defProcessText_rel hR hpm _ _ _) ?_
      rintro ⟨ch, st1⟩ h1
      exact Sat.pure h1
    · refine Sat.bind (defProcessText_rel hR hpm _ _ _) ?_
      rintro ⟨ch, st1⟩ h1
      exact (ih _ _ _ _).mono (fun a ha => hR.trans h1 ha)

theorem parseDefItem_rel (mt : RxMatch) (st : BlockState) :
    Sat (fun res => R st.env res.2.env) (parseDefItem cfg pm mt st) := by
  unfold parseDefItem
  extract_lets head heads src x endPos
  split
  · exact Sat.throw
  · exact defItemLoop_rel hR hpm _ _ _ _ _ _

theorem defListLoop_rel :
    ∀ (fuel pos : Nat) (children : List Json) (st : BlockState),
      Sat (fun res => R st.env res.2.2.env) (defListLoop cfg pm fuel pos children st) := by
  intro fuel
  induction fuel with
  | zero =>
    intro pos children st
    unfold defListLoop
    exact Sat.err
  | succ fuel ih =>
    intro pos children st
    unfold defListLoop
    split
    · exact Sat.ok (hR.refl _)
    · refine Sat.bind (parseDefItem_rel hR hpm _ _) ?_
      rintro ⟨more, st1⟩ h1
      have hrest : ∀ p c, Sat (fun res => R st.env res.2.2.env) (defListLoop cfg pm fuel p c st1) :=
        fun p c => (ih p c st1).mono (fun a ha => hR.trans h1 ha)
      exact Sat.ite (Sat.bind_all (fun _ => hrest _ _)) (hrest _ _)

theorem parseDefList_rel (mt : RxMatch) (st : BlockState) :
    Sat (fun res => R st.env res.2.env) (parseDefList cfg pm mt st) := by
  unfold parseDefList
  refine Sat.bind (parseDefItem_rel hR hpm _ _) ?_
  rintro ⟨ch, st1⟩ h1
  refine Sat.bind (defListLoop_rel hR hpm _ _ _ _) ?_
  rintro ⟨pos, ch2, st2⟩ h2
  exact Sat.pure (hR.trans h1 h2)

/-! directives (`Mistune.Model.Directives`): `env` changes only through the children parsed by `parse_tokens` -/

theorem parseTokens_rel (syn : DirSyntax) (text : Str) (st : BlockState) :
    Sat (fun res => R st.env res.2) (parseTokens cfg pm syn text st) := by
  unfold parseTokens
  exact Sat.bind (parse_rel hR hpm _ _) (fun child hc => Sat.pure hc)

theorem figureContent_rel (d : DirMatch) (st : BlockState) :
    Sat (fun res => R st.env res.2) (figureContent cfg pm d st) := by
  unfold figureContent
  refine Sat.ite (Sat.pure (hR.refl _)) ?_
  refine Sat.bind (parseTokens_rel hR hpm _ _ _) ?_
  rintro ⟨tokens, env⟩ h1
  cases tokens with
  | nil => exact Sat.pure h1
  | cons caption rest => exact Sat.bind_all (fun ty => Sat.ite (Sat.pure h1) (Sat.pure h1))

theorem dirTokens_rel (d : DirMatch) (st : BlockState) :
    Sat (fun res => R st.env res.2) (dirTokens cfg pm d st) := by
  unfold dirTokens
  split
  · unfold admonitionParse
    refine Sat.bind (parseTokens_rel hR hpm _ _ _) ?_
    rintro ⟨toks, env⟩ h1
    exact Sat.pure h1
  · exact Sat.ok (hR.refl _)
  · unfold figureParse
    refine Sat.bind (figureContent_rel hR hpm _ _) ?_
    rintro ⟨content, env⟩ h1
    exact Sat.pure h1
  · unfold includeParse
    split
    · exact Sat.ite Sat.err (Sat.ok (hR.refl _))
    · exact Sat.ok (hR.refl _)
  · unfold tocParse
    dsimp only
    split <;> exact Sat.ok (hR.refl _)
  · exact Sat.err
  · exact Sat.ok (hR.refl _)

theorem dirParseMethod_rel (d : DirMatch) (st : BlockState) :
    Sat (fun st' => R st.env st'.env) (dirParseMethod cfg pm d st) := by
  unfold dirParseMethod
  refine Sat.bind (dirTokens_rel hR hpm d st) ?_
  rintro ⟨toks, env⟩ h1
  exact Sat.pure h1

theorem parseRstDirective_rel (mt : RxMatch) (st : BlockState) :
    Sat (fun res => R st.env res.2.env) (parseRstDirective cfg pm mt st) := by
  -- `rw`, not `unfold`: comparing the two forms makes Lean evaluate the closed term `dirRx .rst`, a table look-up
  rw [parseRstDirective]
  cases Py.matchAt (dirRx .rst) st.x st.cursor with
  | none => exact Sat.ok (hR.refl _)
  | some m2 => exact Sat.bind (dirParseMethod_rel hR hpm _ st) (fun st' h1 => Sat.pure h1)

theorem processDirective_rel (marker : Str) (start : Nat) (st : BlockState) :
    Sat (fun res => R st.env res.2.env) (processDirective cfg pm marker start st) := by
  unfold processDirective
  extract_lets cursorStart jp
  have hjp : ∀ c, Sat (fun res => R st.env res.2.env) (jp c) := by
    intro c
    unfold jp
    split
    extract_lets tx
    cases Py.matchAt (dirRx .fenced) tx 0 with
    | none => exact Sat.pure (hR.refl _)
    | some m => exact Sat.bind (dirParseMethod_rel hR hpm _ st) (fun st' h1 => Sat.pure h1)
  clear_value jp
  cases marker <;> exact Sat.bind_all hjp

theorem parseFencedCodeDir_rel (mt : RxMatch) (st : BlockState) :
    Sat (fun res => R st.env res.2.env) (parseFencedCodeDir cfg pm mt st) := by
  unfold parseFencedCodeDir
  have hcode := Sat.relOfEnv hR (parseFencedCode_env cfg mt st)
  exact Sat.ite hcode (Sat.ite hcode (processDirective_rel hR hpm _ _ _))

end rel

/-! ### the dispatcher and the whole block pass -/

theorem parseMethod_rel (cfg : MdCfg) (R : Json → Json → Prop) (hR : EnvRel cfg R) :
    ∀ fuel, PMRel R (parseMethod cfg fuel) := by
  intro fuel
  induction fuel with
  | zero => intro name mt st; unfold parseMethod; exact Sat.err
  | succ fuel ih =>
    intro name mt st
    unfold parseMethod
    extract_lets pm
    -- an arm that returns at once with the `env` of `st` (`blank_line`, `atx_heading`, `thematic_break`, `block_math`)
    -- is `Sat.ok (hR.refl _)`
    split
    · exact Sat.ok (hR.refl _)                           -- "blank_line"
    · exact Sat.ok (hR.refl _)                           -- "atx_heading"
    · exact parseSetexHeading_rel hR ih _ _              -- "setex_heading"
    · exact Sat.ite (parseFencedCodeDir_rel hR ih _ _) (Sat.relOfEnv hR (parseFencedCode_env _ _ _))  -- "fenced_code"
    · exact Sat.relOfEnv hR (parseIndentCode_env _ _ _)  -- "indent_code"
    · exact Sat.ok (hR.refl _)                           -- "thematic_break"
    · exact fun a ha => hR.refLink _ _ _ _ ha            -- "ref_link"
    · exact Sat.ite (parseBlockSpoiler_rel hR ih _ _) (parseBlockQuote_rel hR ih _ _)  -- "block_quote"
    · exact parseList_rel hR ih _ _                      -- "list"
    · exact Sat.relOfEnv hR (parseRawHtml_env _ _ _)     -- "block_html"
    · exact Sat.relOfEnv hR (parseRawHtml_env _ _ _)     -- "raw_html"
    -- a plugin's rule: the handler if the plugin registered it, `KeyError` otherwise
    · exact Sat.ite (Sat.relOfEnv hR (parseTable_env _ _ _)) Sat.err        -- "table"
    · exact Sat.ite (Sat.relOfEnv hR (parseNptable_env _ _ _)) Sat.err      -- "nptable"
    · exact Sat.ite (fun a ha => hR.refFootnote _ _ _ _ ha) Sat.err         -- "ref_footnote"
    · exact Sat.ite (parseDefList_rel hR ih _ _) Sat.err                    -- "def_list"
    · exact Sat.ite (fun a ha => hR.refAbbr _ _ _ _ ha) Sat.err             -- "ref_abbr"
    · exact Sat.ite (Sat.ok (hR.refl _)) Sat.err                            -- "block_math"
    · exact Sat.ite (Sat.relOfEnv hR (parseParagraph_env _ _)) Sat.err      -- "paragraph"
    · exact Sat.ite (parseRstDirective_rel hR ih _ _) Sat.err               -- "rst_directive"
    · exact Sat.ite (processDirective_rel hR ih _ _ _) Sat.err              -- "fenced_directive"
    · exact Sat.err                                      -- any other name

theorem blockParse_rel (cfg : MdCfg) (R : Json → Json → Prop) (hR : EnvRel cfg R) (src : Str) (toks : List Json)
    (env : Json) (h : Model.blockParse cfg src = .ok (toks, env)) : R (.obj [("ref_links", .obj [])]) env := by
  have hp : Sat (fun res => R (BlockState.root src).env res.2) (Blk.blockParse cfg src) :=
    Sat.bind (parse_rel hR (parseMethod_rel cfg R hR (nestFuel cfg src)) (BlockState.root src) none)
      (fun st1 h1 => Sat.pure h1)
  exact hp _ h

end Blk
end Model
end Mistune
