/-
How the inline pass of the CONCRETE model (`Mistune.Model.Inl`, `Mistune.Model.Hooks.iterRenderEnv`) treats the
shared `env`: only `parse_inline_footnote` writes it; every other inline handler leaves it alone or threads it
through child states / speculative calls (`Rec.renderIn`, `precedenceScan`); this includes the plugin rules of
`Mistune.Model.InlinePlugins` (`strikethrough`, `mark`, `insert`, `superscript`, `subscript`, `inline_spoiler` render
children through `renderChildren`; `url_link`, `text` go through `processTextC`; `inline_math`, `ruby` only append
tokens — `_parse_ruby_link` READS `env["ref_links"]`).  Hence every reflexive and transitive
relation `R` on `env` values that `parseInlineFootnote` respects holds between the `env` before and after
`inlineParseEnv`, `iterRenderEnv`, `renderState`.  Same walk over the handlers of `Inl.parseMethod` as
`C10InlineFrame` (`_x`: the subject is unchanged) and `C01ProgressInline` (`_good`: progress), here with the
invariant on `env` (`_env`: unchanged, `_rel`: related by `R`), in the `Sat` of `EnvRel`.
-/
import Mistune.Model.Hooks
import MistuneProofs.EnvRel
namespace Mistune
namespace Model
namespace Inl
open Blk (Sat)

/-- a relation on `env` values that is reflexive, transitive and respected by the one inline handler that writes `env` -/
structure InlEnvRel (cfg : MdCfg) (R : Json → Json → Prop) : Prop where
  refl : ∀ e, R e e
  trans : ∀ {a b c}, R a b → R b c → R a c
  footnote : ∀ m st r st', parseInlineFootnote cfg m st = .ok (r, st') → R st.env st'.env

/-- the contract of the recursive entry points with respect to `R` -/
structure RecRel (R : Json → Json → Prop) (Rc : Rec) : Prop where
  renderSt : ∀ st, Sat (fun st' => R st.env st'.env) (Rc.renderSt st)
  call : ∀ name m st, Sat (fun res => R st.env res.2.env) (Rc.call name m st)

/-! ### state helpers keep `env` -/

namespace InlineState
@[simp] theorem appendToken_env (st : InlineState) (t : Json) : (st.appendToken t).env = st.env := rfl
@[simp] theorem setSrc_env (st : InlineState) (s : Str) : (st.setSrc s).env = st.env := rfl
@[simp] theorem setSrcOf_env (st o : InlineState) : (st.setSrcOf o).env = st.env := rfl
@[simp] theorem copy_env (st : InlineState) : st.copy.env = st.env := rfl
end InlineState

@[simp] theorem processText_env (text : Str) (st : InlineState) : (processText text st).env = st.env := rfl

/-! `process_text` (the method of `InlineParser`, or the function of the plugin `abbr`) changes nothing but the token
list: a property `P` of states that does not look at the tokens is kept; `env` is one such -/

theorem abbrLoop_tokens (ref : Json) (keys : List Str) {P : InlineState → Prop}
    (hP : ∀ (s : InlineState) (toks : Array Json), P s → P { s with tokens := toks }) :
    ∀ (fuel : Nat) (rest : Str) (atZero : Bool) (st : InlineState), P st →
      Sat P (abbrLoop ref keys fuel rest atZero st) := by
  intro fuel
  induction fuel with
  | zero => intro rest atZero st _; unfold abbrLoop; exact Sat.err
  | succ fuel ih =>
    intro rest atZero st h
    unfold abbrLoop
    extract_lets finish
    have hfin : P finish := by
      show P (if _ then _ else _)
      split
      · exact hP _ _ h
      · split
        · exact hP _ _ h
        · exact h
    clear_value finish
    split
    · exact Sat.ok hfin
    · split
      · exact Sat.ok hfin
      · extract_lets st1
        have h1 : P st1 := by
          show P (if _ then _ else _)
          split
          · exact hP _ _ h
          · exact h
        clear_value st1
        split
        · exact Sat.err
        · split
          · exact Sat.err
          · extract_lets st2
            exact ih _ _ _ (hP _ _ h1)

theorem abbrProcessText_tokens (text : Str) (st : InlineState) {P : InlineState → Prop}
    (hP : ∀ (s : InlineState) (toks : Array Json), P s → P { s with tokens := toks }) (h : P st) :
    Sat P (abbrProcessText text st) := by
  unfold abbrProcessText
  extract_lets ref
  split
  · exact Sat.ok (hP _ _ h)
  · split
    rename_i text1 st1 heq
    have h1 : P st1 := by
      split at heq
      · split at heq
        · cases heq; exact hP _ _ h
        · cases heq; exact h
      · cases heq; exact h
    exact abbrLoop_tokens _ _ hP _ _ _ _ h1

theorem processTextC_tokens (cfg : MdCfg) (text : Str) (st : InlineState) {P : InlineState → Prop}
    (hP : ∀ (s : InlineState) (toks : Array Json), P s → P { s with tokens := toks }) (h : P st) :
    Sat P (processTextC cfg text st) := by
  unfold processTextC
  exact Sat.ite (abbrProcessText_tokens _ _ hP h) (Sat.ok (hP _ _ h))

theorem processTextC_env (cfg : MdCfg) (text : Str) (st : InlineState) :
    Sat (fun st' => st'.env = st.env) (processTextC cfg text st) :=
  processTextC_tokens cfg text st (fun _ _ h => h) rfl

theorem addAutoLink_env (cfg : MdCfg) (url text : Str) (st : InlineState) :
    Sat (fun st' => st'.env = st.env) (addAutoLink cfg url text st) := by
  unfold addAutoLink
  exact Sat.bind_all (fun u => Sat.pure rfl)

/-! ### handlers that do not touch `env` -/

theorem parseCodespan_env (m : RxMatch) (st : InlineState) :
    Sat (fun res => res.2.env = st.env) (parseCodespan m st) := by
  unfold parseCodespan
  extract_lets marker pos
  split <;> exact Sat.ok rfl

theorem parseInlineHtml_env (m : RxMatch) (st : InlineState) :
    Sat (fun res => res.2.env = st.env) (parseInlineHtml m st) := by
  unfold parseInlineHtml
  extract_lets endPos html st1 st2
  refine Sat.ok ?_
  show st2.env = st.env
  show (if _ then _ else _ : InlineState).env = _
  split
  · rfl
  · split <;> rfl

theorem parseAutoLink_env (cfg : MdCfg) (m : RxMatch) (st : InlineState) :
    Sat (fun res => res.2.env = st.env) (parseAutoLink cfg m st) := by
  unfold parseAutoLink
  exact Sat.ite (Sat.bind (processTextC_env _ _ _) (fun a ha => Sat.pure ha))
    (Sat.bind (addAutoLink_env _ _ _ _) (fun a ha => Sat.pure ha))

theorem parseAutoEmail_env (cfg : MdCfg) (m : RxMatch) (st : InlineState) :
    Sat (fun res => res.2.env = st.env) (parseAutoEmail cfg m st) := by
  unfold parseAutoEmail
  exact Sat.ite (Sat.bind (processTextC_env _ _ _) (fun a ha => Sat.pure ha))
    (Sat.bind (addAutoLink_env _ _ _ _) (fun a ha => Sat.pure ha))

/-! ### plugin handlers that do not touch `env` (`Mistune.Model.InlinePlugins`) -/

theorem listFoldl_appendToken_env (l : List Json) (st : InlineState) :
    (l.foldl (fun s t => s.appendToken t) st).env = st.env := by
  induction l generalizing st with
  | nil => rfl
  | cons x xs ih => rw [List.foldl_cons, ih]; rfl

theorem foldl_appendToken_env (l : Array Json) (st : InlineState) :
    (l.foldl (fun s t => s.appendToken t) st).env = st.env := by
  rw [← Array.foldl_toList]
  exact listFoldl_appendToken_env _ _

/-- `url.parse_url_link` -/
theorem parseUrlLink_env (cfg : MdCfg) (m : RxMatch) (st : InlineState) :
    Sat (fun res => res.2.env = st.env) (parseUrlLink cfg m st) := by
  unfold parseUrlLink
  exact Sat.ite (Sat.bind (processTextC_env _ _ _) (fun a ha => Sat.pure ha)) (Sat.bind_all (fun u => Sat.pure rfl))

/-- `speedup.parse_text` -/
theorem parseText_env (cfg : MdCfg) (m : RxMatch) (st : InlineState) :
    Sat (fun res => res.2.env = st.env) (parseText cfg m st) := by
  unfold parseText
  exact Sat.bind (processTextC_env _ _ _) (fun a ha => Sat.pure ha)

/-- the `while True` loop of `ruby.parse_ruby` -/
theorem rubyLoop_env (cfg : MdCfg) : ∀ (fuel : Nat) (m : RxMatch) (st : InlineState),
    Sat (fun res => res.2.2.env = st.env) (rubyLoop cfg fuel m st) := by
  intro fuel
  induction fuel with
  | zero => intro m st; unfold rubyLoop; exact Sat.err
  | succ fuel ih =>
    intro m st
    unfold rubyLoop
    refine Sat.bind_all (fun tokens => ?_)
    extract_lets endPos
    cases (rubyRe cfg).matchAt st.x endPos with
    | none => exact Sat.pure rfl
    | some next => exact (ih _ _).mono (fun a ha => ha.trans (listFoldl_appendToken_env _ _))

/-- `ruby._parse_ruby_link` (READS `env["ref_links"]`, writes nothing) -/
theorem parseRubyLink_env (cfg : MdCfg) (st : InlineState) (pos : Nat) (tokens : List Json) :
    Sat (fun res => res.2.env = st.env) (parseRubyLink cfg st pos tokens) := by
  unfold parseRubyLink
  refine Sat.bind_all (fun c => Sat.ite ?_ (Sat.ite ?_ (Sat.pure rfl)))
  · -- `[text](url)`
    refine Sat.bind_all (fun o => ?_)
    cases o with
    | none => exact Sat.pure rfl
    | some al => exact Sat.ite (Sat.pure rfl) (Sat.pure rfl)
  · -- `[text][label]`: the table `env["ref_links"]` is looked up, nothing is stored
    cases parseLinkLabel cfg st.x (pos + 1) with
    | none => exact Sat.pure rfl
    | some ll =>
      refine Sat.ite ?_ (Sat.pure rfl)
      extract_lets key env?
      clear_value env?
      cases env? with
      | none => exact Sat.pure (listFoldl_appendToken_env _ _)
      | some env =>
        refine Sat.ite ?_ (Sat.pure (listFoldl_appendToken_env _ _))
        cases env.get? "url" <;> exact Sat.bind_all (fun u => Sat.pure rfl)

/-- `ruby.parse_ruby` -/
theorem parseRuby_env (cfg : MdCfg) (m : RxMatch) (st : InlineState) :
    Sat (fun res => res.2.env = st.env) (parseRuby cfg m st) := by
  unfold parseRuby
  refine Sat.bind (rubyLoop_env cfg _ m st) ?_
  rintro ⟨tokens, endPos, st1⟩ (h1 : st1.env = st.env)
  dsimp -zeta only      -- reduce the match on the triple, keep the `let`s of the `do` block for `extract_lets`
  extract_lets jp
  have hjp : ∀ x : Option Nat × InlineState, x.2.env = st.env → Sat (fun res => res.2.env = st.env) (jp x) := by
    rintro ⟨linkPos, st2⟩ h2
    exact Sat.ite (Sat.pure h2) (Sat.pure ((listFoldl_appendToken_env _ _).trans h2))
  clear_value jp
  refine Sat.ite ?_ (hjp _ h1)
  exact Sat.bind ((parseRubyLink_env cfg st1 endPos tokens).mono (fun a ha => ha.trans h1)) hjp

/-! ### handlers parameterised by the recursive entry points -/

section rel
variable {cfg : MdCfg} {R : Json → Json → Prop} (hR : InlEnvRel cfg R)
include hR

theorem Sat.relOfEnvI {st : InlineState} {e : HRes}
    (h : Sat (fun res => res.2.env = st.env) e) : Sat (fun res => R st.env res.2.env) e :=
  h.mono (fun a ha => by rw [ha]; exact hR.refl _)

variable {Rc : Rec} (hRc : RecRel R Rc)
include hRc

omit hR in
theorem renderIn_rel (child st : InlineState) (hc : child.env = st.env) :
    Sat (fun res => R st.env res.2.env) (Rc.renderIn child st) := by
  unfold Rec.renderIn
  refine Sat.bind (hRc.renderSt child) (fun c h => ?_)
  refine Sat.pure ?_
  show R st.env c.env
  rw [← hc]; exact h

/-! #### plugin handlers that render children (`Mistune.Model.InlinePlugins`): `renderChildren` is `Rec.renderIn` -/

/-- `formatting._parse_to_end` -/
theorem parseToEnd_rel (tokType : String) (endPattern : Rx) (m : RxMatch)
    (st : InlineState) : Sat (fun res => R st.env res.2.env) (parseToEnd Rc tokType endPattern m st) := by
  unfold parseToEnd
  extract_lets pos
  cases endPattern.search st.x pos with
  | none => exact Sat.pure (hR.refl _)
  | some m1 =>
    refine Sat.bind (renderIn_rel hRc _ st rfl) ?_
    rintro ⟨children, st1⟩ h1
    exact Sat.pure h1

omit hR in
/-- `formatting._parse_script` (`superscript`, `subscript`) -/
theorem parseScript_rel (tokType : String) (m : RxMatch) (st : InlineState) :
    Sat (fun res => R st.env res.2.env) (parseScript Rc tokType m st) := by
  unfold parseScript
  extract_lets text newState
  refine Sat.bind (renderIn_rel hRc _ st rfl) ?_
  rintro ⟨children, st1⟩ h1
  exact Sat.pure h1

omit hR in
/-- `spoiler.parse_inline_spoiler` -/
theorem parseInlineSpoiler_rel (m : RxMatch) (st : InlineState) :
    Sat (fun res => R st.env res.2.env) (parseInlineSpoiler cfg Rc m st) := by
  unfold parseInlineSpoiler
  extract_lets text newState
  refine Sat.bind (renderIn_rel hRc _ st rfl) ?_
  rintro ⟨children, st1⟩ h1
  exact Sat.pure h1

theorem precedenceScan_rel (m : RxMatch) (st : InlineState) (endPos : Nat)
    (rules : List String) :
    Sat (fun res => R st.env res.2.env) (precedenceScan cfg Rc m st endPos rules) := by
  unfold precedenceScan
  extract_lets markPos
  refine Sat.bind_all (fun sc => ?_)
  cases scan { st.x with n := min endPos st.x.n } sc markPos with
  | none => exact Sat.pure (hR.refl _)
  | some gm =>
    refine Sat.bind_all (fun sc2 => ?_)
    cases scanAt st.x sc2 gm.2.start with
    | none => exact Sat.pure (hR.refl _)
    | some gm2 =>
      -- the speculative call runs on a copy that shares `env`; its `env` is kept whatever the outcome
      refine Sat.bind (hRc.call _ _ _) ?_
      rintro ⟨m2Pos, ns⟩ (h : R st.env ns.env)
      cases m2Pos with
      | none => exact Sat.pure h
      | some p =>
        refine Sat.ite (Sat.pure h) (Sat.pure ?_)
        show R st.env (InlineState.env (Array.foldl _ _ _))
        rw [foldl_appendToken_env]; exact h

omit hR in
theorem parseLinkToken_rel (isImage : Bool) (text : Str) (attrs : Json)
    (st : InlineState) :
    Sat (fun res => R st.env res.2.env) (parseLinkToken Rc isImage text attrs st) := by
  unfold parseLinkToken
  -- image or link: the children are rendered in a copy of `st`
  refine Sat.ite ?_ ?_ <;>
  · refine Sat.bind (renderIn_rel hRc _ st rfl) ?_
    rintro ⟨ch, st1⟩ h
    exact Sat.pure h

theorem parseLinkRef_rel (isImage : Bool) (text : Str) (label : Option Str)
    (endPos : Nat) (st : InlineState) :
    Sat (fun res => R st.env res.2.env) (parseLinkRef Rc isImage text label endPos st) := by
  unfold parseLinkRef
  cases label with
  | none => exact Sat.ok (hR.refl _)
  | some label =>
    cases st.env.get? "ref_links" with
    | none => exact Sat.ok (hR.refl _)
    | some refLinks =>
      refine Sat.ite (Sat.ok (hR.refl _)) ?_
      extract_lets key
      cases refLinks.get? (String.ofList key) with
      | none => exact Sat.ok (hR.refl _)
      | some env =>
        refine Sat.ite (Sat.ok (hR.refl _)) ?_
        extract_lets title jp
        have hjp : ∀ url, Sat (fun res => R st.env res.2.env) (jp url) := by
          intro url
          unfold jp
          refine Sat.bind (parseLinkToken_rel hRc _ _ _ _) ?_
          rintro ⟨token, st1⟩ h
          exact Sat.pure h
        clear_value jp
        cases env.get? "url" <;> exact Sat.bind_all hjp

theorem parseLink_rel (m : RxMatch) (st : InlineState) :
    Sat (fun res => R st.env res.2.env) (parseLink cfg Rc m st) := by
  unfold parseLink
  extract_lets pos marker lab label jp
  have hjp : ∀ c0, Sat (fun res => R st.env res.2.env) (jp c0) := by
    intro c0
    unfold jp
    clear jp
    extract_lets isImage jp2
    -- `te`: the link text and where it ends
    have hjp2 : ∀ te, Sat (fun res => R st.env res.2.env) (jp2 te) := by
      intro te
      unfold jp2
      cases te with
      | none => exact Sat.pure (hR.refl _)
      | some te =>
        refine Sat.ite (Sat.pure (hR.refl _)) ?_
        refine Sat.bind (precedenceScan_rel hR hRc _ _ _ _) ?_
        rintro ⟨precPos, st1⟩ (h1 : R st.env st1.env)
        -- every form that is not `[text](url)` ends in the reference form, on the state after the scan
        have href : ∀ t l e, Sat (fun res => R st.env res.2.env) (parseLinkRef Rc isImage t l e st1) :=
          fun t l e => (parseLinkRef_rel hR hRc _ t l e st1).mono (fun a ha => hR.trans h1 ha)
        refine Sat.ite (Sat.pure h1) (Sat.ite (Sat.ite ?_ (Sat.ite ?_ (href _ _ _))) (href _ _ _))
        · refine Sat.bind_all (fun o => ?_)
          cases o with
          | none => exact href _ _ _
          | some ap =>
            refine Sat.ite ?_ (href _ _ _)
            refine Sat.bind (parseLinkToken_rel hRc _ _ _ _) ?_
            rintro ⟨token, st2⟩ h2
            exact Sat.pure (hR.trans h1 h2)
        · cases parseLinkLabel cfg st1.x (te.2 + 1) with
          | none => exact href _ _ _
          | some lp => exact Sat.ite (href _ _ _) (href _ _ _)
    clear_value jp2 label lab
    refine Sat.ite (Sat.pure (hR.refl _)) (Sat.ite (Sat.pure (hR.refl _)) ?_)
    cases lab <;> exact Sat.bind_all hjp2
  clear_value jp marker
  cases marker <;> exact Sat.bind_all hjp

theorem parseEmphasis_rel (m : RxMatch) (st : InlineState) :
    Sat (fun res => R st.env res.2.env) (parseEmphasis cfg Rc m st) := by
  unfold parseEmphasis
  extract_lets pos marker mlen jp
  refine Sat.ite (Sat.pure (hR.refl _)) (Sat.ite (Sat.pure (hR.refl _)) ?_)
  have hjp : ∀ endRe, Sat (fun res => R st.env res.2.env) (jp endRe) := by
    intro endRe
    unfold jp
    cases endRe.search st.x pos with
    | none => exact Sat.pure (hR.refl _)
    | some m1 =>
      refine Sat.bind (precedenceScan_rel hR hRc _ _ _ _) ?_
      rintro ⟨precPos, st1⟩ (h1 : R st.env st1.env)
      -- `*`, `**`, `***`: the children are rendered in a copy of the state after the scan
      refine Sat.ite (Sat.pure h1) (Sat.ite ?_ (Sat.ite ?_ ?_)) <;>
      · refine Sat.bind (renderIn_rel hRc _ st1 rfl) ?_
        rintro ⟨ch, st2⟩ h2
        exact Sat.pure (hR.trans h1 h2)
  clear_value jp
  cases cfg.named.lookup ("mistune.inline_parser.EMPHASIS_END_RE[" ++ String.ofList marker ++ "]") <;>
    exact Sat.bind_all hjp

theorem parseMethod_rel (name : String) (m : RxMatch) (st : InlineState) :
    Sat (fun res => R st.env res.2.env) (parseMethod cfg Rc name m st) := by
  unfold parseMethod
  split
  · exact Sat.err
  -- an arm that returns at once with the `env` of `st` (`escape`, `linebreak`, `softbreak`, `inline_math`) is
  -- `Sat.ok (hR.refl _)`
  split
  · exact Sat.ok (hR.refl _)                           -- "escape"
  · exact Sat.relOfEnvI hR (parseCodespan_env _ _)     -- "codespan"
  · exact parseEmphasis_rel hR hRc _ _                 -- "emphasis"
  · exact parseLink_rel hR hRc _ _                     -- "link"
  · exact Sat.relOfEnvI hR (parseAutoLink_env _ _ _)   -- "auto_link"
  · exact Sat.relOfEnvI hR (parseAutoEmail_env _ _ _)  -- "auto_email"
  · exact Sat.relOfEnvI hR (parseInlineHtml_env _ _)   -- "inline_html"
  · exact Sat.ok (hR.refl _)                           -- "linebreak"
  · exact Sat.ok (hR.refl _)                           -- "softbreak"
  · exact fun a ha => hR.footnote _ _ _ _ ha           -- "footnote"
  · exact parseToEnd_rel hR hRc _ _ _ _                -- "strikethrough"
  · exact parseToEnd_rel hR hRc _ _ _ _                -- "mark"
  · exact parseToEnd_rel hR hRc _ _ _ _                -- "insert"
  · exact parseScript_rel hRc _ _ _                    -- "superscript"
  · exact parseScript_rel hRc _ _ _                    -- "subscript"
  · exact Sat.relOfEnvI hR (parseUrlLink_env _ _ _)    -- "url_link"
  · exact Sat.ok (hR.refl _)                           -- "inline_math"
  · exact Sat.relOfEnvI hR (parseText_env _ _ _)       -- "text"
  · exact Sat.relOfEnvI hR (parseRuby_env _ _ _)       -- "ruby"
  · exact parseInlineSpoiler_rel hRc _ _               -- "inline_spoiler"
  · exact Sat.err                                      -- any other name

theorem parseLoop_rel (sc : List (String × Rx)) :
    ∀ (fuel pos : Nat) (st : InlineState),
      Sat (fun res => R st.env res.2.env) (parseLoop cfg Rc sc fuel pos st) := by
  intro fuel
  induction fuel with
  | zero => intro pos st; unfold parseLoop; exact Sat.err
  | succ fuel ih =>
    intro pos st
    unfold parseLoop
    refine Sat.ite ?_ (Sat.ok (hR.refl _))
    split
    · exact Sat.ok (hR.refl _)
    · extract_lets endPos pos1 jp
      -- from the handler on: `st1` is `st` with, possibly, the text before the match added
      have hjp : ∀ st1 : InlineState, st1.env = st.env → Sat (fun res => R st.env res.2.env) (jp st1) := by
        intro st1 h1
        unfold jp
        refine Sat.bind (parseMethod_rel hR hRc _ _ _) ?_
        rintro ⟨newPos, st2⟩ h2
        have h2' : R st.env st2.env := by rw [← h1]; exact h2
        -- the loop goes on, at once or after one character of text
        have hnext : ∀ p, Sat (fun res => R st.env res.2.env) (parseLoop cfg Rc sc fuel p st2) :=
          fun p => (ih p st2).mono (fun a ha => hR.trans h2' ha)
        have hstep : ∀ p t, Sat (fun res => R st.env res.2.env)
            (processTextC cfg t st2 >>= fun s => parseLoop cfg Rc sc fuel p s) := by
          intro p t
          refine Sat.bind (processTextC_env _ _ _) (fun s hs => ?_)
          exact (ih _ _).mono (fun a ha => hR.trans (by rw [hs]; exact h2') ha)
        cases newPos with
        | none => exact hstep _ _
        | some p => exact Sat.ite (Sat.ite Sat.err (hnext _)) (hstep _ _)
      clear_value jp
      refine Sat.ite ?_ (hjp _ rfl)
      exact Sat.bind (processTextC_env _ _ _) (fun a ha => hjp a ha)

theorem parse_rel (st : InlineState) :
    Sat (fun st' => R st.env st'.env) (parse cfg Rc st) := by
  unfold parse
  refine Sat.bind_all (fun sc => ?_)
  refine Sat.bind (parseLoop_rel hR hRc sc _ _ st) ?_
  rintro ⟨pos, st1⟩ (h1 : R st.env st1.env)
  have htext : ∀ t, Sat (fun st' => R st.env st'.env) (processTextC cfg t st1) :=
    fun t => (processTextC_env _ _ _).mono (fun a ha => by rw [ha]; exact h1)
  exact Sat.ite (htext _) (Sat.ite (htext _) (Sat.pure h1))

theorem renderSt_rel (st : InlineState) :
    Sat (fun st' => R st.env st'.env) (renderSt cfg Rc st) := parse_rel hR hRc st

end rel

/-! ### the recursive entry points and the whole inline pass -/

theorem recAt_rel (cfg : MdCfg) (R : Json → Json → Prop) (hR : InlEnvRel cfg R) :
    ∀ fuel, RecRel R (recAt cfg fuel) := by
  intro fuel
  induction fuel with
  | zero => exact ⟨fun _ => Sat.err, fun _ _ _ => Sat.err⟩
  | succ fuel ih =>
    exact ⟨fun st => renderSt_rel hR ih st, fun name m st => parseMethod_rel hR ih name m st⟩

end Inl

theorem inlineParseEnv_rel (cfg : MdCfg) (R : Json → Json → Prop) (hR : Inl.InlEnvRel cfg R) (env : Json)
    (src : Str) : Blk.Sat (fun res => R env res.2) (Model.inlineParseEnv cfg env src) := by
  unfold Model.inlineParseEnv Inl.inlineParseEnv
  split
  · exact Blk.Sat.throw_bind
  · dsimp only
    refine Blk.Sat.bind (Inl.renderSt_rel hR (Inl.recAt_rel cfg R hR _) _) (fun st1 h1 => ?_)
    exact Blk.Sat.pure h1

namespace Hooks
open Blk (Sat)

theorem foldlM_rel {α : Type} {R : Json → Json → Prop} (hrefl : ∀ e, R e e)
    (htrans : ∀ {a b c}, R a b → R b c → R a c)
    (f : List Json × Json → α → Except PyErr (List Json × Json))
    (hf : ∀ acc t, Sat (fun acc' => R acc.2 acc'.2) (f acc t)) :
    ∀ (toks : List α) (acc : List Json × Json), Sat (fun res => R acc.2 res.2) (toks.foldlM f acc) := by
  intro toks
  induction toks with
  | nil => intro acc; rw [List.foldlM_nil]; exact Sat.pure (hrefl _)
  | cons t toks ih =>
    intro acc
    rw [List.foldlM_cons]
    exact Sat.bind (hf acc t) (fun a ha => (ih a).mono (fun b hb => htrans ha hb))

theorem iterRenderEnv_rel (cfg : MdCfg) (R : Json → Json → Prop) (hR : Inl.InlEnvRel cfg R) :
    ∀ (fuel : Nat) (env : Json) (toks : List Json),
      Sat (fun res => R env res.2) (iterRenderEnv cfg fuel env toks) := by
  intro fuel
  induction fuel with
  | zero => intro env toks; unfold iterRenderEnv; exact Sat.err
  | succ fuel ih =>
    intro env toks
    unfold iterRenderEnv
    refine foldlM_rel hR.refl hR.trans _ ?_ toks ([], env)
    rintro ⟨out, env1⟩ t
    dsimp only
    split
    · refine Sat.bind (ih _ _) ?_
      rintro ⟨cs, env2⟩ h2
      exact Sat.pure h2
    · split
      · refine Sat.bind (inlineParseEnv_rel cfg R hR _ _) ?_
        rintro ⟨cs, env2⟩ h2
        exact Sat.pure h2
      · exact Sat.pure (hR.refl _)

theorem renderState_rel (cfg : MdCfg) (R : Json → Json → Prop) (hR : Inl.InlEnvRel cfg R) (toks : List Json)
    (env : Json) : Sat (fun res => R env res.2) (renderState cfg toks env) :=
  iterRenderEnv_rel cfg R hR _ _ _

end Hooks
end Model
end Mistune
