/-
The line vocabulary shared by the text computations of the block handlers: runs at the two ends of a text and
`strip`, `splitNl` (`str.split("\n")`) and its inverse `Py.join ['\n']`, the first line of a text, line-wise rewriting
(`subLines`, and `midSub` for a text that starts in the middle of a line), and the removal of up to `k` leading blanks
of every line (`trimLines`).
-/
import Mistune.Py
import Mistune.MdCode
namespace Mistune

/-! ### `takeWhile` / `dropWhile` and the head of a text -/

theorem takeWhile_nil_of_head {p : Char → Bool} {l : Str} (h : ∀ ch r, l = ch :: r → p ch = false) :
    l.takeWhile p = [] := by
  cases l with
  | nil => rfl
  | cons ch r => simp [h ch r rfl]

theorem dropWhile_id_of_head {p : Char → Bool} {l : Str} (h : ∀ ch r, l = ch :: r → p ch = false) :
    l.dropWhile p = l := by
  cases l with
  | nil => rfl
  | cons ch r => simp [h ch r rfl]

theorem mem_takeWhile_pos {p : Char → Bool} {l : Str} {ch : Char} (h : ch ∈ l.takeWhile p) : p ch = true := by
  induction l with
  | nil => simp at h
  | cons a r ih =>
    rw [List.takeWhile_cons] at h
    split at h
    · rcases List.mem_cons.mp h with rfl | h
      · assumption
      · exact ih h
    · simp at h

theorem head?_dropWhile_ne {α : Type} (p : α → Bool) (l : List α) (a : α) (h : (l.dropWhile p).head? = some a) :
    p a = false := by
  have := List.head?_dropWhile_not p l
  rwa [h] at this

theorem dropWhile_nil_iff {α : Type} (p : α → Bool) (l : List α) : l.dropWhile p = [] ↔ ∀ x ∈ l, p x = true := by
  induction l with
  | nil => simp
  | cons a t ih =>
    rw [List.dropWhile_cons]
    split
    · rename_i h; simp [ih, h]
    · rename_i h; simp [h]

theorem getLast?_append_ne_nil (u : Str) {v : Str} (hv : v ≠ []) : (u ++ v).getLast? = v.getLast? := by
  rw [List.getLast?_append]
  cases h : v.getLast? with
  | none => exact absurd (List.getLast?_eq_none_iff.mp h) hv
  | some x => rfl

/-! ### trailing runs -/

/-- `l` without its maximal trailing run of characters satisfying `p` -/
def rdropWhile (p : Char → Bool) (l : Str) : Str := (l.reverse.dropWhile p).reverse

/-- the maximal trailing run of characters satisfying `p` -/
def rtakeWhile (p : Char → Bool) (l : Str) : Str := (l.reverse.takeWhile p).reverse

theorem rdrop_append_rtake (p : Char → Bool) (l : Str) : rdropWhile p l ++ rtakeWhile p l = l := by
  unfold rdropWhile rtakeWhile
  rw [← List.reverse_append, List.takeWhile_append_dropWhile, List.reverse_reverse]

theorem rtake_all (p : Char → Bool) (l : Str) : ∀ ch ∈ rtakeWhile p l, p ch = true := by
  intro ch h
  unfold rtakeWhile at h
  exact mem_takeWhile_pos (List.mem_reverse.mp h)

theorem rdrop_last (p : Char → Bool) (l : Str) (ch : Char) (h : (rdropWhile p l).getLast? = some ch) :
    p ch = false := by
  unfold rdropWhile at h
  rw [List.getLast?_reverse] at h
  exact head?_dropWhile_ne p _ ch h

/-- a trailing run cannot reach back over a character outside the class -/
theorem suffix_run (p : Char → Bool) (u r v s : Str) (h : u ++ r = v ++ s) (hr : ∀ ch ∈ r, p ch = true)
    (hv : ∀ ch, v.getLast? = some ch → p ch = false) : ∃ w, u = v ++ w ∧ s = w ++ r := by
  rcases List.append_eq_append_iff.mp h with ⟨a', h1, h2⟩ | ⟨c', h1, h2⟩
  · -- `v = u ++ a'`, `r = a' ++ s`
    rcases List.eq_nil_or_concat a' with rfl | ⟨a0, x, rfl⟩
    · exact ⟨[], by simpa using h1.symm, by simpa using h2.symm⟩
    · exfalso
      have hx : p x = true := hr x (by rw [h2]; simp)
      have : v.getLast? = some x := by
        rw [h1, List.concat_eq_append, ← List.append_assoc, List.getLast?_concat]
      rw [hv x this] at hx
      cases hx
  · exact ⟨c', h1, h2⟩

/-- the decomposition "no trailing class character, then a run of class characters" is unique -/
theorem run_split_unique (p : Char → Bool) (u r v s : Str) (h : u ++ r = v ++ s) (hr : ∀ ch ∈ r, p ch = true)
    (hs : ∀ ch ∈ s, p ch = true) (hu : ∀ ch, u.getLast? = some ch → p ch = false)
    (hv : ∀ ch, v.getLast? = some ch → p ch = false) : u = v ∧ r = s := by
  obtain ⟨w, h1, h2⟩ := suffix_run p u r v s h hr hv
  obtain ⟨w', h1', h2'⟩ := suffix_run p v s u r h.symm hs hu
  have hl : w.length = 0 := by
    have e1 := congrArg List.length h1
    have e2 := congrArg List.length h1'
    rw [List.length_append] at e1 e2
    omega
  have hw : w = [] := List.eq_nil_of_length_eq_zero hl
  subst hw
  simp only [List.append_nil, List.nil_append] at h1 h2
  exact ⟨h1, h2.symm⟩

theorem rdrop_of_split (p : Char → Bool) (v s : Str) (hs : ∀ ch ∈ s, p ch = true)
    (hv : ∀ ch, v.getLast? = some ch → p ch = false) : rdropWhile p (v ++ s) = v ∧ rtakeWhile p (v ++ s) = s :=
  run_split_unique p _ _ v s (rdrop_append_rtake p (v ++ s)) (rtake_all p _) hs (rdrop_last p _) hv

/-! ### `strip`

`rdropWhile p (s.dropWhile p)` is `s` without the characters satisfying `p` at its two ends: `str.strip()` for `isSpace`,
`str.strip("\n")` for `(· == '\n')`. -/

theorem strip_def (s : Str) : Py.strip s = rdropWhile isSpace (s.dropWhile isSpace) := rfl

/-- the result of `strip` does not end with a character of the class -/
theorem strip_last (p : Char → Bool) (s : Str) (ch : Char) (h : (rdropWhile p (s.dropWhile p)).getLast? = some ch) :
    p ch = false :=
  rdrop_last p _ ch h

/-- … nor start with one -/
theorem strip_head (p : Char → Bool) (s : Str) (ch : Char) (h : (rdropWhile p (s.dropWhile p)).head? = some ch) :
    p ch = false := by
  have hu : ∀ c, (s.dropWhile p).head? = some c → p c = false := fun c hc => head?_dropWhile_ne _ s c hc
  generalize s.dropWhile p = u at *
  have hpre := rdrop_append_rtake p u
  generalize rdropWhile p u = v at *
  cases v with
  | nil => simp at h
  | cons a v' =>
    simp only [List.head?_cons, Option.some.injEq] at h
    exact hu ch (by rw [← hpre, ← h]; rfl)

/-- class characters around a text that neither starts nor ends with one are what `strip` removes -/
theorem strip_pad (p : Char → Bool) (pad1 text pad2 : Str) (h1 : ∀ ch ∈ pad1, p ch = true)
    (h2 : ∀ ch ∈ pad2, p ch = true) (hh : ∀ ch, text.head? = some ch → p ch = false)
    (hl : ∀ ch, text.getLast? = some ch → p ch = false) :
    rdropWhile p ((pad1 ++ text ++ pad2).dropWhile p) = text := by
  rw [List.append_assoc, List.dropWhile_append_of_pos h1]
  cases text with
  | nil => rw [List.nil_append, (dropWhile_nil_iff p pad2).mpr h2]; rfl
  | cons a r =>
    rw [dropWhile_id_of_head (fun ch r' h => by
      simp only [List.cons_append, List.cons.injEq] at h
      exact hh ch (by rw [h.1]; rfl))]
    exact (rdrop_of_split p _ _ h2 hl).1

theorem strip_eq_self_iff (p : Char → Bool) (text : Str) : rdropWhile p (text.dropWhile p) = text ↔
    (∀ ch, text.head? = some ch → p ch = false) ∧ (∀ ch, text.getLast? = some ch → p ch = false) := by
  constructor
  · intro h
    exact ⟨fun ch hch => strip_head p text ch (by rw [h]; exact hch),
      fun ch hch => strip_last p text ch (by rw [h]; exact hch)⟩
  · intro ⟨h1, h2⟩
    have := strip_pad p [] text [] (by simp) (by simp) h1 h2
    simpa using this

/-! ### `split("\n")` and `"\n".join` -/

/-- put a character in front of the first line -/
def consHead (ch : Char) : List Str → List Str
  | l :: ls => (ch :: l) :: ls
  | [] => [[ch]]

/-- `t.split("\n")`: the lines of `t` (always at least one; a trailing newline gives a last empty line) -/
def splitNl : Str → List Str
  | [] => [[]]
  | ch :: r => if ch = '\n' then [] :: splitNl r else consHead ch (splitNl r)

theorem splitNl_ne_nil (t : Str) : splitNl t ≠ [] := by
  cases t with
  | nil => simp [splitNl]
  | cons ch r =>
    simp only [splitNl]
    split
    · simp
    · cases splitNl r <;> simp [consHead]

theorem consHead_append (ch : Char) (ls ms : List Str) (h : ls ≠ []) :
    consHead ch (ls ++ ms) = consHead ch ls ++ ms := by
  cases ls with
  | nil => exact absurd rfl h
  | cons l ls => rfl

theorem splitNl_append_nl (u v : Str) : splitNl (u ++ '\n' :: v) = splitNl u ++ splitNl v := by
  induction u with
  | nil => simp [splitNl]
  | cons ch r ih =>
    simp only [List.cons_append, splitNl]
    split
    · rw [ih]; rfl
    · rw [ih, consHead_append _ _ _ (splitNl_ne_nil r)]

theorem splitNl_no_nl (u : Str) (h : '\n' ∉ u) : splitNl u = [u] := by
  induction u with
  | nil => rfl
  | cons ch r ih =>
    have h1 : ch ≠ '\n' := fun e => h (by simp [e])
    have h2 : '\n' ∉ r := fun e => h (by simp [e])
    simp [splitNl, h1, ih h2, consHead]

theorem splitNl_line_nl (u v : Str) (h : '\n' ∉ u) : splitNl (u ++ '\n' :: v) = u :: splitNl v := by
  rw [splitNl_append_nl, splitNl_no_nl u h]; rfl

theorem join_splitNl (t : Str) : Py.join ['\n'] (splitNl t) = t := by
  induction t with
  | nil => rfl
  | cons ch r ih =>
    simp only [splitNl]
    split
    · rename_i h
      subst h
      have := splitNl_ne_nil r
      cases hs : splitNl r with
      | nil => exact absurd hs this
      | cons l ls => rw [hs] at ih; simp only [Py.join]; rw [ih]; rfl
    · cases hs : splitNl r with
      | nil => exact absurd hs (splitNl_ne_nil r)
      | cons l ls =>
        rw [hs] at ih
        cases ls with
        | nil => simp only [consHead, Py.join] at ih ⊢; rw [ih]
        | cons l2 ls2 => simp only [consHead, Py.join] at ih ⊢; rw [← ih]; simp

theorem splitNl_mem_no_nl (t : Str) : ∀ l ∈ splitNl t, '\n' ∉ l := by
  induction t with
  | nil => intro l hl; simp [splitNl] at hl; simp [hl]
  | cons ch r ih =>
    intro l hl
    simp only [splitNl] at hl
    split at hl
    · rcases List.mem_cons.mp hl with rfl | hl
      · simp
      · exact ih l hl
    · rename_i hch
      cases hs : splitNl r with
      | nil => exact absurd hs (splitNl_ne_nil r)
      | cons l' ls =>
        rw [hs] at hl ih
        simp only [consHead] at hl
        rcases List.mem_cons.mp hl with rfl | hl
        · intro e
          rcases List.mem_cons.mp e with e | e
          · exact hch e.symm
          · exact ih l' (by simp) e
        · exact ih l (by simp [hl])

theorem join_cons_cons (sep a b : Str) (r : List Str) :
    Py.join sep (a :: b :: r) = a ++ sep ++ Py.join sep (b :: r) := rfl

theorem splitNl_join (ls : List Str) (hne : ls ≠ []) (h : ∀ l ∈ ls, '\n' ∉ l) :
    splitNl (Py.join ['\n'] ls) = ls := by
  induction ls with
  | nil => exact absurd rfl hne
  | cons a r ih =>
    cases r with
    | nil => exact splitNl_no_nl a (h a (by simp))
    | cons b r =>
      rw [join_cons_cons, List.append_assoc, List.singleton_append, splitNl_line_nl a _ (h a (by simp)),
        ih (by simp) (fun l hl => h l (by simp [hl]))]

theorem join_append_singleton (sep : Str) (init : List Str) (z : Str) (h : init ≠ []) :
    Py.join sep (init ++ [z]) = Py.join sep init ++ sep ++ z := by
  induction init with
  | nil => exact absurd rfl h
  | cons a r ih =>
    cases r with
    | nil => rfl
    | cons b r =>
      rw [List.cons_append, List.cons_append, join_cons_cons, ← List.cons_append, ih (by simp), join_cons_cons]
      simp

/-- complete lines, written one after the other, are the lines joined with a final newline -/
theorem flatten_lines_eq_join (ls : List Str) (h : ls ≠ []) :
    (ls.map (· ++ ['\n'])).flatten = Py.join ['\n'] ls ++ ['\n'] := by
  induction ls with
  | nil => exact absurd rfl h
  | cons l ls ih =>
    cases ls with
    | nil => simp [Py.join]
    | cons l2 ls2 =>
      have := ih (by simp)
      simp only [List.map_cons, List.flatten_cons, Py.join] at this ⊢
      rw [this]
      simp

/-- … and split into these lines and a last, empty one -/
theorem splitNl_lines (ls : List Str) (h : ∀ l ∈ ls, '\n' ∉ l) :
    splitNl (ls.map (· ++ ['\n'])).flatten = ls ++ [[]] := by
  induction ls with
  | nil => rfl
  | cons l ls ih =>
    simp only [List.map_cons, List.flatten_cons, List.append_assoc, List.singleton_append]
    rw [splitNl_line_nl l _ (h l (by simp)), ih (fun m hm => h m (by simp [hm]))]
    rfl

/-- `lineSplit` (the `split("\n")` of `Mistune/MdCode.lean`) is `splitNl` -/
theorem lineSplit_eq_splitNl (t : Str) : lineSplit t = splitNl t := by
  induction t with
  | nil => rfl
  | cons ch r ih =>
    simp only [lineSplit, splitNl, ih]
    split
    · rfl
    · cases splitNl r <;> rfl

/-! ### the first line of a text -/

/-- the text up to (excluding) the first newline -/
def firstLine : Str → Str
  | [] => []
  | ch :: r => if ch = '\n' then [] else ch :: firstLine r

theorem firstLine_no_nl (b : Str) : '\n' ∉ firstLine b := by
  induction b with
  | nil => simp [firstLine]
  | cons ch r ih =>
    simp only [firstLine]
    split
    · simp
    · rename_i h
      intro e
      rcases List.mem_cons.mp e with e | e
      · exact h e.symm
      · exact ih e

/-- a text is its first line, followed by nothing or by a newline and the rest -/
theorem firstLine_spec (b : Str) : ∃ tl, b = firstLine b ++ tl ∧ (tl = [] ∨ ∃ v, tl = '\n' :: v) := by
  induction b with
  | nil => exact ⟨[], rfl, Or.inl rfl⟩
  | cons ch r ih =>
    simp only [firstLine]
    split
    · rename_i h
      exact ⟨ch :: r, rfl, Or.inr ⟨r, by rw [h]⟩⟩
    · obtain ⟨tl, h1, h2⟩ := ih
      exact ⟨tl, by rw [List.cons_append, ← h1], h2⟩

theorem firstLine_append (u v : Str) (hu : '\n' ∉ u) : firstLine (u ++ v) = u ++ firstLine v := by
  induction u with
  | nil => rfl
  | cons ch r ih =>
    have h1 : ch ≠ '\n' := fun e => hu (by simp [e])
    have h2 : '\n' ∉ r := fun e => hu (by simp [e])
    simp [firstLine, h1, ih h2]

theorem firstLine_cons (ch : Char) (r : Str) (h : ch ≠ '\n') : firstLine (ch :: r) = ch :: firstLine r := by
  simp [firstLine, h]

theorem firstLine_nl (r : Str) : firstLine ('\n' :: r) = [] := by simp [firstLine]

/-- the characters of the first line are the first characters of the text -/
theorem firstLine_getElem? (b : Str) (i : Nat) (ch : Char) (h : (firstLine b)[i]? = some ch) : b[i]? = some ch := by
  obtain ⟨tl, h1, _⟩ := firstLine_spec b
  have hi : i < (firstLine b).length := by
    rcases Nat.lt_or_ge i (firstLine b).length with h' | h'
    · exact h'
    · rw [List.getElem?_eq_none h'] at h; cases h
  rw [h1, List.getElem?_append_left hi, h]

/-! ### line-wise rewriting -/

/-- apply `f` to every line -/
def subLines (f : Str → Str) (t : Str) : Str := Py.join ['\n'] ((splitNl t).map f)

/-- the same, except for the first line (the text starts in the middle of a line) -/
def midSub (f : Str → Str) (t : Str) : Str :=
  match splitNl t with
  | l :: ls => Py.join ['\n'] (l :: ls.map f)
  | [] => []

theorem midSub_nil (f : Str → Str) : midSub f [] = [] := rfl

theorem midSub_nl (f : Str → Str) (r : Str) : midSub f ('\n' :: r) = '\n' :: subLines f r := by
  unfold midSub subLines
  cases hs : splitNl r with
  | nil => exact absurd hs (splitNl_ne_nil r)
  | cons l ls => simp [splitNl, hs, Py.join]

theorem midSub_cons (f : Str → Str) (ch : Char) (r : Str) (h : ch ≠ '\n') :
    midSub f (ch :: r) = ch :: midSub f r := by
  unfold midSub
  cases hs : splitNl r with
  | nil => exact absurd hs (splitNl_ne_nil r)
  | cons l ls =>
    simp only [splitNl, h, if_false, hs, consHead]
    cases ls with
    | nil => simp [Py.join]
    | cons l2 ls2 => simp [Py.join]

theorem subLines_nl (f : Str → Str) (r : Str) : subLines f ('\n' :: r) = f [] ++ '\n' :: subLines f r := by
  unfold subLines
  cases hs : splitNl r with
  | nil => exact absurd hs (splitNl_ne_nil r)
  | cons l ls => simp [splitNl, hs, Py.join]

/-- `subLines` and `midSub` differ only on the first line; `midSub` commutes with dropping a part of the first line -/
theorem subLines_midSub (f : Str → Str) (b : Str) :
    ∃ T, subLines f b = f (firstLine b) ++ T ∧
      ∀ n, n ≤ (firstLine b).length → midSub f (b.drop n) = (firstLine b).drop n ++ T := by
  obtain ⟨tl, h1, h2⟩ := firstLine_spec b
  have hl := firstLine_no_nl b
  generalize firstLine b = l at h1 hl
  subst h1
  rcases h2 with rfl | ⟨v, rfl⟩
  · refine ⟨[], ?_, ?_⟩
    · simp only [List.append_nil, subLines, splitNl_no_nl l hl]; rfl
    · intro n _
      have : '\n' ∉ l.drop n := fun e => hl (List.mem_of_mem_drop e)
      simp only [List.append_nil, midSub, splitNl_no_nl _ this]; rfl
  · refine ⟨'\n' :: subLines f v, ?_, ?_⟩
    · unfold subLines
      rw [splitNl_line_nl l v hl]
      cases hs : splitNl v with
      | nil => exact absurd hs (splitNl_ne_nil v)
      | cons l2 ls => simp [Py.join]
    · intro n hn
      have : '\n' ∉ l.drop n := fun e => hl (List.mem_of_mem_drop e)
      rw [List.drop_append_of_le_length hn]
      unfold midSub subLines
      rw [splitNl_line_nl _ v this]
      cases hs : splitNl v with
      | nil => exact absurd hs (splitNl_ne_nil v)
      | cons l2 ls => simp [Py.join]

theorem subLines_no_nl (f : Str → Str) (l : Str) (h : '\n' ∉ l) : subLines f l = f l := by
  unfold subLines
  rw [splitNl_no_nl l h]; rfl

theorem splitNl_subLines (f : Str → Str) (hf : ∀ l, '\n' ∉ l → '\n' ∉ f l) (t : Str) :
    splitNl (subLines f t) = (splitNl t).map f := by
  unfold subLines
  apply splitNl_join _ (by simpa using splitNl_ne_nil t)
  intro l hl
  obtain ⟨l0, hl0, rfl⟩ := List.mem_map.mp hl
  exact hf l0 (splitNl_mem_no_nl t l0 hl0)

theorem subLines_comp (f g : Str → Str) (hf : ∀ l, '\n' ∉ l → '\n' ∉ f l) (t : Str) :
    subLines g (subLines f t) = subLines (g ∘ f) t := by
  unfold subLines
  rw [show Py.join ['\n'] ((splitNl t).map f) = subLines f t from rfl, splitNl_subLines f hf, List.map_map]

theorem subLines_nil (f : Str → Str) : subLines f [] = f [] := rfl

theorem subLines_line_nl (f : Str → Str) (u v : Str) (h : '\n' ∉ u) :
    subLines f (u ++ '\n' :: v) = f u ++ '\n' :: subLines f v := by
  unfold subLines
  rw [splitNl_line_nl u v h]
  cases hs : splitNl v with
  | nil => exact absurd hs (splitNl_ne_nil v)
  | cons l ls => simp [Py.join]

/-- `subLines` on a text made of complete lines (the last, empty line after the final newline is `f [] = []`) -/
theorem subLines_flatten (f : Str → Str) (hf : f [] = []) (lines : List Str) (h : ∀ l ∈ lines, '\n' ∉ l) :
    subLines f (lines.map (· ++ ['\n'])).flatten = (lines.map (fun l => f l ++ ['\n'])).flatten := by
  induction lines with
  | nil => exact hf
  | cons l ls ih =>
    simp only [List.map_cons, List.flatten_cons, List.append_assoc, List.singleton_append]
    rw [subLines_line_nl f l _ (h l (by simp)), ih (fun l' hl' => h l' (by simp [hl']))]

theorem subLines_line_end (f : Str → Str) (hf : f [] = []) (l : Str) (h : '\n' ∉ l) :
    subLines f (l ++ ['\n']) = f l ++ ['\n'] := by
  rw [show l ++ ['\n'] = l ++ '\n' :: [] from rfl, subLines_line_nl f l [] h, subLines_nil, hf]

/-! ### up to `k` leading blanks -/

/-- remove `min k (number of leading blanks)` leading blanks -/
def dropUpTo : Nat → Str → Str
  | 0, l => l
  | _ + 1, [] => []
  | k + 1, ch :: r => if ch = ' ' then dropUpTo k r else ch :: r

/-- `min k (number of leading blanks)` -/
def spRun : Nat → Str → Nat
  | 0, _ => 0
  | _ + 1, [] => 0
  | k + 1, ch :: r => if ch = ' ' then spRun k r + 1 else 0

/-- strip up to `k` leading blanks from every line -/
def trimLines (k : Nat) (t : Str) : Str := Py.join ['\n'] ((splitNl t).map (dropUpTo k))

theorem spRun_eq (k : Nat) (l : Str) : spRun k l = min k (l.takeWhile (· == ' ')).length := by
  induction k generalizing l with
  | zero => simp [spRun]
  | succ k ih =>
    cases l with
    | nil => simp [spRun]
    | cons ch r =>
      by_cases h : ch = ' '
      · subst h; simp [spRun, ih]
      · simp [spRun, h]

theorem dropUpTo_eq (k : Nat) (l : Str) : dropUpTo k l = l.drop (spRun k l) := by
  induction k generalizing l with
  | zero => simp [dropUpTo, spRun]
  | succ k ih =>
    cases l with
    | nil => simp [dropUpTo, spRun]
    | cons ch r =>
      by_cases h : ch = ' '
      · subst h; simp [dropUpTo, spRun, ih]
      · simp [dropUpTo, spRun, h]

theorem dropUpTo_nil (k : Nat) : dropUpTo k [] = [] := by cases k <;> rfl

theorem dropUpTo_no_nl (k : Nat) (l : Str) (h : '\n' ∉ l) : '\n' ∉ dropUpTo k l := by
  rw [dropUpTo_eq]
  exact fun e => h (List.mem_of_mem_drop e)

/-- the blanks counted by `spRun`: a maximal run of at most `k` blanks -/
theorem spRun_spec (k : Nat) (b : Str) :
    ∃ run rest, b = run ++ rest ∧ run.length = spRun k b ∧ (∀ ch ∈ run, ch = ' ') ∧ spRun k b ≤ k ∧
      (spRun k b = k ∨ rest = [] ∨ ∃ ch r', rest = ch :: r' ∧ ch ≠ ' ') := by
  induction k generalizing b with
  | zero => exact ⟨[], b, rfl, by simp [spRun], by simp, by simp [spRun], Or.inl (by simp [spRun])⟩
  | succ k ih =>
    cases b with
    | nil => exact ⟨[], [], rfl, by simp [spRun], by simp, by simp [spRun], Or.inr (Or.inl rfl)⟩
    | cons ch r =>
      by_cases h : ch = ' '
      · subst h
        obtain ⟨run, rest, h1, h2, h3, h4, h5⟩ := ih r
        refine ⟨' ' :: run, rest, by rw [h1]; rfl, by simp [spRun, h2], ?_, by simp [spRun]; omega, ?_⟩
        · intro ch hch
          rcases List.mem_cons.mp hch with rfl | hch
          · rfl
          · exact h3 ch hch
        · rcases h5 with h5 | h5
          · left; simp [spRun, h5]
          · right; exact h5
      · exact ⟨[], ch :: r, rfl, by simp [spRun, h], by simp, by simp [spRun, h],
          Or.inr (Or.inr ⟨ch, r, rfl, h⟩)⟩

theorem spRun_firstLine (k : Nat) (b : Str) : spRun k (firstLine b) = spRun k b := by
  induction k generalizing b with
  | zero => simp [spRun]
  | succ k ih =>
    cases b with
    | nil => rfl
    | cons ch r =>
      by_cases hnl : ch = '\n'
      · subst hnl; simp [firstLine, spRun]
      · rw [firstLine_cons _ _ hnl]
        by_cases hsp : ch = ' '
        · subst hsp; simp [spRun, ih]
        · simp [spRun, hsp]

theorem spRun_le_length (k : Nat) (l : Str) : spRun k l ≤ l.length := by
  induction k generalizing l with
  | zero => simp [spRun]
  | succ k ih =>
    cases l with
    | nil => simp [spRun]
    | cons ch r =>
      simp only [spRun]
      split
      · have := ih r; simp; omega
      · simp

theorem take_spRun (k : Nat) (l : Str) : l.take (spRun k l) = List.replicate (spRun k l) ' ' := by
  induction k generalizing l with
  | zero => simp [spRun]
  | succ k ih =>
    cases l with
    | nil => simp [spRun]
    | cons ch r =>
      by_cases h : ch = ' '
      · subst h; simp [spRun, ih, List.replicate_succ]
      · simp [spRun, h]

theorem spRun_run (k : Nat) (sp rest : Str) (hsp : ∀ ch ∈ sp, ch = ' ') (hlen : sp.length ≤ k)
    (hrest : ∀ ch r, rest = ch :: r → ch ≠ ' ') : spRun k (sp ++ rest) = sp.length := by
  rw [spRun_eq, List.takeWhile_append_of_pos (fun ch hch => by simp [hsp ch hch]),
    takeWhile_nil_of_head (fun ch r h => by simpa using hrest ch r h), List.append_nil]
  omega

theorem trimLines_eq_subLines (k : Nat) (t : Str) : trimLines k t = subLines (dropUpTo k) t := rfl

theorem trimLines_zero (t : Str) : trimLines 0 t = t := by
  unfold trimLines
  rw [show (splitNl t).map (dropUpTo 0) = splitNl t from by
    rw [show dropUpTo 0 = id from rfl]; simp]
  exact join_splitNl t

theorem trimLines_nil (k : Nat) : trimLines k [] = [] := dropUpTo_nil k

/-- `trimLines` on a text made of complete lines -/
theorem trimLines_flatten (k : Nat) (lines : List Str) (h : ∀ l ∈ lines, '\n' ∉ l) :
    trimLines k (lines.map (· ++ ['\n'])).flatten = (lines.map (fun l => dropUpTo k l ++ ['\n'])).flatten :=
  subLines_flatten (dropUpTo k) (dropUpTo_nil k) lines h

end Mistune
