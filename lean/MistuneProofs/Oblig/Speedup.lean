/-
Obligations over the regenerated rule tables for C09 (speedup) and C10 (plugin triggers): the decidable conditions
under which the generic scanner theorems of `C09C10` apply to a configuration, checked by the kernel for all of
`allCfgs`.
-/
import Mistune.Generated.Regex
import Mistune.Unicode
import Mistune.RxAnalysis
namespace Mistune
open Mistune.Generated

/-- inline rules whose interplay with the text chunk is handled separately (the speedup pattern special-cases
them: hard/soft line breaks by `HARD_LINEBREAK_RE.sub`, `url_link` by the `https?:` alternative) -/
def speedupSpecial : List String := ["text", "linebreak", "softbreak", "url_link"]

/-- **C09 obligation**: in a configuration with speedup, the text rule has the expected shape, and every other
inline rule (outside the special ones) can only start with one of its stop characters. -/
def speedupOk (c : RuleCfg) : Bool :=
  match c.inline.lookup "text" with
  | none => true           -- speedup not enabled in this configuration
  | some tr =>
    match tr.speedupStops with
    | none => false
    | some stops =>
      (c.inline.filter (fun p => !speedupSpecial.contains p.1)).all (fun p =>
        match p.2.firstChars with
        | some l => l.all (fun ch => stops.contains ch)
        | none => false)

theorem allCfgs_speedupOk : allCfgs.all speedupOk = true := by decide +kernel

/-- The block-level fast path (`paragraph` rule of speedup) claims one line that starts with a character
outside white space / digits / ASCII punctuation.  Rules ordered BEFORE it are tried first at the same position
(scanner priority, `scanAt`); every rule ordered AFTER it must be unable to start with a character the
paragraph rule accepts. -/
def blockFirstOk (c : RuleCfg) : Bool :=
  match c.block.lookup "paragraph" with
  | none => true
  | some pr =>
    ((c.block.dropWhile (fun p => p.1 != "paragraph")).drop 1).all (fun p =>
      match p.2.firstChars with
      | some l => l.all (fun ch => !(pr.firstOk pyCats ch))
      | none => false)

theorem allCfgs_blockFirstOk : allCfgs.all blockFirstOk = true := by decide +kernel

/-- the block fast path claims ONE line: its regex can contain at most one newline -/
def paragraphSingleLine (c : RuleCfg) : Bool :=
  match c.block.lookup "paragraph" with
  | none => true
  | some pr => pr.maxNewlines == some 1 && pr.bolAnchored

theorem allCfgs_paragraphSingleLine : allCfgs.all paragraphSingleLine = true := by decide +kernel

/-- **C10 obligation**: every rule that a plugin adds has at least one needed character (its trigger set is
computed from the regenerated regex, never written down). -/
def pluginRulesHaveTrigger (base c : RuleCfg) : Bool :=
  let baseNames := (base.block ++ base.inline).map (·.1)
  ((c.block ++ c.inline).filter (fun p => !baseNames.contains p.1 && p.1 != "text" && p.1 != "paragraph")).all
    (fun p => !p.2.needs.isEmpty)

theorem plugins_have_triggers : allCfgs.all (pluginRulesHaveTrigger cfg_core) = true := by decide +kernel

end Mistune
