/-
Obligations over the regenerated Unicode tables (kernel-checked, `decide +kernel`; no axioms) and the
instantiation of the generic `unikey` theorems for CPython's tables.
-/
import MistuneProofs.UnicodeSound
namespace Mistune
open Mistune.Generated

theorem foldTableGood_holds : foldTableGood = true := by
  simp only [foldTableGood, ← foldTree_find]
  decide +kernel

theorem foldOk_py : FoldOk isSpace foldChar := foldOk_of_good foldTableGood_holds

/-- **C18 (unikey idempotent), CPython tables.** -/
theorem unikeyPy_idem (s : Str) : unikeyPy (unikeyPy s) = unikeyPy s :=
  unikey_idem isSpace foldChar foldOk_py s

/-- **C18 (unikey, whitespace runs), CPython tables.** -/
theorem unikeyPy_ws_run (a b sp1 sp2 : Str) (h1 : sp1 ≠ []) (h2 : sp2 ≠ [])
    (hs1 : ∀ c ∈ sp1, isSpace c = true) (hs2 : ∀ c ∈ sp2, isSpace c = true) :
    unikeyPy (a ++ sp1 ++ b) = unikeyPy (a ++ sp2 ++ b) :=
  unikey_ws_run isSpace foldChar a b sp1 sp2 h1 h2 hs1 hs2

theorem unikeyPy_ws_lead (sp b : Str) (h1 : sp ≠ []) (hs : ∀ c ∈ sp, isSpace c = true) :
    unikeyPy (sp ++ b) = unikeyPy b := unikey_ws_lead isSpace foldChar sp b h1 hs

theorem unikeyPy_ws_trail (a sp : Str) (h1 : sp ≠ []) (hs : ∀ c ∈ sp, isSpace c = true) :
    unikeyPy (a ++ sp) = unikeyPy a := unikey_ws_trail isSpace foldChar a sp h1 hs

/-- `variantGood` in the form the kernel evaluates, with `NatTree.find` for the look-ups. -/
theorem variantGood_of_find (tbl : NatTree Nat)
    (h : tbl.all (fun k v => validNat v && (foldTree.find v).getD [v] == (foldTree.find k).getD [k]) = true) :
    variantGood tbl = true := by
  simpa only [variantGood, foldPts, foldTree_find] using h

theorem lowerTree_good : variantGood lowerTree = true := variantGood_of_find _ (by decide +kernel)
theorem upperTree_good : variantGood upperTree = true := variantGood_of_find _ (by decide +kernel)
theorem titleTree_good : variantGood titleTree = true := variantGood_of_find _ (by decide +kernel)
theorem swapcaseTree_good : variantGood swapcaseTree = true := variantGood_of_find _ (by decide +kernel)
theorem casefoldTree_good : variantGood casefoldTree = true := variantGood_of_find _ (by decide +kernel)

/-- **C18 (unikey, letter case), CPython tables.** Lower-casing, upper-casing, title-casing, swap-casing or
case-folding any characters of a label (single-code-point mappings) does not change its key. -/
theorem unikeyPy_case (tbl : NatTree Nat)
    (h : tbl = lowerTree ∨ tbl = upperTree ∨ tbl = titleTree ∨ tbl = swapcaseTree ∨ tbl = casefoldTree)
    (s : Str) : unikeyPy (s.map (variantOf tbl)) = unikeyPy s := by
  have hg : variantGood tbl = true := by
    rcases h with h | h | h | h | h <;> subst h
    · exact lowerTree_good
    · exact upperTree_good
    · exact titleTree_good
    · exact swapcaseTree_good
    · exact casefoldTree_good
  have hf := variant_sound tbl hg
  exact unikey_case isSpace foldChar (variantOf tbl) (fun c => foldOk_py.isSp_congr (hf c)) hf s

end Mistune
