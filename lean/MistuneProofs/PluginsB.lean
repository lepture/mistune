/-
Block plugins (table, footnotes, task_lists, def_list, abbr) in the concrete model: small facts that tie their
handlers to the regenerated data and to the two-pass pipeline of the core.

* `fnIndentRx_generated`: the run-time regex of `parse_footnote_item` as built by the model is, for the instances the
  extractor regenerates from the Python expression (`rt:fn_indent[k]`), the regenerated term.
* `parseMethod_unregistered`: a plugin handler is bound only when the configuration registered its rule
  (otherwise `KeyError`, as `self._methods[name]` in Python).
* `parseDoc_noHooks`: for a configuration without hooks and without the inline rule `footnote` (e.g. core),
  `parseDoc` is the two-pass pipeline `blockParse` ; `iterRender` that C05 (`iterRender_shape`, `iterRender_length`)
  is about.
* `processRow_cells` / `processThead_cells` / `tableRows_cells` / `nptableRows_cells`: every row of an accepted table
  has exactly as many cells as there are alignments (= header cells).
-/
import Mistune.Model.Doc
namespace Mistune
open Model Model.Blk Generated

/-- the hand-written constructor of `re.compile(r"^ {" + str(spaces) + r",}", re.M)` agrees with the instances
regenerated from the Python expression -/
theorem fnIndentRx_generated :
    namedRx.lookup "rt:fn_indent[0]" = some (Hooks.fnIndentRx 0) ∧
    namedRx.lookup "rt:fn_indent[1]" = some (Hooks.fnIndentRx 1) ∧
    namedRx.lookup "rt:fn_indent[3]" = some (Hooks.fnIndentRx 3) := by decide +kernel

/-- a plugin rule that the configuration did not register has no handler: `self._methods[name]` raises KeyError -/
theorem parseMethod_unregistered (cfg : MdCfg) (fuel : Nat) (name : String) (mt : RxMatch) (st : BlockState)
    (hname : name ∈ ["table", "nptable", "ref_footnote", "def_list", "ref_abbr"])
    (h : registered cfg name = false) :
    parseMethod cfg (fuel + 1) name mt st = .error .keyError := by
  simp only [List.mem_cons, List.mem_nil_iff, or_false] at hname
  rcases hname with rfl | rfl | rfl | rfl | rfl <;> simp [parseMethod, h]

/-- non-vacuity: the core configuration registers none of them -/
example : ["table", "nptable", "ref_footnote", "def_list", "ref_abbr"].all
    (fun n => registered (ofRuleCfg cfg_core) n == false) = true := by decide +kernel

/-- Without hooks and without the `footnote` inline rule, `md(s)` is the block pass followed by the second pass
`iterRender` (the instance of `iterRenderG` that `iterRender_shape` / `iterRender_length` are about). -/
theorem parseDoc_noHooks (cfg : MdCfg) (s : Str)
    (h1 : cfg.beforeParseHooks = []) (h2 : cfg.beforeRenderHooks = []) (h3 : cfg.afterRenderHooks = [])
    (h4 : cfg.inlineRules.contains "footnote" = false) :
    parseDoc cfg s = (do
      let (toks, env) ← Model.blockParse cfg (norm s)
      iterRender cfg env 64 toks) := by
  unfold parseDoc
  simp only [h1, h2, h3, h4, List.isEmpty_nil, Bool.not_true, Bool.false_eq_true, ↓reduceIte, Hooks.beforeRender,
    Hooks.afterRender]
  generalize Model.blockParse cfg (norm s) = r
  cases r with
  | error e => rfl
  | ok p =>
    obtain ⟨toks, env⟩ := p
    simp only [bind, Except.bind, pure, Except.pure]
    cases iterRender cfg env 64 toks <;> rfl

/-- non-vacuity: the core configuration satisfies the hypotheses -/
example : let cfg := ofRuleCfg cfg_core
    cfg.beforeParseHooks = [] ∧ cfg.beforeRenderHooks = [] ∧ cfg.afterRenderHooks = [] ∧
    cfg.inlineRules.contains "footnote" = false := by decide +kernel

/-! ### tables: every accepted row has the width of the header -/

theorem tableCells_length (cells : List Str) (aligns : List Json) (head : Bool) (h : cells.length = aligns.length) :
    (tableCells cells aligns head).length = aligns.length := by
  simp [tableCells, List.length_zip, h]

/-- `_process_row` accepts a row only with exactly `len(aligns)` cells -/
theorem processRow_cells (cfg : MdCfg) (text : Str) (aligns : List Json) (row : Json)
    (h : processRow cfg text aligns = some row) :
    ∃ cells, row = tok "table_row" [("children", .arr cells)] ∧ cells.length = aligns.length := by
  unfold processRow at h
  simp only [bne_iff_ne, ne_eq, ite_not] at h
  split at h
  · next heq =>
    simp only [Option.some.injEq] at h
    exact ⟨_, h.symm, tableCells_length _ _ _ heq⟩
  · simp at h

/-- `_process_thead`: the header row and the alignment list have the same length -/
theorem processThead_cells (cfg : MdCfg) (header align : Str) (thead : Json) (aligns : List Json)
    (h : processThead cfg header align = some (thead, aligns)) :
    ∃ cells, thead = tok "table_head" [("children", .arr cells)] ∧ cells.length = aligns.length := by
  unfold processThead at h
  simp only [bne_iff_ne, ne_eq, ite_not] at h
  split at h
  · next heq =>
    simp only [Option.some.injEq, Prod.mk.injEq] at h
    obtain ⟨h1, h2⟩ := h
    refine ⟨_, h1.symm, ?_⟩
    rw [← h2]
    exact tableCells_length _ _ _ (by simp [heq])
  · simp at h

/-- one round of either row loop: the row just made is put in front of the rows of the remaining lines -/
theorem forall_mem_of_map_cons {α : Type} {P : α → Prop} {o : Option (List α)} {x : α} {l : List α}
    (h : o.map (fun xs => x :: xs) = some l) (hx : P x) (ih : ∀ xs, o = some xs → ∀ y ∈ xs, P y) :
    ∀ y ∈ l, P y := by
  cases o with
  | none => simp at h
  | some xs =>
    obtain rfl : x :: xs = l := by simpa using h
    intro y hy
    rcases List.mem_cons.1 hy with rfl | hy
    · exact hx
    · exact ih xs rfl y hy

/-- the body loop of `parse_table` returns rows that all have `len(aligns)` cells -/
theorem tableRows_cells (cfg : MdCfg) (aligns : List Json) (lines : List Str) (rows : List Json)
    (h : tableRows cfg aligns lines = some rows) :
    ∀ row ∈ rows, ∃ cells, row = tok "table_row" [("children", .arr cells)] ∧ cells.length = aligns.length := by
  induction lines generalizing rows with
  | nil => simp [tableRows] at h; subst h; simp
  | cons text rest ih =>
    unfold tableRows at h
    split at h
    · simp at h
    · split at h
      · simp at h
      · next row hrow => exact forall_mem_of_map_cons h (processRow_cells cfg _ aligns _ hrow) ih

/-- the same for `parse_nptable` -/
theorem nptableRows_cells (cfg : MdCfg) (aligns : List Json) (lines : List Str) (rows : List Json)
    (h : nptableRows cfg aligns lines = some rows) :
    ∀ row ∈ rows, ∃ cells, row = tok "table_row" [("children", .arr cells)] ∧ cells.length = aligns.length := by
  induction lines generalizing rows with
  | nil => simp [nptableRows] at h; subst h; simp
  | cons text rest ih =>
    unfold nptableRows at h
    split at h
    · simp at h
    · next row hrow => exact forall_mem_of_map_cons h (processRow_cells cfg _ aligns _ hrow) ih

/-- non-vacuity (and a worked instance on the regenerated regexes): a two-column row with an escaped pipe -/
example : (processRow (ofRuleCfg cfg_only_table) "a \\| b | c".toList [.null, Json.s "left"]).isSome = true := by
  decide +kernel

end Mistune
