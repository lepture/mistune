/-
Soundness of the decidable table conditions: a Boolean over the regenerated Unicode tables implies the
hypotheses (`FoldOk`, variant maps) of the generic `unikey` theorems.
-/
import Mistune.Unicode
import MistuneProofs.C18Unikey
namespace Mistune
open Mistune.Generated

/-- `NatTree.lookup` written with the recursor and Boolean tests.  The kernel evaluates this form in about
a third of the steps it needs for the compiled structural recursion with `Decidable` tests, and the
conditions below look up every entry of every table. -/
noncomputable def NatTree.find {β : Type} (t : NatTree β) : Nat → Option β :=
  t.rec (fun _ => none) fun _ k v _ inL inR n =>
    bif Nat.blt n k then inL n else bif Nat.blt k n then inR n else some v

theorem NatTree.find_eq_lookup {β : Type} (t : NatTree β) (n : Nat) : t.find n = t.lookup n := by
  induction t with
  | leaf => rfl
  | node l k v r ihl ihr =>
    show (bif Nat.blt n k then l.find n else bif Nat.blt k n then r.find n else some v) = _
    simp only [cond_eq_ite, Nat.blt_eq, ihl, ihr, NatTree.lookup]

theorem foldTree_find (n : Nat) : foldTree.find n = foldNat n := foldTree.find_eq_lookup n

def validNat (n : Nat) : Bool := Nat.blt n 0xd800 || (Nat.blt 0xdfff n && Nat.blt n 0x110000)

theorem toNat_ofNat_valid (n : Nat) (h : validNat n = true) : (Char.ofNat n).toNat = n := by
  have hv : n.isValidChar := by
    unfold validNat at h
    simp only [Bool.or_eq_true, Bool.and_eq_true, Nat.blt_eq] at h
    exact h
  simp [Char.ofNat, hv, Char.ofNatAux, Char.toNat]

/-- all naturals of the closed ranges satisfy `p` -/
def rangesAll (p : Nat → Bool) : List (Nat × Nat) → Bool
  | [] => true
  | (a, b) :: r => (List.range' a (b + 1 - a)).all p && rangesAll p r

theorem rangesAll_sound (p : Nat → Bool) (rs : List (Nat × Nat)) (h : rangesAll p rs = true) (n : Nat)
    (hn : inRanges rs n = true) : p n = true := by
  induction rs with
  | nil => simp [inRanges] at hn
  | cons ab r ih =>
    obtain ⟨a, b⟩ := ab
    simp only [rangesAll, Bool.and_eq_true, List.all_eq_true] at h
    simp only [inRanges] at hn
    by_cases hab : (Nat.ble a n && Nat.ble n b) = true
    · simp only [Bool.and_eq_true, Nat.ble_eq] at hab
      apply h.1 n
      rw [List.mem_range'_1]; omega
    · simp only [hab, cond_false] at hn
      exact ih h.2 hn

/-- everything `FoldOk` needs, as one Boolean over the tables -/
def foldTableGood : Bool :=
  isSpaceNat 32 &&
  rangesAll (fun n => (foldNat n).isNone) spaceRanges &&
  foldTree.all (fun _ l => !l.isEmpty &&
    l.all (fun m => validNat m && !isSpaceNat m && (foldNat m).isNone))

theorem foldChar_of_none {c : Char} (h : foldNat c.toNat = none) : foldChar c = [c] := by
  rw [foldChar, h]

theorem foldOk_of_good (hg : foldTableGood = true) : FoldOk isSpace foldChar := by
  simp only [foldTableGood, Bool.and_eq_true] at hg
  obtain ⟨⟨h32, hsp⟩, htab⟩ := hg
  have hentry : ∀ n l, foldNat n = some l →
      l ≠ [] ∧ ∀ m ∈ l, validNat m = true ∧ isSpaceNat m = false ∧ foldNat m = none := by
    intro n l h
    have := NatTree.lookup_all _ _ htab n l h
    simp only [Bool.and_eq_true, List.all_eq_true, Bool.not_eq_true', Option.isNone_iff_eq_none] at this
    exact ⟨by simpa using this.1, fun m hm => ⟨(this.2 m hm).1.1, (this.2 m hm).1.2, (this.2 m hm).2⟩⟩
  -- a member of a fold is the character itself or comes from the table; either way it has no entry
  have hmem : ∀ c x, x ∈ foldChar c → (x = c ∨ isSpace x = false) ∧ foldNat x.toNat = none := by
    intro c x hx
    unfold foldChar at hx
    cases h : foldNat c.toNat with
    | none =>
      rw [h] at hx
      obtain rfl := List.mem_singleton.1 hx
      exact ⟨.inl rfl, h⟩
    | some l =>
      rw [h] at hx
      obtain ⟨m, hm, rfl⟩ := List.mem_map.1 hx
      obtain ⟨hv, hs, hn⟩ := (hentry _ l h).2 m hm
      rw [isSpace, toNat_ofNat_valid m hv]
      exact ⟨.inr hs, hn⟩
  refine ⟨h32, ?_, ?_, ?_, ?_⟩
  · intro c hc
    exact foldChar_of_none (Option.isNone_iff_eq_none.1 (rangesAll_sound _ _ hsp c.toNat hc))
  · intro c _
    unfold foldChar
    cases h : foldNat c.toNat with
    | none => simp
    | some l => simpa using (hentry _ l h).1
  · intro c hc x hx
    rcases (hmem c x hx).1 with rfl | h
    · exact hc
    · exact h
  · intro c x hx
    exact foldChar_of_none (hmem c x hx).2

/-- `c.lower().upper()` on code points -/
def foldPts (n : Nat) : List Nat := (foldNat n).getD [n]

theorem foldChar_eq_foldPts (c : Char) : foldChar c = (foldPts c.toNat).map Char.ofNat := by
  rw [foldChar, foldPts]
  cases foldNat c.toNat <;> simp

/-- a single-code-point case-variant table is identified by the fold table -/
def variantGood (tbl : NatTree Nat) : Bool :=
  tbl.all (fun k v => validNat v && foldPts v == foldPts k)

theorem variant_sound (tbl : NatTree Nat) (h : variantGood tbl = true) (c : Char) :
    foldChar (variantOf tbl c) = foldChar c := by
  unfold variantOf
  cases hl : tbl.lookup c.toNat with
  | none => rfl
  | some m =>
    have := NatTree.lookup_all _ _ h _ _ hl
    simp only [Bool.and_eq_true, beq_iff_eq] at this
    rw [foldChar_eq_foldPts, foldChar_eq_foldPts, toNat_ofNat_valid m this.1, this.2]

end Mistune
